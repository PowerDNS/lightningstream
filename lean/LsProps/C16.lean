import LsLemmas.LoopWitness
/-
  C16 (sync-loop part) — run-once: the loop ends by itself exactly at the tail of an iteration
  with an empty waiting set, and an instance leaves the waiting set only by a merge of one of its
  snapshots or by its snapshots having disappeared. For EVERY schedule. (The receiver part of C16
  is in `LsProps/C16Recv.lean`.)
-/
namespace Ls.C16
open Ls Ls.Txn Ls.SyncLoop Ls.Loop

/-- **Only-once exit, "only if".** A segment takes the loop to `exited ok` only from the tail of
    an iteration (`EndsIteration`: the `beforeInfo` segment when nothing is sent; the `sendStored`
    segment of a loop send; the `sendAfterTxn` segment of a receive-only loop send), in only-once
    mode, with the waiting set empty (before and after the segment). -/
theorem C16_run_once_only_if (c : LoopCfg) (b : Bucket) (s : St) (i : In)
    (hne : s.pc ≠ .exited .ok) (he : (go c b s i).1.pc = .exited .ok) :
    c.onlyOnce = true ∧ (go c b s i).1.waiting = [] ∧ s.waiting = [] ∧ EndsIteration c s :=
  (go_seg c b s i Gh.init).exit_ok hne he

/-- **Only-once exit, "if".** At the tail of every iteration (`afterSend`) the loop ends iff it
    is in only-once mode and the waiting set is empty; otherwise it sleeps. -/
theorem C16_run_once_if (c : LoopCfg) (s : St) :
    (afterSend c s).pc = if c.onlyOnce = true ∧ s.waiting = [] then .exited .ok else .sleep :=
  afterSend_pc c s

/-- … in terms of segments: the `beforeInfo` segment of an iteration without upload (nothing
    new in the LMDB, and no snapshot overdue: `storage_force_snapshot_interval`), in only-once
    mode with an empty waiting set, ends the loop. -/
theorem C16_run_once_exits (c : LoopCfg) (b : Bucket) (s : St) (i : In)
    (hpc : s.pc = .beforeInfo) (hno : s.env.lastTxn ≤ s.lastSynced) (hnf : s.forceArmed = false)
    (ho : c.onlyOnce = true) (hw : s.waiting = []) : (go c b s i).1.pc = .exited .ok := by
  rw [(go_pc c b s i).1, goRaw_beforeInfo hpc, if_neg (by rw [hnf]; simp; omega)]
  simp only
  rw [afterSend_pc, if_pos ⟨ho, hw⟩]

/-- … and the `sendStored` segment of a loop send likewise. -/
theorem C16_run_once_exits_after_store (c : LoopCfg) (b : Bucket) (s : St) (i : In) (t : Nat)
    (hpc : s.pc = .sendStored .loop t) (ho : c.onlyOnce = true) (hw : s.waiting = []) :
    (go c b s i).1.pc = .exited .ok := by
  rw [(go_pc c b s i).1, goRaw_sendStored hpc, sendReturned_eq]
  exact if_pos ⟨ho, hw⟩

/-- **How an instance leaves the waiting set**: by a segment in which `poll` found one of its
    snapshots and began to load it, or in which `afterLoads` ran while the receiver no longer saw
    it. The set never grows after start-up. -/
theorem C16_waiting_leaves (c : LoopCfg) (b : Bucket) (s : St) (i : In) (x : InstId)
    (hboot : s.pc ≠ .boot) :
    (x ∈ s.waiting → x ∉ (go c b s i).1.waiting →
      pollTarget b s i = some x ∨ (runsAfterLoads s i = true ∧ x ∉ s.seen)) ∧
    (x ∈ (go c b s i).1.waiting → x ∈ s.waiting) :=
  ⟨(go_seg c b s i Gh.init).waiting_leave hboot, (go_seg c b s i Gh.init).waiting_shrinks hboot⟩

/-- **Run-once, over whole schedules.** If after a schedule the loop has ended by itself, then it
    was in only-once mode, nothing is waited for, and every instance that was in the waiting set
    right after start-up (the instances in the initial listing, own included) has since had a
    load of one of its snapshots begun (`merged`) or was dropped because the receiver no longer
    saw it (`gone`) — not earlier. -/
theorem C16_run_once (c : LoopCfg) (env : Env) (b : Bucket) (evs : List Ev)
    (he : (run c env b evs).st.pc = .exited .ok) :
    c.onlyOnce = true ∧ (run c env b evs).st.waiting = [] ∧
    ∀ x ∈ (run c env b evs).gh.startSet,
      x ∈ (run c env b evs).gh.merged ∨ x ∈ (run c env b evs).gh.gone := by
  obtain ⟨h1, h2⟩ := exit_ok_run c env b evs he
  refine ⟨h1, h2, fun x hx => ?_⟩
  rcases (inv0_run c env b evs).left x hx with h | h
  · rw [h2] at h; cases h
  · exact h

/-- the waiting set right after start-up is the set of instances in the listing the start-up
    segment saw -/
theorem C16_start_set (c : LoopCfg) (b : Bucket) (s : St) (i : In) (hpc : s.pc = .boot) :
    (go c b s i).1.waiting = instancesOf b :=
  ((go_seg c b s i Gh.init).boot hpc).1

open Ls.Loop.Witness in
/-- the hypotheses are satisfiable: an only-once instance merges the one snapshot in the bucket,
    finds nothing to upload and ends by itself — after the merge (3 segments: still running),
    not earlier -/
example :
    (run { cfgS with onlyOnce := true } env0 bkt (schedOk.take 3)).st.pc = .beforeInfo ∧
    (run { cfgS with onlyOnce := true } env0 bkt (schedOk.take 1)).gh.startSet = ["b"] ∧
    (run { cfgS with onlyOnce := true } env0 bkt (schedOk.take 4)).st.pc = .exited .ok ∧
    (run { cfgS with onlyOnce := true } env0 bkt (schedOk.take 4)).gh.merged = ["b"] := by
  decide +kernel

end Ls.C16
