import LsLemmas.LoopBound
/-
  C10 (sync-loop part) — no echo uploads: merging snapshots never causes an upload; every upload
  has a local cause. For EVERY schedule (no race-freedom needed: finding D9 makes the loop upload
  less, never more). The transaction-level part of C10 is in `LsProps/C10.lean`.
  The bound: once applications have stopped writing, an instance stores at most what
  it `owed` (≤ 2), a fleet of n at most the sum (≤ 2·n); helper lemmas in `LsLemmas/LoopBound.lean`.
  The forced periodic snapshot (`storage_force_snapshot_interval`) is the one upload without a
  local cause: `C10_forced_upload`, `C10_forced_then_quiet`. All other theorems here are
  about states and schedules in which no snapshot is overdue (`Synced` says so; runs from `init`
  never arm the flag, `forceArmed_run`).
-/
namespace Ls.C10
open Ls Ls.Txn Ls.SyncLoop Ls.Loop

/-- **No echo, one segment.** If `lastSynced` has caught up with `lastTxn` (`Synced`: at `top`,
    `beforeInfo`, `sleep`: `lastTxn ≤ lastSynced`; at `loadAfterTxn txnID false`: `lastTxn ≤ txnID`;
    and no snapshot is overdue: `forceArmed = false`),
    then after one more segment — whatever the receiver hands over, whatever the snapshot contains
    and whether or not merging it changes the LMDB — it has caught up again and nothing was stored:
    a `LoadOnce` that finds no local change hands its (adjusted) transaction id to `lastSynced`. -/
theorem C10_no_echo_step (c : LoopCfg) (b : Bucket) (s : St) (i : In) (h : Synced s) :
    Synced (go c b s i).1 ∧ (go c b s i).2 = b :=
  (go_seg c b s i Gh.init).synced h

/-- **No echo, all schedules.** From a state in which `lastSynced` has caught up, for every
    continuation of any length in which no application transaction is recorded — loop segments
    with arbitrary receiver answers and clock readings, listings, other instances' stores,
    application transactions that change nothing — the loop stores nothing: the bucket grows by
    the others' blobs only, and `lastSynced` has caught up at the end again. -/
theorem C10_no_echo (c : LoopCfg) (g : G) (evs : List Ev) (hs : Synced g.st) (hna : NoAppFrom c g evs) :
    Synced (runFrom c g evs).st ∧ (runFrom c g evs).bucket = g.bucket ++ othersOf evs :=
  synced_run c g evs hs hna

/-- **Without a local cause, `lastSynced` keeps up** — invariant of every schedule. `Calm`: no
    application transaction has been recorded since the latest dump began (or since the start) and
    it is not the case that the LMDB was non-empty at start-up with no dump begun yet. Then at
    every yield point outside the send part the state is `Synced`; in particular `beforeInfo`
    will not send. -/
theorem C10_calm_synced (c : LoopCfg) (env : Env) (b : Bucket) (evs : List Ev)
    (hcalm : Calm (run c env b evs).gh)
    (hpc : (run c env b evs).st.pc = .top ∨ (run c env b evs).st.pc = .beforeInfo ∨
      (run c env b evs).st.pc = .sleep ∨
      ∃ t lc inst ts n, (run c env b evs).st.pc = .loadAfterTxn t lc inst ts n) :
    Synced (run c env b evs).st := by
  have h0 := (inv0_run c env b evs).pcinv
  refine ⟨?_, forceArmed_run c env b evs⟩
  unfold Caught
  rcases hpc with h | h | h | ⟨t, lc, inst, ts, n, h⟩ <;> rw [h] at h0 ⊢
  · exact h0 hcalm
  · exact h0 hcalm
  · exact h0 hcalm
  · exact h0.2 hcalm

/-- **Every upload has a local cause.** In every schedule, whenever a segment stores a blob
    (`Stores`: the only kind of segment that touches the bucket, `go_bucket`), the dump being
    stored began with a cause: since the previous dump began (or since the start of the run) an
    application transaction was recorded (`sendApp`), or it is the first dump of a run that started
    with a non-empty LMDB (`sendStart`: "lastSyncedTxnID starts as 0 to force at least one snapshot
    on startup" — the start-up `SendOnce` when the bucket is empty, else the first loop send).
    Merged snapshots are not a cause. (The third cause the code knows, an overdue snapshot —
    `storage_force_snapshot_interval` — does not occur in these schedules: `Ev` has no arming
    event, `forceArmed_run`; for it see `C10_forced_upload`.) -/
theorem C10_upload_causes (c : LoopCfg) (env : Env) (b : Bucket) (evs : List Ev) (i : In)
    (hst : Stores c (run c env b evs).st i) :
    (run c env b evs).gh.sendApp = true ∨ (run c env b evs).gh.sendStart = true := by
  have h0 := (inv0_run c env b evs).pcinv
  obtain ⟨⟨who, t, ts, snap, hpc⟩, _⟩ := hst
  rw [hpc] at h0
  obtain ⟨_, _, _, _, hcause, _⟩ := h0
  exact hcause

/-- … and a dump begins only with a cause: at `beforeSend` the state is never `Calm`. -/
theorem C10_send_needs_cause (c : LoopCfg) (env : Env) (b : Bucket) (evs : List Ev)
    (hpc : (run c env b evs).st.pc = .beforeSend) : ¬ Calm (run c env b evs).gh := by
  have h0 := (inv0_run c env b evs).pcinv
  rw [hpc] at h0
  exact h0.1

/-- the bucket changes only by own stores and by others: the characterisation of the segments
    that store -/
theorem C10_bucket_step (c : LoopCfg) (b : Bucket) (s : St) (i : In) :
    (Stores c s i ∧ ∃ blob, dumpBlob c s = some blob ∧ (go c b s i).2 = b ++ [blob]) ∨
    (¬ Stores c s i ∧ (go c b s i).2 = b) :=
  go_bucket c b s i

open Ls.Loop.Witness in
/-- the hypotheses are satisfiable: after merging a snapshot into an empty LMDB the loop is
    `Synced`, and merging the same snapshot again (and again) stores nothing -/
example : Synced (run cfgS env0 bkt (schedOk.take 4)).st ∧
    (run cfgS env0 bkt (schedOk.take 4)).st.env.lastTxn = 1 := by
  decide +kernel

/-! ## the bound: after applications stop writing, at most the owed uploads follow -/

/-- **`ownStores` counts the instance's new blobs.** `ownStores c g evs` is defined as the number
    of loop segments of the continuation `evs` (run from `g`) that store (`Stores`, the only kind
    of segment that touches the bucket). Equivalently: it is the growth of the number of blobs
    named `c.own` in the bucket, beyond those that others stored under that name (none, when names
    are not shared); it is the growth of the whole bucket beyond the others' blobs; and it is the
    growth of the ghost counter `stores`. -/
theorem C10_ownStores_is_bucket_growth (c : LoopCfg) (g : G) (evs : List Ev) :
    ownCount c.own (runFrom c g evs).bucket =
      ownCount c.own g.bucket + ownCount c.own (othersOf evs) + ownStores c g evs ∧
    (runFrom c g evs).bucket.length = g.bucket.length + (othersOf evs).length + ownStores c g evs ∧
    (runFrom c g evs).gh.stores = g.gh.stores + ownStores c g evs :=
  ⟨ownStores_bucket c g evs, ownStores_length c g evs, ownStores_ghost c g evs⟩

/-- **The bound, sharpest form.** What an instance still owes at a yield point (`owed`):
    one upload if a dump is in flight (the program counter is at the yield point after `SendOnce`'s
    transaction, the store comes next), plus one if a cause is outstanding (`¬ Calm`: an
    application transaction was recorded since the latest dump began, or the LMDB was non-empty at
    start-up and no dump has begun yet); exactly one before the start-up segment has run (`boot`);
    none once the loop has ended. So `owed ≤ 2`.
    For every configuration (native or shadow, any options), every reachable state — any start
    environment, start bucket and history `evs0`, with application transactions, failing stores,
    races — and every continuation `evs` of any length in which no application transaction is
    recorded (arbitrary receiver answers, clock readings, store failures, listings, other
    instances' stores; the model has no restart event): the instance stores at most `owed` blobs,
    and what it owes at the end is at most the rest. (A store that exhausts its retry budget ends
    the loop and counts as no store.) -/
theorem C10_upload_bound (c : LoopCfg) (env : Env) (b : Bucket) (evs0 evs : List Ev)
    (hna : NoAppFrom c (run c env b evs0) evs) :
    owed (runFrom c (run c env b evs0) evs) + ownStores c (run c env b evs0) evs ≤
      owed (run c env b evs0) :=
  ownStores_le_owed c _ evs (inv0_run c env b evs0) hna

/-- **At most two more uploads, from any reachable state**: once applications have stopped
    writing, an instance stores at most two more blobs, however long it runs. (Two is attained:
    see the examples below — a dump in flight AND an application transaction recorded after that
    dump was taken.) -/
theorem C10_at_most_two_more_uploads (c : LoopCfg) (env : Env) (b : Bucket) (evs0 evs : List Ev)
    (hna : NoAppFrom c (run c env b evs0) evs) : ownStores c (run c env b evs0) evs ≤ 2 := by
  have h1 := C10_upload_bound c env b evs0 evs hna
  have h2 := owedOf_le_two (run c env b evs0).st.pc (run c env b evs0).gh
  unfold owed at h1
  omega

/-- **At most one more upload** unless a dump is in flight whose content is already outdated:
    if the program counter is not at the yield point after `SendOnce`'s transaction, or no
    application transaction has been recorded since that dump began (`appDirty = false`), then the
    instance stores at most one more blob — the one that was already owed (the dump in flight, or
    the one upload for the application transactions / the start-up since the latest dump). -/
theorem C10_at_most_one_more_upload (c : LoopCfg) (env : Env) (b : Bucket) (evs0 evs : List Ev)
    (hna : NoAppFrom c (run c env b evs0) evs)
    (hone : (∀ who t ts snap, (run c env b evs0).st.pc ≠ .sendAfterTxn who t ts snap) ∨
      (run c env b evs0).gh.appDirty = false) :
    ownStores c (run c env b evs0) evs ≤ 1 := by
  have h1 := C10_upload_bound c env b evs0 evs hna
  have h0 := (inv0_run c env b evs0).pcinv
  have hc := cause_le_one (run c env b evs0).gh
  have : owed (run c env b evs0) ≤ 1 := by
    unfold owed
    cases hpc : (run c env b evs0).st.pc with
    | sendAfterTxn who t ts snap =>
      rcases hone with h | h
      · exact absurd hpc (h who t ts snap)
      · rw [hpc] at h0
        have : cause (run c env b evs0).gh = 0 := (cause_eq_zero_iff _).mpr ⟨h, h0.2.2.1⟩
        show 1 + cause _ ≤ 1
        omega
    | boot => exact Nat.le_refl _
    | exited e => exact Nat.zero_le _
    | _ => exact hc
  omega

/-- **No upload when nothing is owed**: if no cause is outstanding (`Calm`) and the instance is
    past its start-up segment and has no dump in flight, then it stores nothing, however long it
    runs, as long as no application transaction is recorded. (`boot` has to be excluded: a freshly
    initialised instance is `Calm` but makes its start-up upload if its LMDB is non-empty.
    `beforeSend` is never `Calm`, `C10_send_needs_cause`.) -/
theorem C10_no_upload_when_calm (c : LoopCfg) (env : Env) (b : Bucket) (evs0 evs : List Ev)
    (hna : NoAppFrom c (run c env b evs0) evs) (hcalm : Calm (run c env b evs0).gh)
    (hboot : (run c env b evs0).st.pc ≠ .boot)
    (hsend : ∀ who t ts snap, (run c env b evs0).st.pc ≠ .sendAfterTxn who t ts snap) :
    ownStores c (run c env b evs0) evs = 0 := by
  have h1 := C10_upload_bound c env b evs0 evs hna
  have h2 := owedOf_le_cause (run c env b evs0).gh hboot hsend
  have h3 := (cause_eq_zero_iff _).mpr hcalm
  unfold owed at h1
  omega

/-- the same from `C10_calm_synced` and `C10_no_echo`, at the yield points of the load part, with
    the bucket spelled out: it grows by the others' blobs only -/
theorem C10_no_upload_when_calm_bucket (c : LoopCfg) (env : Env) (b : Bucket) (evs0 evs : List Ev)
    (hna : NoAppFrom c (run c env b evs0) evs) (hcalm : Calm (run c env b evs0).gh)
    (hpc : (run c env b evs0).st.pc = .top ∨ (run c env b evs0).st.pc = .beforeInfo ∨
      (run c env b evs0).st.pc = .sleep ∨
      ∃ t lc inst ts n, (run c env b evs0).st.pc = .loadAfterTxn t lc inst ts n) :
    (runFrom c (run c env b evs0) evs).bucket = (run c env b evs0).bucket ++ othersOf evs ∧
    ownStores c (run c env b evs0) evs = 0 := by
  have hb := (C10_no_echo c _ evs (C10_calm_synced c env b evs0 hcalm hpc) hna).2
  refine ⟨hb, ?_⟩
  have hl := ownStores_length c (run c env b evs0) evs
  rw [hb, List.length_append] at hl
  omega

/-- after the loop has ended nothing is stored -/
theorem C10_no_upload_after_exit (c : LoopCfg) (env : Env) (b : Bucket) (evs0 evs : List Ev)
    (hna : NoAppFrom c (run c env b evs0) evs) (e : Exit)
    (hpc : (run c env b evs0).st.pc = .exited e) : ownStores c (run c env b evs0) evs = 0 := by
  have h1 := C10_upload_bound c env b evs0 evs hna
  unfold owed at h1
  rw [hpc] at h1
  have : owedOf (.exited e) (run c env b evs0).gh = 0 := rfl
  omega

/-- **The fleet bound** (assume–guarantee: the single-instance bound holds in EVERY environment,
    in particular in the one made of the other instances, so it holds for all instances at once).
    `n` instances with configurations `cs 0 … cs (n-1)` (native and shadow mixed at will), start
    environments `envs j`, one common start bucket `B0`. A global schedule is a list of events
    `(k, e)`: instance `k` does `e` (a loop segment, an application transaction, a listing), or
    `e = .others bs` for writers outside the fleet; whatever an event appends to the bucket, every
    other instance sees as "others stored it" (`fleetStep`, `localEv`). After ANY global history
    `evs0`, for every global continuation `evs` in which no application transaction is recorded at
    any instance:
    * every instance's part is one of the single-instance schedules (projection);
    * all instances see one bucket: the common bucket after the history plus what was appended,
      and that is the outside writers' blobs plus one blob per storing segment (`fleetStores`);
    * the fleet produces at most `Σ owed ≤ 2·n` snapshots, and what the instances owe at the
      end is at most the rest — once the debt is paid, no snapshot is produced any more. -/
theorem C10_fleet_bound (cs : Nat → LoopCfg) (n : Nat) (envs : Nat → Env) (B0 : Bucket)
    (evs0 evs : List (Nat × Ev))
    (hk : ∀ ke ∈ evs, ke.1 < n)
    (hna : FleetNoApp cs (fleetRun cs (fun j => G.init (envs j) B0) evs0) evs) :
    let F := fleetRun cs (fun j => G.init (envs j) B0) evs0
    (∀ j, fleetRun cs F evs j = runFrom (cs j) (F j) (localEvs cs F evs j)) ∧
    (∀ j, j < n → (fleetRun cs F evs j).bucket = (F 0).bucket ++ fleetDelta cs F evs) ∧
    (fleetDelta cs F evs).length = (fleetExt evs).length + fleetStores cs F evs ∧
    fleetStores cs F evs + sumTo n (fun j => owed (fleetRun cs F evs j)) ≤ sumTo n (fun j => owed (F j)) ∧
    sumTo n (fun j => owed (F j)) ≤ 2 * n := by
  intro F
  have hreach : ∀ j, F j = run (cs j) (envs j) B0 (localEvs cs (fun j => G.init (envs j) B0) evs0 j) :=
    fun j => fleetRun_local cs _ evs0 j
  have hB : ∀ j, j < n → (F j).bucket = (F 0).bucket := by
    intro j hj
    have h0 : 0 < n := by omega
    rw [fleetRun_bucket cs n _ evs0 B0 (fun _ _ => rfl) j hj,
      fleetRun_bucket cs n _ evs0 B0 (fun _ _ => rfl) 0 h0]
  refine ⟨fleetRun_local cs F evs, fun j hj => fleetRun_bucket cs n F evs _ hB j hj,
    fleetDelta_length cs F evs, ?_, sumTo_const_le (fun j _ => owedOf_le_two _ _)⟩
  exact fleetStores_le cs n F evs hk (fun j _ => by rw [hreach j]; exact inv0_run _ _ _ _) hna

/-- … and when nothing is owed anywhere — every instance `Calm`, past start-up, no dump in
    flight — the fleet produces no snapshot at all. -/
theorem C10_fleet_quiet (cs : Nat → LoopCfg) (n : Nat) (envs : Nat → Env) (B0 : Bucket)
    (evs0 evs : List (Nat × Ev))
    (hk : ∀ ke ∈ evs, ke.1 < n)
    (hna : FleetNoApp cs (fleetRun cs (fun j => G.init (envs j) B0) evs0) evs)
    (hcalm : ∀ j, j < n →
      Calm (fleetRun cs (fun j => G.init (envs j) B0) evs0 j).gh ∧
      (fleetRun cs (fun j => G.init (envs j) B0) evs0 j).st.pc ≠ .boot ∧
      ∀ who t ts snap, (fleetRun cs (fun j => G.init (envs j) B0) evs0 j).st.pc ≠ .sendAfterTxn who t ts snap) :
    fleetStores cs (fleetRun cs (fun j => G.init (envs j) B0) evs0) evs = 0 := by
  obtain ⟨_, _, _, h, _⟩ := C10_fleet_bound cs n envs B0 evs0 evs hk hna
  have h0 : sumTo n (fun j => owed (fleetRun cs (fun j => G.init (envs j) B0) evs0 j)) ≤ 0 * n :=
    sumTo_const_le (fun j hj => by
      obtain ⟨a, b, c⟩ := hcalm j hj
      have := owedOf_le_cause (fleetRun cs (fun j => G.init (envs j) B0) evs0 j).gh b c
      have := (cause_eq_zero_iff _).mpr a
      unfold owed; omega)
  omega

/-! ### the bounds are attained; the hypotheses are satisfiable -/

section Witnesses
open Ls.Loop.Witness Ls.Loop.BoundWitness

/-- **One upload after an application transaction, and no second one** (shadow and native): after
    an application transaction at `top` one upload is owed; eleven more segments without
    application transactions contain exactly one store; forty contain exactly one store. -/
example :
    owed (run cfgS env0 [] histOne) = 1 ∧ (run cfgS env0 [] histOne).gh.allApp = [1] ∧
    NoAppFrom cfgS (run cfgS env0 [] histOne) (gos 40) ∧
    ownStores cfgS (run cfgS env0 [] histOne) (gos 11) = 1 ∧
    ownStores cfgS (run cfgS env0 [] histOne) (gos 40) = 1 ∧
    ((runFrom cfgS (run cfgS env0 [] histOne) (gos 40)).bucket.map (·.inst)) = ["a"] ∧
    Calm (run cfgS env0 [] (histOne ++ gos 5)).gh ∧ (run cfgS env0 [] (histOne ++ gos 5)).st.pc = .sleep ∧
    ownStores cfgS (run cfgS env0 [] (histOne ++ gos 5)) (gos 40) = 0 := by
  decide +kernel

example :
    owed (run cfgN env0 [] histOneN) = 1 ∧ (run cfgN env0 [] histOneN).gh.allApp = [1] ∧
    NoAppFrom cfgN (run cfgN env0 [] histOneN) (gos 40) ∧
    ownStores cfgN (run cfgN env0 [] histOneN) (gos 11) = 1 ∧
    ownStores cfgN (run cfgN env0 [] histOneN) (gos 40) = 1 := by
  decide +kernel

/-- **The bound 2 is attained** (shadow and native): the loop has taken its dump (yield point after
    `SendOnce`'s transaction) and a second application transaction is recorded before the dump is
    stored. Without any further application transaction the instance stores the outdated dump and
    then one more; and then no third, however long it runs. -/
example :
    owed (run cfgS env0 [] histTwo) = 2 ∧
    NoAppFrom cfgS (run cfgS env0 [] histTwo) (gos 40) ∧
    ownStores cfgS (run cfgS env0 [] histTwo) (gos 12) = 2 ∧
    ownStores cfgS (run cfgS env0 [] histTwo) (gos 40) = 2 := by
  decide +kernel

example :
    owed (run cfgN env0 [] histTwoN) = 2 ∧
    NoAppFrom cfgN (run cfgN env0 [] histTwoN) (gos 40) ∧
    ownStores cfgN (run cfgN env0 [] histTwoN) (gos 12) = 2 ∧
    ownStores cfgN (run cfgN env0 [] histTwoN) (gos 40) = 2 := by
  decide +kernel

/-- **Start-up** (native): a non-empty LMDB and an empty bucket: exactly the start-up upload; and
    with an application transaction recorded between the start-up dump and its store: two — the
    start-up upload and one loop upload. -/
example :
    (run cfgN env0 [] histStart).st.pc = .boot ∧ (run cfgN env0 [] histStart).st.env.lastTxn = 1 ∧
    ownStores cfgN (run cfgN env0 [] histStart) (gos 40) = 1 ∧
    owed (run cfgN env0 [] histStartTwo) = 2 ∧
    (run cfgN env0 [] histStartTwo).gh.sendStart = true ∧
    NoAppFrom cfgN (run cfgN env0 [] histStartTwo) (gos 40) ∧
    ownStores cfgN (run cfgN env0 [] histStartTwo) (gos 40) = 2 := by
  decide +kernel

/-- **A fleet of two** (shadow): "a"'s application wrote once; in the continuation without
    application transactions "a" uploads once, "b" merges that snapshot — its LMDB changes
    (`lastTxn = 1`) — twice and uploads nothing: one snapshot in all, as owed. -/
example :
    let F := fleetRun cs2 fleet0 fleetHist
    FleetNoApp cs2 F fleetCont ∧ owed (F 0) = 1 ∧ owed (F 1) = 0 ∧
    fleetStores cs2 F fleetCont = 1 ∧
    (fleetRun cs2 F fleetCont 1).st.env.lastTxn = 1 ∧
    ((fleetRun cs2 F fleetCont 1).bucket.map (·.inst)) = ["a"] ∧
    owed (fleetRun cs2 F fleetCont 0) = 0 ∧ owed (fleetRun cs2 F fleetCont 1) = 0 := by
  decide +kernel

end Witnesses

/-! ## the forced periodic snapshot (`storage_force_snapshot_interval`)

  The force flag `forceArmed` ("the last snapshot is older than the force interval") is armed only
  from outside (`armForce`: the harness turns the clock back); the event language `Ev` has no
  arming event, so along every `run` no snapshot is overdue (`forceArmed_run`) and the theorems
  above speak about schedules WITHOUT a forced snapshot; `Synced` includes `forceArmed = false`.
  What an armed flag does — exactly one upload, then silence again — is stated here for `go`
  from arbitrary states. -/

/-- **A forced upload.** The loop is at `top`, `lastSynced` has caught up with `lastTxn` (nothing
    local to publish — without the force flag the state would be `Synced` and nothing would ever
    be stored, `C10_no_echo`), but a snapshot is overdue (`forceArmed = true`); the own instance is
    not in the waiting set and the start-up guard `hasDataAtStart ∨ lastTxn > 0` is open; the
    instance is not receive-only. Then a full iteration without application transactions —
    `iteration i1 … i5`: the five segments `top`, `beforeInfo`, `beforeSend`, `sendAfterTxn`,
    `sendStored`, where the receiver hands over nothing, `SendOnce`'s transaction succeeds with
    result `r` and fewer Store attempts fail than the retry budget — stores EXACTLY ONE snapshot
    (the bucket grows by the dump of that transaction, `ownStores = 1`); after it the force flag
    is cleared (`SendOnce` sets `lastSnapshotTime` after a successful store) and the state is
    `Synced` again: `lastSynced` has caught up and no snapshot is overdue; the loop idles (or has
    ended, in only-once mode). -/
theorem C10_forced_upload (c : LoopCfg) (g : G) (i1 i2 i3 i4 i5 : In) (r : SendRes)
    (hpc : g.st.pc = .top) (hle : g.st.env.lastTxn ≤ g.st.lastSynced)
    (harm : g.st.forceArmed = true) (hown : c.own ∉ g.st.waiting)
    (hdata : g.st.hasDataAtStart = true ∨ g.st.env.lastTxn > 0)
    (hro : c.txn.receiveOnly = false) (hnone : i1.next = none)
    (hsend : sendOnce c.txn g.st.env i3.now 0 = .ok r) (hf : i4.fails < c.retryCount) :
    (runFrom c g (iteration i1 i2 i3 i4 i5)).bucket =
      g.bucket ++ [{ inst := c.own, ts := i3.now, snap := r.snap }] ∧
    ownStores c g (iteration i1 i2 i3 i4 i5) = 1 ∧
    (runFrom c g (iteration i1 i2 i3 i4 i5)).st.forceArmed = false ∧
    Synced (runFrom c g (iteration i1 i2 i3 i4 i5)).st ∧
    ((runFrom c g (iteration i1 i2 i3 i4 i5)).st.pc = .sleep ∨
      (runFrom c g (iteration i1 i2 i3 i4 i5)).st.pc = .exited .ok) := by
  obtain ⟨s, b, gh⟩ := g
  simp only at hpc hle harm hown hdata hsend
  -- the states after the five segments
  let s1 : St := afterLoads s
  let s2 : St := { s1 with lastSynced := s.env.lastTxn, pc := .beforeSend }
  let raw : Nat := if c.txn.native then s.env.lastTxn else s.env.lastTxn + 1
  let s3 : St := { s2 with env := r.env, pc := .sendAfterTxn .loop raw i3.now r.snap }
  let t : Nat := if r.env.lastTxn < raw then r.env.lastTxn else raw
  let s4 : St := { s3 with pc := .sendStored .loop t }
  let s5 : St := { stored s4 with lastSynced := t, pc := tailPc c s4.waiting }
  let blob : Blob := { inst := c.own, ts := i3.now, snap := r.snap }
  have hpc5 : s5.pc = .sleep ∨ s5.pc = .exited .ok := (tailPc_cases c s4.waiting).imp id And.left
  have e1 : go c b s i1 = (s1, b) := by
    refine go_of_raw ?_ (by simp [s1, afterLoads])
    rw [goRaw_top hpc]
    unfold poll; rw [hnone]
  have hown1 : ¬ (s1.waiting.contains c.own = true) := by
    intro hc
    have : c.own ∈ s1.waiting := by simpa using hc
    exact hown (List.mem_filter.mp this).1
  have e2 : go c b s1 i2 = (s2, b) := by
    refine go_of_raw ?_ (by simp [s2])
    rw [goRaw_beforeInfo (s := s1) rfl, if_pos (Or.inr (show s1.forceArmed = true from harm)),
      if_neg hown1, if_pos (show s1.hasDataAtStart = true ∨ s1.env.lastTxn > 0 from hdata)]
    rfl
  have e3 : go c b s2 i3 = (s3, b) := by
    refine go_of_raw ?_ (by simp [s3])
    rw [goRaw_beforeSend (s := s2) rfl]
    unfold beginSend
    rw [show sendOnce c.txn s2.env i3.now 0 = .ok r from hsend]
    rfl
  have e4 : go c b s3 i4 = (s4, b ++ [blob]) := by
    rw [go_store (s := s3) rfl hro, if_neg (by omega)]
  have e5 : go c (b ++ [blob]) s4 i5 = (s5, b ++ [blob]) :=
    go_of_raw (by rw [goRaw_sendStored (s := s4) rfl, sendReturned_eq]; rfl)
      (tailPc_ne_top c _)
  have hrun := runFrom_gos c ⟨s, b, gh⟩ [i1, i2, i3, i4, i5]
  simp only [goes, e1, e2, e3, e4, e5] at hrun
  have hst : (runFrom c ⟨s, b, gh⟩ (iteration i1 i2 i3 i4 i5)).st = s5 := congrArg Prod.fst hrun
  have hbk : (runFrom c ⟨s, b, gh⟩ (iteration i1 i2 i3 i4 i5)).bucket = b ++ [blob] :=
    congrArg Prod.snd hrun
  -- one blob more in the bucket, none of them from others: one store
  have hlen := ownStores_length c ⟨s, b, gh⟩ (iteration i1 i2 i3 i4 i5)
  rw [hbk, show othersOf (iteration i1 i2 i3 i4 i5) = [] from othersOf_gos _] at hlen
  simp only [List.length_append, List.length_cons, List.length_nil] at hlen
  have hLt : r.env.lastTxn ≤ t := by
    obtain ⟨hn, hL⟩ := sendOnce_facts hsend
    have hraw : r.env.lastTxn ≤ raw := by
      cases hnat : c.txn.native
      · simp only [raw, hnat, Bool.false_eq_true, if_false]; omega
      · simp only [raw, hnat, hn hnat, if_true]; exact Nat.le_refl _
    show r.env.lastTxn ≤ if r.env.lastTxn < raw then r.env.lastTxn else raw
    split <;> omega
  rw [hst]
  exact ⟨hbk, by omega, rfl, ⟨caught_tail (s := { stored s4 with lastSynced := t }) c _ hLt, rfl⟩, hpc5⟩

/-- **… and then quiet: one forced upload, not one per iteration.** After the forced iteration of
    `C10_forced_upload`, for every continuation of any length in which no application transaction
    is recorded (loop segments with arbitrary receiver answers, clock readings and store failures,
    listings, other instances' stores — and no new arming: `Ev` has none), the instance stores
    nothing more: the bucket is the old one, the one forced snapshot, and the others' blobs. This
    is what a lost reset of the force flag would violate (the flag is cleared at `sendStored`;
    were it not, every following iteration would upload again). -/
theorem C10_forced_then_quiet (c : LoopCfg) (g : G) (i1 i2 i3 i4 i5 : In) (r : SendRes)
    (hpc : g.st.pc = .top) (hle : g.st.env.lastTxn ≤ g.st.lastSynced)
    (harm : g.st.forceArmed = true) (hown : c.own ∉ g.st.waiting)
    (hdata : g.st.hasDataAtStart = true ∨ g.st.env.lastTxn > 0)
    (hro : c.txn.receiveOnly = false) (hnone : i1.next = none)
    (hsend : sendOnce c.txn g.st.env i3.now 0 = .ok r) (hf : i4.fails < c.retryCount)
    (evs : List Ev) (hna : NoAppFrom c (runFrom c g (iteration i1 i2 i3 i4 i5)) evs) :
    (runFrom c (runFrom c g (iteration i1 i2 i3 i4 i5)) evs).bucket =
      g.bucket ++ [{ inst := c.own, ts := i3.now, snap := r.snap }] ++ othersOf evs ∧
    ownStores c (runFrom c g (iteration i1 i2 i3 i4 i5)) evs = 0 ∧
    ownStores c g (iteration i1 i2 i3 i4 i5 ++ evs) = 1 ∧
    Synced (runFrom c (runFrom c g (iteration i1 i2 i3 i4 i5)) evs).st := by
  obtain ⟨hb, h1, _, hs, _⟩ := C10_forced_upload c g i1 i2 i3 i4 i5 r hpc hle harm hown hdata hro hnone hsend hf
  obtain ⟨hs', hb'⟩ := C10_no_echo c _ evs hs hna
  have hl := ownStores_length c (runFrom c g (iteration i1 i2 i3 i4 i5)) evs
  rw [hb', List.length_append] at hl
  have h0 : ownStores c (runFrom c g (iteration i1 i2 i3 i4 i5)) evs = 0 := by omega
  refine ⟨by rw [hb', hb], h0, ?_, hs'⟩
  rw [ownStores_append, h1, h0]

section ForcedWitness
open Ls.Loop.Witness Ls.Loop.BoundWitness

/-- the hypotheses are satisfiable, and the flag matters (shadow mode): after an upload the loop
    is back at `top`, `Synced` — forty more segments store nothing; the same state with the clock
    turned back (`armForce`) stores exactly one snapshot in the next five segments, after which
    the flag is cleared, and exactly one in forty -/
example :
    let g0 := run cfgS env0 [] (histOne ++ gos 6)
    let ga : G := { g0 with st := armForce g0.st }
    g0.st.pc = .top ∧ Synced g0.st ∧ cfgS.own ∉ g0.st.waiting ∧ g0.st.env.lastTxn > 0 ∧
    ownStores cfgS g0 (gos 40) = 0 ∧
    ga.st.forceArmed = true ∧ ownStores cfgS ga (gos 5) = 1 ∧
    (runFrom cfgS ga (gos 5)).st.forceArmed = false ∧ Synced (runFrom cfgS ga (gos 5)).st ∧
    ownStores cfgS ga (gos 40) = 1 := by
  decide +kernel

end ForcedWitness

end Ls.C10
