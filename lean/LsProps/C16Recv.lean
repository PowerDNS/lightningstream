import LsLemmas.RecvMisc
/-
  C16 (receiver part) — every instance's newest snapshot is eventually delivered, within memory
  limits. Stated on the small-step receiver model (LsModel/Receiver.lean): any number of
  instances, any interleaving of listings (failing or not), downloader steps (loads that succeed,
  fail, or find the blob gone; corrupt blobs), consumer steps (`Next`, `Close`) and bucket
  changes (`put`, `rm`), for all limits ≥ 1.

  Inductive invariants: `Ls.Recv.Inv` (tokens), `InvL` (delivered names were listed as newest),
  `InvK` (corrupt names), `InvF` (immutable blobs), `InvM` (notification bookkeeping), `InvD`
  (meaning of `last`); termination measure `Ls.Recv.mu`.

  (The sync-loop part of C16, run-once, is in LsProps/C16.lean.)
-/
namespace Ls.C16
open Ls Ls.Recv

variable {ι : Type} [DecidableEq ι]

/-- **Token conservation.** In every reachable state, for both limits, free + held = limit:
    the download tokens are held exactly by the downloaders between `Acquire` and the release
    (`loading`, `wantDc`, `decoding`); the decompress tokens by the downloaders in `LoadData`
    (`decoding`), by the entries of `snapshotsByInstance` (`pending`) and by the update the sync
    loop has not closed yet. Hence at no time more than `dl` downloaded blobs and more than `dc`
    decoded snapshots are in memory. -/
theorem C16_tokens {own : ι} {dl dc : Nat} {s : St ι} (h : RReach own dl dc s) :
    s.dlFree + dlHeld s = dl ∧
    s.dcFree + dcHeld s + s.pending.length + held s.holding = dc ∧
    dlHeld s ≤ dl ∧ dcHeld s + s.pending.length + held s.holding ≤ dc := by
  obtain ⟨hi, _, _, _, _, e2, e3⟩ := rreach_inv h
  have a := e2 ▸ hi.tokDl
  have b := e3 ▸ hi.tokDc
  exact ⟨a, b, by omega, by omega⟩

/-- … and the downloader table has one entry per instance (so the counts count instances). -/
theorem C16_tokens_one_downloader_per_instance {own : ι} {dl dc : Nat} {s : St ι} (h : RReach own dl dc s) :
    (s.dls.map Prod.fst).Nodup := (rreach_inv h).1.nodup

/-- **Nothing leaks.** When every downloader is parked and the sync loop holds nothing, all
    download tokens are free and the only decompress tokens in use are those of the pending
    snapshots. -/
theorem C16_no_leak {own : ι} {dl dc : Nat} {s : St ι} (h : RReach own dl dc s)
    (hidle : ∀ e ∈ s.dls, e.2.pc = .idle) (hh : s.holding = none) :
    s.dlFree = dl ∧ s.dcFree + s.pending.length = dc := by
  obtain ⟨a, b, _, _⟩ := C16_tokens h
  have z1 : dlHeld s = 0 := AL.count_zero (fun e he => by rw [hidle e he]; rfl)
  have z2 : dcHeld s = 0 := AL.count_zero (fun e he => by rw [hidle e he]; rfl)
  rw [z1] at a; rw [z2, hh] at b
  simp [held] at a b
  exact ⟨a, b⟩

/-- **An overwritten pending snapshot's token is released.** When a downloader inserts a decoded
    snapshot over a pending one of the same instance, the decompress token of the overwritten one
    goes back to the pool (and the download token too): the pending map keeps its size, both free
    counters go up by one. -/
theorem C16_no_leak_overwrite {s s' : St ι} {d : ι} {x : Dl} {t t0 : Nat}
    (hx : getDl s d = some x) (hpc : x.pc = .decoding t false) (hp : AL.get s.pending d = some t0)
    (h : step s (.decode d) = some s') :
    s'.dcFree = s.dcFree + 1 ∧ s'.dlFree = s.dlFree + 1 ∧ s'.pending.length = s.pending.length ∧
    AL.get s'.pending d = some t ∧ ∀ d', d' ≠ d → AL.get s'.pending d' = AL.get s.pending d' := by
  cases step_decode_good hx hpc h
  exact ⟨by simp [hp], rfl, Nat.add_right_cancel (hp ▸ AL.length_set s.pending d t), AL.get_set_self ..,
    fun d' hd' => AL.get_set_ne _ _ hd'⟩

/-- **Every error path releases.** A failed load, a vanished blob and a corrupt blob leave the
    downloader in its retry sleep holding no token. -/
theorem C16_no_leak_error_paths {s s' : St ι} {d : ι} :
    (∀ r, r ≠ LoadRes.ok → step s (.load d r) = some s' →
      s'.dlFree = s.dlFree + 1 ∧ s'.dcFree = s.dcFree ∧ ∃ y, getDl s' d = some y ∧ y.pc = .backoff) ∧
    (∀ x t, getDl s d = some x → x.pc = .decoding t true → step s (.decode d) = some s' →
      s'.dlFree = s.dlFree + 1 ∧ s'.dcFree = s.dcFree + 1 ∧ s'.pending = s.pending ∧
      ∃ y, getDl s' d = some y ∧ y.pc = .backoff) := by
  constructor
  · intro r hr h
    cases step_trans h with
    | move hy m =>
      cases m with
      | loadOk => exact absurd rfl hr
      | loadErr => exact ⟨rfl, rfl, _, AL.get_set_self .., rfl⟩
  · intro x t hx hpc h
    cases step_decode_bad hx hpc h
    exact ⟨rfl, rfl, rfl, _, AL.get_set_self .., rfl⟩

/-- **A successful listing computes the newest non-ignored name per instance**, with every name
    marked corrupt so far ignored; the listing is recorded in `hist`. -/
theorem C16_listing_newest (inc : Bool) (s : St ι) (d : ι) (t : Nat) :
    (AL.get (runOnce inc s).lastSeen d = some t ↔ NewestIn s.bucket (ignoredNow s) d t) ∧
    (runOnce inc s).hist = (s.bucket, ignoredNow s) :: s.hist ∧
    (∀ n, n ∈ ignoredNow s ↔ n ∈ s.ignored ∨ n ∈ s.corrupt) := by
  refine ⟨?_, by rw [runOnce_frame], fun n => mem_ignoredNow⟩
  rw [runOnce_frame]; exact seenOf_some

/-- **What `Next` returns was the newest listed name.** In every reachable state, every pending
    snapshot, the snapshot the sync loop holds, and every snapshot ever returned by `Next` was, at
    some successful listing (the one its downloader read), a blob of the bucket, not ignored,
    with the largest timestamp among the non-ignored blobs of its instance. -/
theorem C16_delivers_newest {own : ι} {dl dc : Nat} {s : St ι} (h : RReach own dl dc s) (n : ι × Nat)
    (hn : n ∈ s.pending ∨ s.holding = some n ∨ n ∈ s.delivered) :
    ∃ e ∈ s.hist, NewestIn e.1 e.2 n.1 n.2 := by
  obtain ⟨_, hl, _⟩ := rreach_inv h
  rcases hn with hn | hn | hn
  · exact hl.pend n hn
  · exact hl.hold n hn
  · exact hl.deliv n hn

/-- **Corrupt names are never loaded again.** Once a name is marked corrupt, in no later state
    does the downloader of its instance work on it, it is never `lastSeen` once a listing has
    succeeded (it is ignored from then on), and after every successful listing every corrupt name
    is ignored. -/
theorem C16_corrupt_never_reloaded {own : ι} {dl dc : Nat} {s s' : St ι} (h : RReach own dl dc s)
    {d : ι} {t : Nat} (hc : (d, t) ∈ s.corrupt) (steps : List (Step ι)) (hr : run s steps = some s') :
    (∀ x, getDl s' d = some x → x.pc.ts? ≠ some t) ∧
    ((d, t) ∈ s'.ignored → AL.get s'.lastSeen d ≠ some t) ∧
    (∀ inc, (d, t) ∈ (runOnce inc s').ignored) := by
  obtain ⟨steps0, hr0⟩ := h
  have hreach : RReach own dl dc s' := ⟨steps0 ++ steps, by rw [run_append, hr0]; exact hr⟩
  obtain ⟨_, _, hk, _⟩ := rreach_inv hreach
  have hc' := (marks_mono_run steps hr).1 _ hc
  refine ⟨fun x hx => hk.k3 d t x hc' hx, fun hi => hk.k1 d t hi, fun inc => ?_⟩
  rw [runOnce_frame]
  exact mem_ignoredNow.mpr (Or.inr hc')

/-- **A name is never inserted into the pending map while marked corrupt.** -/
theorem C16_corrupt_never_inserted {own : ι} {dl dc : Nat} {s s' : St ι} (h : RReach own dl dc s)
    {d : ι} {x : Dl} {t : Nat} {bad : Bool} (hx : getDl s d = some x) (hpc : x.pc = .decoding t bad)
    (_ : step s (.decode d) = some s') : (d, t) ∉ s.corrupt := by
  obtain ⟨_, _, hk, _⟩ := rreach_inv h
  exact fun hc => hk.k3 d t x hc hx (by rw [hpc]; rfl)

/-- **With immutable blobs, corrupt names are never pending, held or delivered.** If every blob
    ever stored under a name decodes the same way (`f`), then in every reachable state no name is
    both marked corrupt and pending / held / delivered. -/
theorem C16_corrupt_never_pending {f : ι × Nat → Bool} {own : ι} {dl dc : Nat} {s : St ι}
    (h : RReachE (PutsAgree f) own dl dc s) (n : ι × Nat) (hc : n ∈ s.corrupt) :
    n ∉ s.pending ∧ s.holding ≠ some n ∧ n ∉ s.delivered := by
  obtain ⟨steps, hok, hr⟩ := h
  have hf := run_induct (InvF f) (PutsAgree f) (fun _ _ _ hp ho hs => invF_step hp ho hs) steps _ _
    (invF_init f own dl dc) hok hr
  have ht := hf.cor n hc
  refine ⟨fun hm => ?_, fun hm => ?_, fun hm => ?_⟩
  · rw [hf.pend n hm] at ht; cases ht
  · rw [hf.hold n hm] at ht; cases ht
  · rw [hf.deliv n hm] at ht; cases ht

/-- **A corrupt blob touches nothing else.** The step in which downloader `a` finds its blob
    corrupt changes no other downloader, no pending entry (not even `a`'s), not what the sync loop
    holds, not `lastSeen`; it releases both tokens and marks exactly that name. -/
theorem C16_corrupt_isolated {s s' : St ι} {a : ι} {x : Dl} {t : Nat}
    (hx : getDl s a = some x) (hpc : x.pc = .decoding t true) (h : step s (.decode a) = some s') :
    (∀ d, d ≠ a → getDl s' d = getDl s d) ∧ s'.pending = s.pending ∧ s'.holding = s.holding ∧
    s'.lastSeen = s.lastSeen ∧ s'.delivered = s.delivered ∧
    (∀ n, n ∈ s'.corrupt ↔ n ∈ s.corrupt ∨ n = (a, t)) ∧
    s'.dlFree = s.dlFree + 1 ∧ s'.dcFree = s.dcFree + 1 := by
  cases step_decode_bad hx hpc h
  exact ⟨fun d hd => AL.get_set_ne _ _ hd, rfl, rfl, rfl, rfl, fun n => mem_insertName, rfl, rfl⟩

/-- **After the next listing the previous snapshot becomes `lastSeen`.** A listing of a state in
    which `(a, t)` is marked corrupt yields for `a` the newest blob of `a` in the bucket that is
    neither ignored nor corrupt — never `(a, t)` —, and for every other instance exactly what it
    would yield had `(a, t)` not been marked. -/
theorem C16_corrupt_isolated_listing (inc : Bool) (s : St ι) {a : ι} {t : Nat} (hc : (a, t) ∈ s.corrupt) :
    (∀ t', AL.get (runOnce inc s).lastSeen a = some t' ↔ NewestIn s.bucket (ignoredNow s) a t') ∧
    AL.get (runOnce inc s).lastSeen a ≠ some t ∧
    (∀ (s0 : St ι) (d : ι), d ≠ a → s0.bucket = s.bucket → s0.ignored = s.ignored →
      (∀ n, n ∈ s.corrupt ↔ n ∈ s0.corrupt ∨ n = (a, t)) →
      AL.get (runOnce inc s).lastSeen d = AL.get (runOnce inc s0).lastSeen d) := by
  refine ⟨fun t' => (C16_listing_newest inc s a t').1, ?_, ?_⟩
  · intro h
    exact ((C16_listing_newest inc s a t).1.mp h).2.1 (mem_ignoredNow.mpr (Or.inr hc))
  · intro s0 d hd hb hig hcor
    have e1 : (runOnce inc s).lastSeen = seenOf s := by rw [runOnce_frame]
    have e2 : (runOnce inc s0).lastSeen = seenOf s0 := by rw [runOnce_frame]
    rw [e1, e2]
    apply seenOf_congr d hb.symm
    intro t'
    rw [mem_ignoredNow, mem_ignoredNow, hig, hcor]
    constructor
    · rintro (h | h | h)
      · exact Or.inl h
      · exact Or.inr h
      · cases h; exact absurd rfl hd
    · rintro (h | h)
      · exact Or.inl h
      · exact Or.inr (Or.inl h)

/-- **Deadlock freedom.** In every reachable state with limits ≥ 1: if some downloader is busy
    (signalled, working, waiting for a token or in its retry sleep), or a snapshot is pending, or
    the sync loop holds one, then a fault-free step of a downloader (`wake`, `check`, `acqDl`,
    `load` with the storage's answer, `acqDc`, `decode`, `retry`) or of the consumer (`next`,
    `close`) is enabled. No reachable state has everybody waiting for a token forever: a
    downloader holding a download token while waiting for a decompress token is not a deadlock,
    because every decompress token is held by something that can move. -/
theorem C16_progress_deadlock_free {own : ι} {dl dc : Nat} {s : St ι} (h : RReach own dl dc s)
    (h1 : 1 ≤ dl) (h2 : 1 ≤ dc)
    (hw : (∃ d x, getDl s d = some x ∧ x.busy = true) ∨ s.pending ≠ [] ∨ s.holding ≠ none) :
    ∃ x : Step ι, x.fair = true ∧ (step s x).isSome := by
  obtain ⟨hi, _, _, _, _, e2, e3⟩ := rreach_inv h
  exact progress_enabled hi (by rw [e2]; exact h1) (by rw [e3]; exact h2) hw

/-- **An undelivered newest snapshot keeps the system moving.** Assume no `put` re-creates the
    name last notified for its instance (`NoResurrect`). In every reachable state, if the
    `lastSeen` name of a foreign instance differs from what its downloader processed last, that
    downloader exists and is busy, and a fault-free downloader or consumer step is enabled. -/
theorem C16_progress_enabled {own : ι} {dl dc : Nat} {s : St ι} (h : RReachE NoResurrect own dl dc s)
    (h1 : 1 ≤ dl) (h2 : 1 ≤ dc) {d : ι} {t : Nat} (hd : d ≠ own) (hseen : AL.get s.lastSeen d = some t)
    (hlast : ∀ x, getDl s d = some x → x.last ≠ some t) :
    (∃ x, getDl s d = some x ∧ x.busy = true) ∧ ∃ x : Step ι, x.fair = true ∧ (step s x).isSome := by
  obtain ⟨steps, hok, hr⟩ := h
  have hm := run_induct InvM NoResurrect (fun _ _ _ hp ho hs => invM_step hp ho hs) steps _ _
    (invM_init own dl dc) hok hr
  have hown : s.own = own := (consts_run steps hr).1
  obtain ⟨x, hx, hl⟩ := hm.m d t (by rw [hown]; exact hd) hseen
  have hb : x.busy = true := by
    rcases hl with hl | hl
    · exact absurd hl (hlast x hx)
    · exact hl
  exact ⟨⟨x, hx, hb⟩, C16_progress_deadlock_free ⟨steps, hr⟩ h1 h2 (Or.inl ⟨d, x, hx, hb⟩)⟩

/-- **Fault-free runs end.** Once `lastSeen` only names blobs of the bucket (true right after a
    successful listing), every fault-free downloader or consumer step decreases the measure
    `mu`; so there is no infinite fault-free run between listings, and by deadlock freedom some
    finite fault-free run leads to a state at rest (all downloaders parked, nothing pending,
    nothing held). -/
theorem C16_progress_to_rest {own : ι} {dl dc : Nat} {s : St ι} (h : RReach own dl dc s)
    (h1 : 1 ≤ dl) (h2 : 1 ≤ dc) :
    (∀ x s', SeenInBucket s → x.fair = true → step s x = some s' → mu s' < mu s) ∧
    ∃ steps s', (∀ x ∈ steps, x.quiet = true) ∧ run s steps = some s' ∧ AtRest s' ∧ s'.bucket = s.bucket := by
  obtain ⟨hi, _, hk, _, _, e2, e3⟩ := rreach_inv h
  refine ⟨fun x s' hsb hf hs => mu_decreases hk hsb hf hs, ?_⟩
  have hs1 : step s (.runOnce false true) = some (runOnce false s) := rfl
  obtain ⟨_, l1, l2⟩ := step_own hs1
  obtain ⟨steps, s2, hfs, hrun, hrest⟩ := reach_rest (inv_step hi hs1) (invK_step hk hs1)
    (seenInBucket_runOnce false s) (by rw [l1, e2]; exact h1) (by rw [l2, e3]; exact h2)
  refine ⟨.runOnce false true :: steps, s2, List.forall_mem_cons.mpr ⟨rfl, fun x hx => quiet_of_fair (hfs x hx)⟩,
    by simp only [run, hs1]; exact hrun, hrest, ?_⟩
  rw [(run_fair_frame steps hfs hrun).1, runOnce_frame]

/-- **Possibility of delivery.** Assume blobs are immutable (`PutsAgree f`) and no `put`
    re-creates the name last notified for its instance (`NoResurrect`). From every reachable
    state, with limits ≥ 1, there is a finite continuation made only of successful listings and
    fault-free downloader and consumer steps — the bucket does not change — after which, for
    every foreign instance that has a decodable blob in the bucket, the newest decodable one has
    been returned by `Next`; moreover the final state is settled: at rest (so by `C16_no_leak`
    all tokens are free), `lastSeen` is the listing of the bucket, every corrupt name ignored. -/
theorem C16_progress_delivery {f : ι × Nat → Bool} {own : ι} {dl dc : Nat} {s : St ι}
    (h : RReachE (EnvOk f) own dl dc s) (h1 : 1 ≤ dl) (h2 : 1 ≤ dc) :
    ∃ steps s', (∀ x ∈ steps, x.quiet = true) ∧ run s steps = some s' ∧ s'.bucket = s.bucket ∧ Settled s' ∧
      ∀ d g, d ≠ own → NewestGood s.bucket d g → (d, g) ∈ s'.delivered := by
  obtain ⟨steps0, hok, hr⟩ := h
  have hi : AllInv f s := allInv_run steps0 (allInv_init f own dl dc h1 h2) hok hr
  -- a round to rest, then rounds until settled
  obtain ⟨stepsA, s2, hqA, hrunA, hrest, hi2, hb2, _⟩ := round hi
  obtain ⟨stepsB, s3, hqB, hrunB, hset, hi3, hb3⟩ := settles hi2 hrest
  have hown : s3.own = own := by
    rw [(consts_run stepsB hrunB).1, (consts_run stepsA hrunA).1, (consts_run steps0 hr).1]; rfl
  exact ⟨stepsA ++ stepsB, s3, fun x hx => (List.mem_append.mp hx).elim (hqA x) (hqB x),
    by rw [run_append, hrunA]; exact hrunB, hb3.trans hb2, hset,
    fun d g hd hg => settled_newest_good hi3 hset (hown ▸ hd) (by rw [hb3, hb2]; exact hg)⟩

/-- The driver's big step is a run of fault-free downloader steps: every state the driver shows
    is reachable in the small-step model. -/
theorem C16_quiesce_is_run {own : ι} {dl dc : Nat} {s : St ι} (h : RReach own dl dc s) (order : List ι) :
    RReach own dl dc (quiesceOrd order s).2 ∧ ∀ x ∈ (quiesceOrd order s).1, x.fair = true := by
  obtain ⟨steps, hr⟩ := h
  obtain ⟨a, b⟩ := quiesceOrd_run order s
  exact ⟨⟨steps ++ (quiesceOrd order s).1, by rw [run_append, hr]; exact b⟩, a⟩

/-! ### concrete scenarios (instances are numbers; own = 0) -/

namespace Ex
def a1 : Option (St Nat) :=
  (run (init 0 1 1) [.put ⟨2, 3, false⟩, .put ⟨1, 5, false⟩, .runOnce false true]).map quiesce
def a2 : Option (St Nat) := a1.bind (fun s => (run s [.next 1, .close]).map quiesce)
def a3 : Option (St Nat) := a2.bind (fun s => run s [.next 2, .close])

def b1 : Option (St Nat) :=
  (run (init 0 2 2) [.put ⟨1, 5, false⟩, .put ⟨1, 6, true⟩, .runOnce false true]).map quiesce
def b2 : Option (St Nat) := b1.bind (fun s => (run s [.runOnce false true]).map quiesce)

def c1 : Option (St Nat) := (run (init 0 2 2) [.put ⟨1, 5, false⟩, .runOnce false true]).map quiesce
def c2 : Option (St Nat) := c1.bind (fun s => (run s [.put ⟨1, 6, false⟩, .runOnce false true]).map quiesce)

def orphan : Option (St Nat) :=
  run (init 0 1 1) [.put ⟨1, 5, false⟩, .runOnce false true, .wake 1, .check 1, .acqDl 1,
                    .rm 1 5, .load 1 .notFound, .runOnce false true, .retry 1, .check 1,
                    .put ⟨1, 5, false⟩, .runOnce false true]
end Ex

/-- two foreign instances, both limits 1: after the listing instance 1 gets through, instance 2
    waits for the decompress token holding the download token; the consumer's `next`/`close`
    release it. All tokens are back at the end. -/
example :
    Ex.a1.map (fun s => (s.dlFree, s.dcFree, s.pending, (getDl s 2).map (·.pc))) = some (0, 0, [(1, 5)], some (.wantDc 3 false)) ∧
    Ex.a2.map (fun s => (s.dlFree, s.dcFree, s.pending)) = some (1, 0, [(2, 3)]) ∧
    Ex.a3.map (fun s => (s.dlFree, s.dcFree, s.pending, s.holding, s.delivered)) = some (1, 1, [], none, [(2, 3), (1, 5)]) :=
  ⟨rfl, rfl, rfl⟩

/-- a corrupt newest blob: it is marked, both tokens come back, nothing is pending; the next
    listing ignores it and the previous snapshot is delivered. -/
example :
    Ex.b1.map (fun s => (s.dlFree, s.dcFree, s.pending, s.corrupt, AL.get s.lastSeen 1)) = some (2, 2, [], [(1, 6)], some 6) ∧
    Ex.b2.map (fun s => (s.dlFree, s.dcFree, s.pending, s.corrupt, AL.get s.lastSeen 1, s.ignored)) =
      some (2, 1, [(1, 5)], [(1, 6)], some 5, [(1, 6)]) :=
  ⟨rfl, rfl⟩

/-- an overwritten pending entry: the newer snapshot replaces the one not yet merged and the
    token of the replaced one is released (one decompress token in use, not two). -/
example :
    Ex.c1.map (fun s => (s.dlFree, s.dcFree, s.pending)) = some (2, 1, [(1, 5)]) ∧
    Ex.c2.map (fun s => (s.dlFree, s.dcFree, s.pending)) = some (2, 1, [(1, 6)]) := by
  decide

/-- **Why `NoResurrect` is needed (finding).** The only snapshot of instance 1 vanishes from the
    bucket while its downloader has not loaded it yet, the next listing shows no snapshot of the
    instance, and then a blob of the same name reappears. `lastNotifiedByInstance` still holds
    that name, so `RunOnce` does not notify; the downloader sleeps on its empty signal channel
    with `last` unset: the snapshot is listed as newest but never delivered, however often the
    listing is repeated, until the instance publishes a snapshot with another name. -/
theorem C16_orphan_witness :
    Ex.orphan.map (fun s => (AL.get s.lastSeen 1, getDl s 1, s.pending, s.holding, s.delivered, s.dlFree, s.dcFree)) =
      some (some 5, some ⟨none, false, .idle⟩, [], none, [], 1, 1) ∧
    Ex.orphan.map (fun s => decide ((runOnce false s).dls = s.dls ∧ (runOnce false s).lastSeen = s.lastSeen)) = some true :=
  ⟨rfl, rfl⟩

end Ls.C16
