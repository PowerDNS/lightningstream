import LsLemmas.PbValid
/-
  C07 — Snapshot encoding is lossless and wire-compatible with the published schema.

  Model: LsModel/Wire.lean, Codec.lean (the hand-written codec as it is in /repo, with D2 and D3
  fixed), LsModel/PbSpec.lean (declarative proto3 semantics of snapshot/gogosnapshot/snapshot.proto).
-/
namespace Ls.C07
open Ls Ls.Wire Ls.Codec Ls.CodecS

/-- the well-formed snapshots: the Go types' ranges, LMDB's limits and three size limits of the
    decoder; spelt out at `Ls.CodecS.SnapWF`, `MetaWF`, `DBIWF` -/
abbrev SnapWF := Ls.CodecS.SnapWF

instance (s : Snapshot') : Decidable (SnapWF s) := by
  unfold SnapWF Ls.CodecS.SnapWF MetaWF DBIWF; infer_instance

/-- `s` describes LMDB content: no empty key (why: `Ls.CodecS.LmdbContent`) -/
abbrev LmdbContent := Ls.CodecS.LmdbContent

/-- csproto's limits at the Snapshot and Meta levels (finding D15 among them); spelt out at
    `Ls.CodecS.Conforming`, `TopRecOK`, `MetaRecOK` -/
abbrev Conforming := Ls.CodecS.Conforming

/-- the Go constants the codec uses are the field numbers of the published .proto file -/
theorem C07_schema_field_numbers :
    Gen.fieldKVKey = 1 ∧ Gen.fieldKVValue = 2 ∧ Gen.fieldKVTimestampNano = 3 ∧ Gen.fieldKVFlags = 4 ∧
    Gen.fieldDBIName = 1 ∧ Gen.fieldDBIEntries = 2 ∧ Gen.fieldDBIFlags = 3 ∧ Gen.fieldDBITransform = 4 ∧
    Gen.fieldSnapshotFormatVersion = 1 ∧ Gen.fieldSnapshotMeta = 2 ∧ Gen.fieldSnapshotDBI = 3 ∧
    Gen.fieldSnapshotCompatVersion = 4 ∧
    Gen.fieldMetaGenerationID = 1 ∧ Gen.fieldMetaInstanceID = 2 ∧ Gen.fieldMetaHostname = 3 ∧
    Gen.fieldMetaLMDBTxnID = 4 ∧ Gen.fieldMetaTimestampNano = 5 ∧ Gen.fieldMetaDatabaseName = 7 ∧
    Gen.fieldMetaFromLMDBTxnID = 8 ∧ Gen.tagSize0To15 = 1 := by decide

/-- `csproto.SizeOfVarint` (used by `Append` to compute sizes in advance) is the number of bytes
    `EncodeVarint` writes, for every uint64 -/
theorem C07_sizeOfVarint_exact (v : Nat) (hv : v < two64) : sizeOfVarint v = (encodeVarint v).length :=
  sizeOfVarint_eq v hv

/-- The fixed 1000-byte buffer of `doFlushFields` suffices for every name of at most 511 bytes and
    transform of at most 64 bytes (any flags): no index out of range, nothing truncated. -/
theorem C07_field_buffer_suffices (h : DBIHdr) (hn : h.name.length ≤ 511) (ht : h.transform.length ≤ 64) :
    flushFields h = .ok (hdrBytes h) :=
  flushFields_eq h hn ht

/-- `DBI.Append` writes exactly the entry it sized in advance — for every key, value (incl. empty),
    flags and timestamp: no index out of range, no unwritten tail, nothing for an all-empty entry. -/
theorem C07_append_size_exact (data : Bytes) (kv : KV) (hr : KVRange kv) (hsz : (kvBytes kv).length < two64) :
    dbiAppend data kv = .ok (data ++ entryBytes kv) :=
  dbiAppend_eq data kv hr hsz

/-- `Meta.Marshal`'s estimated buffer is always large enough -/
theorem C07_meta_buffer_suffices (m : Meta) : (metaMarshal m).length ≤ metaBufSize m :=
  metaMarshal_fits m

/-- The encoder is total on well-formed snapshots and writes exactly the concatenation of its
    fields (`snapBytes`). -/
theorem C07_encode_total (s : Snapshot') (hw : SnapWF s) : encode s = .ok (snapBytes s) :=
  have ⟨_, _, _, hdbis, _⟩ := hw
  encode_eq s (fun d hd => dbiRange_of_wf d (hdbis d hd))

/-- The bytes written are a valid message of the published schema and its value is the snapshot
    that was encoded. -/
theorem C07_valid_pb (s : Snapshot') (hw : SnapWF s) :
    ∃ b, encode s = .ok b ∧ PbSpec.parse b = some s :=
  ⟨snapBytes s, C07_encode_total s hw, parse_snapBytes s hw⟩

/-- Compatibility, KV level — no side condition: every byte string that is a KV message of the
    schema with a non-empty key (fields in any order, repeated, unknown fields of wire types
    0, 1, 2, 5 with any field number) is decoded by `KV.Unmarshal` to the message's value. -/
theorem C07_compat_kv (b : Bytes) (kv : KV) (h : PbSpec.parseKV b = some kv) (hk : kv.key ≠ [])
    (h63 : b.length < two63) : kvUnmarshal b = .ok kv := by
  rw [kvUnmarshal_eq b h63]
  exact kvUnmarshalS_parseKV b kv h (parseKV_nonempty b kv h hk)

/-- Compatibility, DBI level — no side condition: `NewDBIFromData` finds the message's name,
    flags and transform, and iterating `Next` until io.EOF delivers exactly its entries, for every
    DBI message of the schema whose entries have non-empty keys (any field order, repetitions,
    unknown fields at DBI and KV level). -/
theorem C07_compat_dbi (b : Bytes) (d : DBI') (h : PbSpec.parseDBI b = some d)
    (hk : ∀ e ∈ d.entries, e.key ≠ []) (h63 : b.length < two63) :
    indexData b = .ok { name := d.name, flags := d.flags, transform := d.transform } ∧
    dbiEntries b = .ok d.entries := by
  rw [indexData_eq b h63, dbiEntries_eq b h63]
  exact ⟨indexDataS_parseDBI b d h, dbiEntriesS_parseDBI b d h hk⟩

/-- Compatibility: every byte string that is a message of the published schema (any field order,
    repeated scalars — last one wins —, a `meta` split over several occurrences, unknown fields of
    wire types 0, 1, 2, 5 at all four nesting levels) and describes LMDB content decodes, through
    `Snapshot.Unmarshal` and the complete lazy iteration of every DBI, to exactly the value the
    protobuf semantics assigns — under `Conforming` (csproto's limits at the two outer levels). -/
theorem C07_compat (b : Bytes) (s : Snapshot') (h : PbSpec.parse b = some s) (hl : LmdbContent s)
    (hc : Conforming b) (h63 : b.length < two63) : decodeAll b = .ok s := by
  rw [decodeAll_eq b h63]
  exact decodeAllS_parse b s h hl hc

/-- `Conforming` cannot be dropped (finding D15): a valid message whose only field is an unknown
    varint field number 2^26 has the value "empty snapshot", but is rejected. -/
theorem C07_compat_tag_limit_witness :
    PbSpec.parse [0x80, 0x80, 0x80, 0x80, 0x02, 0x00] = some PbSpec.snapZero' ∧
    decodeAll [0x80, 0x80, 0x80, 0x80, 0x02, 0x00] = .err .badTag := ⟨by decide, by rfl⟩

/-- …nor its uint32 clause: formatVersion written as the varint 2^32 has the protobuf value 0 and
    is rejected with ErrValueOverflow (no conforming encoder writes it). -/
theorem C07_compat_uint32_witness :
    PbSpec.parse [0x08, 0x80, 0x80, 0x80, 0x80, 0x10] = some PbSpec.snapZero' ∧
    decodeAll [0x08, 0x80, 0x80, 0x80, 0x80, 0x10] = .err .overflow := ⟨by decide, by rfl⟩

/-- Round trip: for every well-formed snapshot — any number of DBIs, any names/flags/transforms
    within the limits, keys and values of any bytes and length (values may be empty), any
    timestamps and flags, any metadata — encoding succeeds and decoding the bytes (Unmarshal plus
    full iteration of all entries) returns the identical snapshot. -/
theorem C07_roundtrip (s : Snapshot') (hw : SnapWF s) :
    ∃ b, encode s = .ok b ∧ decodeAll b = .ok s :=
  have ⟨_, _, _, _, h63⟩ := hw
  ⟨snapBytes s, C07_encode_total s hw,
    C07_compat (snapBytes s) s (parse_snapBytes s hw) (lmdbContent_of_wf s hw) (conforming_snapBytes s hw) h63⟩

/-- non-vacuity: a snapshot with two DBIs, an entry without value, flags, a transform -/
def example1 : Snapshot' :=
  { formatVersion := 3, compatVersion := 1,
    info := { generationID := [0x47], instanceID := [0x69], hostname := [], lmdbTxnID := 42,
              timestampNano := 1700000000000000000, databaseName := [0x6d], fromLmdbTxnID := 0 },
    dbis := [ { name := [0x64], flags := 8, transform := [],
                entries := [ { key := [0x6b], val := [], ts := 5, flags := 1 },
                             { key := [0x6b, 0x32], val := [0x76], ts := 0, flags := 0 } ] },
              { name := [0x65], flags := 0, transform := [0x74], entries := [] } ] }

example : SnapWF example1 := by decide

/-- non-vacuity of `C07_compat`: a message with shuffled fields and unknown fields at three levels -/
example : (PbSpec.parse
    [0x1a, 0x11, 0x28, 0x07, 0x12, 0x08, 0x4d, 1, 2, 3, 4, 0x0a, 0x01, 0x6b, 0x0a, 0x03, 0x61, 0x62, 0x63,
     0x7a, 0x01, 0xff, 0x08, 0x03]).map (fun s => (s.formatVersion, s.dbis.map (fun d => (d.name, d.entries.map (·.key)))))
    = some (3, [([0x61, 0x62, 0x63], [[0x6b]])]) := by decide

end Ls.C07
