import LsLemmas.NameTime
/-
  C15 — Snapshot names round-trip and sort chronologically.
  Model: LsModel/Name.lean, LsModel/Civil.lean (snapshot/name.go, syncer/utils.go instanceID, as
  they are in /repo; names are byte strings, order is byte-wise lexicographic order).
-/
namespace Ls.C15
open Ls Ls.Civil Ls.Name

/-- The facts the hand-written parts of the model rely on are the ones regenerated from the
    source: the time layout and the position of its '.', the sanitiser's character class, and
    the default extension being registered as a snapshot. -/
theorem C15_model_matches_generated :
    Gen.timeFormat = "20060102-150405.000000000" ∧ Gen.dotIndex = 15 ∧ tsLen = 25 ∧
    Gen.reUnsafe = "[^a-zA-Z0-9-]" ∧
    lookupExt (strBytes Gen.defaultExtension) = some (strBytes Gen.kindSnapshot) :=
  ⟨rfl, rfl, by decide, rfl, by decide⟩

/-- Round trip. For database, instance, generation and extra items over the safe alphabet
    `[A-Za-z0-9-]` (they may be empty; the extension is any registered one and may contain
    anything), and every timestamp `0 ≤ t < 2^63` ns: parsing the built name succeeds and returns
    exactly those components, the 25-byte timestamp string, and a time whose UNIX nanoseconds
    are `t`. -/
theorem C15_roundtrip (db inst gen : Bytes) (extras : List Bytes) (t : Nat) (ext kind : Bytes)
    (hdb : Safe db) (hinst : Safe inst) (hgen : Safe gen) (hex : ∀ e ∈ extras, Safe e)
    (ht : t < 2 ^ 63) (hext : lookupExt ext = some kind) :
    parseName (buildName db inst gen extras t ext)
      = .ok { fullName := buildName db inst gen extras t ext,
              baseName := joinUU (db :: inst :: nameTimestamp t :: gen :: extras),
              ext := ext, kind := kind, db := db, inst := inst, tss := nameTimestamp t,
              gen := gen, extras := extras, time := ofNanos t }
    ∧ toNanos (ofNanos t) = (t : Int) := by
  have hsafe : ∀ f ∈ db :: inst :: nameTimestamp t :: gen :: extras, Safe f := by
    simp only [List.forall_mem_cons]
    exact ⟨hdb, hinst, nameTimestamp_safe t, hgen, hex⟩
  exact ⟨parseName_buildNameTs db inst _ gen extras ext kind _ (fun f hf => (hsafe f hf).no_us)
    (fun f hf => (hsafe f hf).no_dot) hext (by rw [nameTimestamp_length, tsLen_eq])
    (nameTimestamp_dash t) (timeParse_nameTimestamp t (lt_tsBound ht)), toNanos_ofNanos t⟩

/-- Chronological = lexicographic, whatever follows the timestamp. For one database and one
    instance (any byte strings) the name of the earlier timestamp is byte-wise below the name of
    the later one, even if generation, extra items or extension differ. -/
theorem C15_order_any_suffix (db inst g1 g2 : Bytes) (e1 e2 : List Bytes) (x1 x2 : Bytes)
    (t1 t2 : Nat) (h1 : t1 < 2 ^ 63) (h2 : t2 < 2 ^ 63) (hlt : t1 < t2) :
    buildName db inst g1 e1 t1 x1 < buildName db inst g2 e2 t2 x2 :=
  (buildName_lt_iff db inst g1 g2 e1 e2 x1 x2 t1 t2 (lt_tsBound h1) (lt_tsBound h2)).2 (.inl hlt)

/-- Chronological = lexicographic: for fixed database, instance, generation, extras and
    extension, `t₁ < t₂` iff the name built for `t₁` is byte-wise below the name built for `t₂`. -/
theorem C15_order (db inst gen : Bytes) (extras : List Bytes) (ext : Bytes) (t1 t2 : Nat)
    (h1 : t1 < 2 ^ 63) (h2 : t2 < 2 ^ 63) :
    t1 < t2 ↔ buildName db inst gen extras t1 ext < buildName db inst gen extras t2 ext := by
  rw [buildName_lt_iff db inst gen gen extras extras ext ext t1 t2 (lt_tsBound h1) (lt_tsBound h2)]
  simp only [List.lt_irrefl, and_false, or_false]

/-- Names are injective in the timestamp: equal names, equal timestamps. -/
theorem C15_name_injective (db inst gen : Bytes) (extras : List Bytes) (ext : Bytes) (t1 t2 : Nat)
    (h1 : t1 < 2 ^ 63) (h2 : t2 < 2 ^ 63)
    (h : buildName db inst gen extras t1 ext = buildName db inst gen extras t2 ext) : t1 = t2 :=
  eq_of_lt_iff List.lt_irrefl (C15_order db inst gen extras ext t1 t2 h1 h2).symm
    (C15_order db inst gen extras ext t2 t1 h2 h1).symm h

/-- The last name of a sorted listing is the newest snapshot. `l` lists the snapshots of one
    database and instance as (timestamp, generation, extras, extension); if their names are in
    ascending byte order (as a blob-store listing is), no entry is newer than the last one —
    what "the later name overwrites the earlier" in the receiver and the cleaner rely on. -/
theorem C15_last_is_newest (db inst : Bytes) (l : List (Nat × Bytes × List Bytes × Bytes))
    (hne : l ≠ []) (hl : ∀ e ∈ l, e.1 < 2 ^ 63)
    (hs : (l.map fun e => buildName db inst e.2.1 e.2.2.1 e.1 e.2.2.2).Pairwise (fun a b => ¬ b < a)) :
    ∀ e ∈ l, e.1 ≤ (l.getLast hne).1 := by
  intro e he
  rw [List.pairwise_map] at hs
  rcases pairwise_last _ l hne hs e he with h | h
  · rw [h]; exact Nat.le_refl _
  · by_cases hle : e.1 ≤ (l.getLast hne).1
    · exact hle
    · exact absurd (C15_order_any_suffix db inst _ _ _ _ _ _ _ _
        (hl _ (List.getLast_mem hne)) (hl e he) (by omega)) h

/-- No foreign database. A name built for database `d'` never carries the listing prefix
    `d ++ "__"` of a different database `d` (both over the safe alphabet; instance, generation,
    extras, extension arbitrary). -/
theorem C15_no_foreign (d d' inst gen : Bytes) (extras : List Bytes) (t : Nat) (ext : Bytes)
    (hd : Safe d) (hd' : Safe d') (hne : d' ≠ d) :
    ¬ (d ++ uu) <+: buildName d' inst gen extras t ext :=
  fun hp => hne (buildName_db_prefix d d' inst gen extras t ext hd.no_us hd'.no_us hp).symm

/-- Only snapshots parse. If `ParseName` accepts `s`, then `s` is `base ++ "." ++ ext` with no
    '.' in `base`, `ext` is a registered extension (of the returned kind), `base` is the
    "__"-join of at least four fields — database, instance, timestamp string, generation, then
    the extras — the timestamp string has 25 bytes with '-' at position 15 and denotes an
    existing calendar date and time of day, and rebuilding the name from the parsed components
    (`BuildName` with the parsed timestamp string) gives `s` back. Everything else is rejected. -/
theorem C15_parse_accepts_only (s : Bytes) (ni : NameInfo) (h : parseName s = .ok ni) :
    s = ni.baseName ++ dot :: ni.ext ∧ dot ∉ ni.baseName ∧ ni.fullName = s ∧
    lookupExt ni.ext = some ni.kind ∧
    ni.baseName = joinUU (ni.db :: ni.inst :: ni.tss :: ni.gen :: ni.extras) ∧
    splitUU ni.baseName = ni.db :: ni.inst :: ni.tss :: ni.gen :: ni.extras ∧
    ni.tss.length = 25 ∧ ni.tss.getD 15 0 = dash ∧ timeParse ni.tss = some ni.time ∧
    (1 ≤ ni.time.month ∧ ni.time.month ≤ 12) ∧
    (1 ≤ ni.time.day ∧ ni.time.day ≤ daysIn ni.time.month ni.time.year) ∧
    ni.time.hour < 24 ∧ ni.time.min < 60 ∧ ni.time.sec < 60 ∧ ni.time.nsec < 1000000000 ∧
    buildNameTs ni.db ni.inst ni.tss ni.gen ni.extras ni.ext = s := by
  obtain ⟨hs, hnd, hfull, hk, hj, hsp, hlen, hdash, htp, hb⟩ := parseName_ok s ni h
  obtain ⟨v1, v2, v3, v4, v5, v6⟩ := timeParse_valid ni.tss ni.time htp
  exact ⟨hs, hnd, hfull, hk, hj, hsp, tsLen_eq ▸ hlen, hdash, htp, v1, v2, v3, v4, v5, v6, hb⟩

/-- Limit of the order property, recorded: it is about names `BuildName` produces. `ParseName`
    also accepts timestamp strings `NameTimestamp` never produces — Go's parser reads the
    nine-character fraction with `atoi`, which allows a sign — and for such foreign files byte
    order and time order disagree: "…-000000-+12345678" (12 345 678 ns after the second) sorts
    below "…-000000-000000000" (the full second). Both are accepted as snapshots of database
    "db", instance "i1". -/
theorem C15_foreign_noncanonical_witness :
    let s1 := strBytes "db__i1__20230101-000000-+12345678__GX.pb.gz"
    let s2 := strBytes "db__i1__20230101-000000-000000000__GX.pb.gz"
    let view := fun s => match parseName s with
      | .ok ni => some (ni.db, ni.inst, toNanos ni.time)
      | .error _ => none
    view s1 = some (strBytes "db", strBytes "i1", 1672531200012345678) ∧
    view s2 = some (strBytes "db", strBytes "i1", 1672531200000000000) ∧ s1 < s2 := by
  decide

/-- The sanitiser. For every input byte string (any bytes, valid UTF-8 or not) every byte of
    the sanitised instance id is in the safe alphabet, so it contains neither '_' nor '.'; safe
    strings are left alone; the result is never longer than the input and is empty only for the
    empty input. -/
theorem C15_sanitise (s : Bytes) :
    Safe (sanitize s) ∧ us ∉ sanitize s ∧ dot ∉ sanitize s ∧ (Safe s → sanitize s = s) ∧
    (sanitize s).length ≤ s.length ∧ (s ≠ [] → sanitize s ≠ []) := by
  have h := sanitizeAux_safe 0 s
  refine ⟨h, h.no_us, h.no_dot, sanitizeAux_id s, sanitizeAux_length_le 0 s, ?_⟩
  intro hne
  cases s with
  | nil => exact absurd rfl hne
  | cons b rest => exact sanitizeAux_ne_nil b rest

/-- Sanitised instance ids satisfy the hypotheses of `C15_roundtrip`: a name built with a
    sanitised instance id (and safe database / generation) round-trips, whatever the configured
    instance name was. -/
theorem C15_sanitised_roundtrip (db rawInst gen : Bytes) (t : Nat) (ext kind : Bytes)
    (hdb : Safe db) (hgen : Safe gen) (ht : t < 2 ^ 63) (hext : lookupExt ext = some kind) :
    ∃ ni, parseName (buildName db (sanitize rawInst) gen [] t ext) = .ok ni ∧ ni.db = db ∧
      ni.inst = sanitize rawInst ∧ ni.gen = gen ∧ ni.extras = [] ∧ toNanos ni.time = (t : Int) := by
  have h := C15_roundtrip db (sanitize rawInst) gen [] t ext kind hdb (C15_sanitise rawInst).1 hgen
    (by simp) ht hext
  exact ⟨_, h.1, rfl, rfl, rfl, rfl, h.2⟩

/-- the hypotheses are satisfiable: database "db", instance "i1", generation "GX", one extra
    item "A1", the default extension -/
example : Safe [100, 98] ∧ Safe [105, 49] ∧ Safe [71, 88] ∧ (∀ e ∈ [[65, 49]], Safe e) ∧
    (1700000000123456789 : Nat) < 2 ^ 63 ∧
    lookupExt (strBytes Gen.defaultExtension) = some (strBytes Gen.kindSnapshot) := by
  refine ⟨by decide, by decide, by decide, by decide, by decide, by decide⟩

/-- the sanitiser does change unsafe input: "a_b.c" becomes "a-b-c" -/
example : sanitize [97, 95, 98, 46, 99] = [97, 45, 98, 45, 99] := by decide

end Ls.C15
