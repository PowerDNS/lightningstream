import LsLemmas.TxnMirrorStep
/-
  C11 — Shadow mode mirrors application data faithfully in both directions.
  Model: LsModel/Txn.lean (`mainToShadow`, `shadowToMain`, `loadOnce`) on top of
  LsModel/Strategy.lean (IterUpdate / Update) and LsModel/Merge.lean (NativeIterator / PlainIterator).
  Helper lemmas are in LsLemmas/TxnMirror*.lean.

  * A DBI's content is read with `Lmdb.get ik kvs k` in the DBI's own key order
    (`ik = isIntKey flags`: byte-wise, or MDB_INTEGERKEY); together with `Sorted ik kvs` this
    determines the content (`C19_cmp_bytes` / `C19_cmp_int`: equivalence of keys is equality).
  * Well-formedness is local to the DBI a statement is about: `Sorted ik kvs` and `DKeysOK kvs`
    (keys of 1..511 bytes) for the application DBI and for its shadow, and the shadow having the
    application DBI's integer-key flag. Of the environment only `DistinctNames` is needed. Other
    DBIs may be arbitrary (also duplicate-keys DBIs), as long as the pass succeeds.
  * `liveBytes now txn v` / `markerBytes now txn` are the 24-byte header `PutBasic now txn flags`
    followed by the value / by nothing (`C11_capture_bytes`).
  * Known finding D7 (not fixed): a zero-length application value is captured as a live empty
    version and then removed from the application DBI by the projection; an empty value written
    over a marker is not captured (clause (a) of `C11_capture` applies to it: the marker's value
    is empty too). Hence the mirror theorems speak of `projVal` (the value behind the header,
    nothing when empty) and become "exactly the live entries" under the hypothesis that live
    shadow values are non-empty (`C11_project_live`). Negative witness: `C11_empty_value_witness`.
-/
namespace Ls.C11
open Ls Ls.Lmdb Ls.Strategy Ls.Merge Ls.Txn

/-- **Capture.** `mainToShadow c w txnID now cutoff` succeeded; `d` is a non-duplicate-keys
    application DBI named `n`, `sd = shadowOf w n d` its shadow (the existing one, or — when missing
    — a new empty one carrying only the integer-key bit of `d`'s flags). Under the shared-clock
    assumption (`now` above every timestamp stored in the shadow) the new shadow DBI has the same
    name and flags, is sorted with valid keys, and for every key `k`:
    (a) the application value is the value behind the stored header ⇒ stored bytes untouched
        (same timestamp);
    (b) the application has `k ↦ v` and the shadow has no entry (or an empty one), or an entry whose
        value differs from `v` (in particular a marker, when `v ≠ []`) ⇒ `liveBytes now txnID v`,
        i.e. `(now, live, v)` with a well-formed header carrying `txnID` (`C11_capture_bytes`);
    (c) `k` missing from the application and the shadow entry live ⇒ `markerBytes now txnID`, i.e.
        `(now, deleted, ∅)`;
    (d) `k` missing and the shadow entry already a marker ⇒ untouched;
    (e) `k` in neither ⇒ absent.
    (Every stored shadow value falls under one of the cases: a successful pass has parsed it.) -/
theorem C11_capture (c : Txn.Cfg) (w w' : W) (txnID now cutoff : Nat) (n : Bytes) (d : Dbi)
    (hdist : DistinctNames w.dbis) (h : mainToShadow c w txnID now cutoff = .ok w')
    (hp : isPrivate n = false) (hd : findDbi w.dbis n = some d) (hnd : isDupSort d.flags = false)
    (hik : isIntKey (shadowOf w n d).flags = isIntKey d.flags)
    (hA : Sorted (isIntKey d.flags) d.kvs) (hAK : DKeysOK d.kvs)
    (hS : Sorted (isIntKey d.flags) (shadowOf w n d).kvs) (hSK : DKeysOK (shadowOf w n d).kvs)
    (hclock : ∀ p ∈ (shadowOf w n d).kvs, ∀ hd v, Header.parse p.2 = .ok (hd, v) → hd.ts < now) :
    ∃ kvs', findDbi w'.dbis (shadowName n) = some { shadowOf w n d with kvs := kvs' } ∧
      Sorted (isIntKey d.flags) kvs' ∧ DKeysOK kvs' ∧
      ∀ k,
        let appv := get (isIntKey d.flags) d.kvs k
        let stored := get (isIntKey d.flags) (shadowOf w n d).kvs k
        let new := get (isIntKey d.flags) kvs' k
        (∀ v old hd, appv = some v → stored = some old → Header.parse old = .ok (hd, v) → new = some old) ∧
        (∀ v, appv = some v → stored.getD [] = [] → new = some (liveBytes now txnID v)) ∧
        (∀ v old hd a, appv = some v → stored = some old → Header.parse old = .ok (hd, a) → a ≠ v →
          new = some (liveBytes now txnID v)) ∧
        (∀ old hd a, appv = none → stored = some old → Header.parse old = .ok (hd, a) →
          Header.isDeleted hd.flags = false → new = some (markerBytes now txnID)) ∧
        (∀ old hd a, appv = none → stored = some old → Header.parse old = .ok (hd, a) →
          Header.isDeleted hd.flags = true → new = some old) ∧
        (appv = none → stored = none → new = none) := by
  obtain ⟨kvs', hf, hrest⟩ := mainToShadow_nondup hdist h hp hd hnd
  rw [hik] at hrest
  obtain ⟨hS', hK', hget⟩ := hrest hA hAK hS hSK
  refine ⟨kvs', hf, hS', hK', fun k => ?_⟩
  have hk := hget k
  refine ⟨?_, ?_, ?_, ?_, ?_, ?_⟩
  · intro v old hd' ha hs hpr
    rw [ha, hs, capture_unchanged txnID now cutoff v old hd' hpr] at hk
    exact (Except.ok.inj hk).symm
  · intro v ha hs
    rw [ha, capture_new txnID now cutoff v _ hs] at hk
    exact (Except.ok.inj hk).symm
  · intro v old hd' a ha hs hpr hne
    obtain ⟨k', hmem, _⟩ := get_some_mem hs
    have hts := hclock (k', old) hmem hd' a hpr
    rw [ha, hs, capture_changed txnID now cutoff v old a hd' hpr hne hts] at hk
    exact (Except.ok.inj hk).symm
  · intro old hd' a ha hs hpr hlive
    rw [ha, hs, capture_deleted txnID now cutoff old a hd' hpr hlive] at hk
    exact (Except.ok.inj hk).symm
  · intro old hd' a ha hs hpr hdel
    rw [ha, hs, capture_marker_kept txnID now cutoff old a hd' hpr hdel] at hk
    exact (Except.ok.inj hk).symm
  · intro ha hs
    rw [ha, hs] at hk
    exact (Except.ok.inj hk).symm

/-- What the capture writes: `liveBytes now txn v` is the header `PutBasic now txn 0` followed by
    `v`; it parses back to timestamp `now`, transaction id `txn`, version 0, no flags, no extension
    blocks, application value `v`, i.e. the logical version `(now, live, v)`. `markerBytes now txn`
    is the bare 24-byte header with the deleted flag: `(now, deleted, ∅)`. (Header layout: C14.) -/
theorem C11_capture_bytes (now txn : Nat) (v : Bytes) (hn : now < two64) (ht : txn < two64) :
    liveBytes now txn v = Header.putBasic now txn 0 ++ v ∧
    Header.parse (liveBytes now txn v) =
      .ok ({ ts := now, txn := txn, version := 0, flags := 0, numExtra := 0, extra := [] }, v) ∧
    decodeS (liveBytes now txn v) = .ok (some { ts := now, del := false, val := v }) ∧
    markerBytes now txn = Header.putBasic now txn (UInt8.ofNat Gen.flagDeleted) ∧
    (markerBytes now txn).length = 24 ∧
    decodeS (markerBytes now txn) = .ok (some { ts := now, del := true, val := [] }) :=
  ⟨rfl, parse_liveBytes now txn v hn ht, decodeS_liveBytes now txn v hn ht, rfl,
   Header.putBasic_length now txn _, decodeS_markerBytes now txn hn ht⟩

/-- **Capture writes nothing else.** `mainToShadow` never writes an application DBI, and the only
    DBIs it writes (or creates) are the shadows of the application DBIs present: every other name —
    application DBIs, private non-shadow DBIs — is looked up exactly as before; distinct names stay
    distinct. -/
theorem C11_capture_frame (c : Txn.Cfg) (w w' : W) (txnID now cutoff : Nat)
    (h : mainToShadow c w txnID now cutoff = .ok w') :
    (∀ x, isPrivate x = false → findDbi w'.dbis x = findDbi w.dbis x) ∧
    (∀ x, (∀ m ∈ dbiNames w, isPrivate m = false → x ≠ shadowName m) →
      findDbi w'.dbis x = findDbi w.dbis x) ∧
    (DistinctNames w.dbis → DistinctNames w'.dbis) :=
  ⟨fun x hx => mainToShadow_app_unchanged h x hx, (mainToShadow_frame h).2, (mainToShadow_frame h).1⟩

/-- **Projection.** After a successful `shadowToMain c w` the set of DBIs is unchanged, no private
    DBI (shadow DBIs included) is changed, and every non-duplicate-keys application DBI `n` keeps
    its name and flags and contains exactly `{k ↦ v | the shadow value of k has the bytes v ≠ []
    behind its header}` (`projVal`) — nothing else is in it. (Every value of its shadow has a
    parsable header, or the pass would have failed.) -/
theorem C11_project (c : Txn.Cfg) (w w' : W) (hdist : DistinctNames w.dbis)
    (h : shadowToMain c w = .ok w') :
    dbiNames w' = dbiNames w ∧
    (∀ p, isPrivate p = true → findDbi w'.dbis p = findDbi w.dbis p) ∧
    ∀ n d, isPrivate n = false → findDbi w.dbis n = some d → isDupSort d.flags = false →
      ∃ sd kvs', findDbi w.dbis (shadowName n) = some sd ∧
        findDbi w'.dbis n = some { d with kvs := kvs' } ∧
        (∀ p ∈ sd.kvs, ∃ hd v, Header.parse p.2 = .ok (hd, v)) ∧
        (Sorted (isIntKey d.flags) d.kvs → DKeysOK d.kvs →
         Sorted (isIntKey d.flags) sd.kvs → DKeysOK sd.kvs →
          Sorted (isIntKey d.flags) kvs' ∧ DKeysOK kvs' ∧
          ∀ k, get (isIntKey d.flags) kvs' k = (get (isIntKey d.flags) sd.kvs k).bind projVal) := by
  obtain ⟨h1, _, h3⟩ := shadowToMain_frame h
  exact ⟨h1, h3, fun n d hp hd hnd => shadowToMain_nondup hdist h hp hd hnd⟩

/-- On well-formed shadow values (header parses, a deleted entry carries no value) the projected
    value is the live value unless that is empty (D7); with the hypothesis "live shadow values are
    non-empty" it is exactly the live value: the application DBI = the live entries of its shadow. -/
theorem C11_project_live (stored : Bytes) (hw : ValWF stored) :
    projVal stored = (liveVal stored).bind (fun v => if v.length = 0 then none else some v) ∧
    ((∀ v, liveVal stored = some v → v ≠ []) → projVal stored = liveVal stored) :=
  ⟨projVal_of_wf hw, projVal_eq_liveVal hw⟩

/-- **Mirror invariant after every step.** After a successful non-native `LoadOnce` on an
    environment with distinct DBI names, every non-duplicate-keys application DBI `n` that was
    well-formed before (sorted, valid keys; its shadow — if present — has the same integer-key flag
    and is sorted with valid keys; when no capture runs, i.e. no local change, the shadow exists)
    is afterwards exactly the projection of its shadow — `{k ↦ v | shadow k has v ≠ [] behind its
    header}`, on well-formed shadow values the live non-empty entries (`C11_project_live`) — and
    the well-formedness holds again (same flags on both, both sorted with valid keys), so the
    statement applies to the next step; in particular `MirrorOK` holds, the invariant the no-op
    theorem `C10_noop_txn_shadow` assumes. -/
theorem C11_step (c : Txn.Cfg) (e : Env) (snap : Snap) (lastSynced now cutoff : Nat) (r : LoadRes)
    (n : Bytes) (d : Dbi)
    (hn : c.native = false) (hdist : DistinctNames e.dbis)
    (h : loadOnce c e snap lastSynced now cutoff = .ok r)
    (hp : isPrivate n = false) (hd : findDbi e.dbis n = some d) (hnd : isDupSort d.flags = false)
    (hA : Sorted (isIntKey d.flags) d.kvs) (hAK : DKeysOK d.kvs)
    (hsh : ∀ sd, findDbi e.dbis (shadowName n) = some sd →
      isIntKey sd.flags = isIntKey d.flags ∧ Sorted (isIntKey d.flags) sd.kvs ∧ DKeysOK sd.kvs)
    (hex : ¬ lastSynced < e.lastTxn → (findDbi e.dbis (shadowName n)).isSome = true) :
    ∃ d' sd', findDbi r.env.dbis n = some d' ∧ findDbi r.env.dbis (shadowName n) = some sd' ∧
      d'.name = d.name ∧ d'.flags = d.flags ∧ isIntKey sd'.flags = isIntKey d.flags ∧
      Sorted (isIntKey d.flags) d'.kvs ∧ DKeysOK d'.kvs ∧
      Sorted (isIntKey d.flags) sd'.kvs ∧ DKeysOK sd'.kvs ∧
      (∀ k, get (isIntKey d.flags) d'.kvs k = (get (isIntKey d.flags) sd'.kvs k).bind projVal) ∧
      MirrorOK r.env.dbis d' := by
  obtain ⟨_, kvs2, kvs3, hik, _, hsd, hd', hS2, hK2, hS3, hK3, hget, hparse, _⟩ :=
    loadOnce_shadow_track hn hdist h hp hd hnd hA hAK hsh hex
  refine ⟨_, _, hd', hsd, rfl, rfl, hik, hS3, hK3, hS2, hK2, hget,
    hS3, { shadowOf ⟨e.dbis, false⟩ n d with kvs := kvs2 }, ?_, hS2, hK2, hparse, hget⟩
  show findDbi r.env.dbis (shadowName d.name) = _
  rw [findDbi_name hd]
  exact hsd

/-- **A local write survives the step (the C03 ingredient).** Non-native `LoadOnce` with a local
    change (`lastSynced < e.lastTxn`, so the capture runs with transaction id `e.lastTxn + 1` and
    detection time `now`): if before the step the application DBI had `k ↦ v` (`v ≠ []`) and the
    shadow had no entry for `k`, or an entry with a different value and an older timestamp, then
    after the step the application DBI still has `k ↦ v` — unless the snapshot contains, in a
    message for this DBI, an entry for `k` that `Merge` does not keep out of `(now, live, v)`
    (`Merge.keep` fails; for well-formed entries: whose normal form beats `(now, live, v)`, see
    `C11_keep_of_not_beats`). -/
theorem C11_app_write_survives (c : Txn.Cfg) (e : Env) (snap : Snap) (lastSynced now cutoff : Nat)
    (r : LoadRes) (n : Bytes) (d : Dbi) (k v : Bytes)
    (hn : c.native = false) (hdist : DistinctNames e.dbis)
    (h : loadOnce c e snap lastSynced now cutoff = .ok r)
    (hloc : lastSynced < e.lastTxn) (hnow : now < two64) (htx : e.lastTxn + 1 < two64)
    (hp : isPrivate n = false) (hd : findDbi e.dbis n = some d) (hnd : isDupSort d.flags = false)
    (hA : Sorted (isIntKey d.flags) d.kvs) (hAK : DKeysOK d.kvs)
    (hsh : ∀ sd, findDbi e.dbis (shadowName n) = some sd →
      isIntKey sd.flags = isIntKey d.flags ∧ Sorted (isIntKey d.flags) sd.kvs ∧ DKeysOK sd.kvs)
    (hv : get (isIntKey d.flags) d.kvs k = some v) (hvne : v ≠ [])
    (hchg : (get (isIntKey d.flags) (shadowOf ⟨e.dbis, false⟩ n d).kvs k).getD [] = [] ∨
      ∃ old hd a, get (isIntKey d.flags) (shadowOf ⟨e.dbis, false⟩ n d).kvs k = some old ∧
        Header.parse old = .ok (hd, a) ∧ a ≠ v ∧ hd.ts < now)
    (hsnap : ∀ m ∈ snap.dbs, isPrivate m.name = false → m.name = n →
      ∀ en ∈ m.entries, kcmp (isIntKey d.flags) en.key k = 0 →
        Merge.keep (loadCfg c snap (e.lastTxn + 1) cutoff) en
          { ts := now, txn := e.lastTxn + 1, version := 0, flags := 0, numExtra := 0, extra := [] } v) :
    ∃ d', findDbi r.env.dbis n = some d' ∧ get (isIntKey d.flags) d'.kvs k = some v ∧
      ∃ sd', findDbi r.env.dbis (shadowName n) = some sd' ∧
        get (isIntKey d.flags) sd'.kvs k = some (liveBytes now (e.lastTxn + 1) v) := by
  obtain ⟨kvs1, kvs2, kvs3, _, hcap, hsd, hd', _, _, _, _, hget, _, hkeep⟩ :=
    loadOnce_shadow_track hn hdist h hp hd hnd hA hAK hsh (fun hc => absurd hloc hc)
  rw [if_pos hloc] at hcap
  have hc := hcap k
  have h1 : get (isIntKey d.flags) kvs1 k = some (liveBytes now (e.lastTxn + 1) v) := by
    rw [hv] at hc
    rcases hchg with hs | ⟨old, hd0, a, hs, hpr, hne, hts⟩
    · rw [capture_new _ now cutoff v _ hs] at hc; exact (Except.ok.inj hc).symm
    · rw [hs, capture_changed _ now cutoff v old a hd0 hpr hne hts] at hc
      exact (Except.ok.inj hc).symm
  have hpl := parse_liveBytes now (e.lastTxn + 1) v hnow htx
  have h2 : get (isIntKey d.flags) kvs2 k = some (liveBytes now (e.lastTxn + 1) v) := by
    rw [hkeep k (fun m hm hpm hmn en hen hk => ?_), h1]
    rw [h1]
    exact ⟨_, _, v, rfl, hpl, hsnap m hm hpm hmn en hen hk⟩
  refine ⟨_, hd', ?_, _, hsd, h2⟩
  rw [hget k, h2, Option.bind_some]
  unfold projVal
  rw [hpl]
  simp only
  rw [if_neg (fun h0 => hvne (List.length_eq_zero_iff.mp h0))]

/-- For a well-formed snapshot entry (a deleted entry carries no value) "kept out" is "does not
    beat": if the entry's normal form does not beat `(now, live, v)` last-writer-wins (timestamp
    above `now`, or equal and winning the tie-break), `Merge.keep` holds against the captured
    header. -/
theorem C11_keep_of_not_beats (mc : Merge.Cfg) (en : KV) (now txn : Nat) (v : Bytes) (hw : EntryWF en)
    (hnb : ¬ (norm mc en).beats { ts := now, del := false, val := v }) :
    Merge.keep mc en { ts := now, txn := txn, version := 0, flags := 0, numExtra := 0, extra := [] } v := by
  apply keep_of_not_beats hw
  have h0 : Header.isDeleted (0 : UInt8) = false := by decide
  simpa [h0] using hnb

/-- **Untouched entries keep their timestamps.** Non-native `LoadOnce` (with or without a local
    change): a key the application did not change since the last capture (`Unchanged`: it holds the
    value behind the stored header, or it lacks the key and the shadow has no entry or a marker)
    and that no snapshot message for this DBI mentions keeps exactly its stored shadow bytes. -/
theorem C11_untouched_keep_timestamp (c : Txn.Cfg) (e : Env) (snap : Snap) (lastSynced now cutoff : Nat)
    (r : LoadRes) (n : Bytes) (d : Dbi) (k : Bytes)
    (hn : c.native = false) (hdist : DistinctNames e.dbis)
    (h : loadOnce c e snap lastSynced now cutoff = .ok r)
    (hp : isPrivate n = false) (hd : findDbi e.dbis n = some d) (hnd : isDupSort d.flags = false)
    (hA : Sorted (isIntKey d.flags) d.kvs) (hAK : DKeysOK d.kvs)
    (hsh : ∀ sd, findDbi e.dbis (shadowName n) = some sd →
      isIntKey sd.flags = isIntKey d.flags ∧ Sorted (isIntKey d.flags) sd.kvs ∧ DKeysOK sd.kvs)
    (hex : ¬ lastSynced < e.lastTxn → (findDbi e.dbis (shadowName n)).isSome = true)
    (hun : Unchanged (get (isIntKey d.flags) d.kvs k)
      (get (isIntKey d.flags) (shadowOf ⟨e.dbis, false⟩ n d).kvs k))
    (hsnap : ∀ m ∈ snap.dbs, isPrivate m.name = false → m.name = n →
      ∀ en ∈ m.entries, kcmp (isIntKey d.flags) en.key k ≠ 0) :
    ∃ sd', findDbi r.env.dbis (shadowName n) = some sd' ∧
      get (isIntKey d.flags) sd'.kvs k = get (isIntKey d.flags) (shadowOf ⟨e.dbis, false⟩ n d).kvs k := by
  obtain ⟨kvs1, kvs2, kvs3, _, hcap, hsd, _, _, _, _, _, _, _, hkeep⟩ :=
    loadOnce_shadow_track hn hdist h hp hd hnd hA hAK hsh hex
  have h1 : get (isIntKey d.flags) kvs1 k = get (isIntKey d.flags) (shadowOf ⟨e.dbis, false⟩ n d).kvs k := by
    split at hcap
    · have hc := hcap k
      rw [captureSpec_unchanged _ now cutoff hun] at hc
      exact (Except.ok.inj hc).symm
    · rw [hcap]
  refine ⟨_, hsd, ?_⟩
  rw [hkeep k (fun m hm hpm hmn en hen hk => absurd hk (hsnap m hm hpm hmn en hen)), h1]

/-- **Whole-DBI creation by a remote snapshot.** Non-native `LoadOnce`: an application DBI `n`
    that does not exist (nor its shadow) and for which the snapshot carries a message (flags not
    duplicate-keys) exists afterwards, created with the flags of the first such message (or the
    configured override) restricted to 16 bits, its shadow with those of them allowed for shadows
    (MDB_INTEGERKEY), and it is exactly the projection of its shadow (`MirrorOK`). (A DBI the
    application created locally is covered by `C11_step`: the capture creates its shadow.) -/
theorem C11_step_created (c : Txn.Cfg) (e : Env) (snap : Snap) (lastSynced now cutoff : Nat) (r : LoadRes)
    (n : Bytes) (hn : c.native = false) (hdist : DistinctNames e.dbis)
    (h : loadOnce c e snap lastSynced now cutoff = .ok r) (hp : isPrivate n = false)
    (ha : findDbi e.dbis n = none) (hs : findDbi e.dbis (shadowName n) = none)
    (hex : ∃ m ∈ snap.dbs, isPrivate m.name = false ∧ m.name = n)
    (hnd : ∀ m ∈ snap.dbs, m.name = n → isDupSort (createFlags c m) = false) :
    ∃ m0 ∈ snap.dbs, m0.name = n ∧ ∃ kvs2 kvs3,
      findDbi r.env.dbis n = some { name := n, flags := createFlags c m0, kvs := kvs3 } ∧
      findDbi r.env.dbis (shadowName n) =
        some { name := shadowName n, flags := createFlags c m0 &&& Gen.allowedShadowDBIFlagsMask,
               kvs := kvs2 } ∧
      MirrorOK r.env.dbis { name := n, flags := createFlags c m0, kvs := kvs3 } := by
  obtain ⟨w1, w2, w3, h1, h2, h3, henv, _, _⟩ := loadOnce_shadow_ok hn h
  have ph1 : DistinctNames w1.dbis ∧ findDbi w1.dbis n = none ∧ findDbi w1.dbis (shadowName n) = none := by
    by_cases hl : lastSynced < e.lastTxn
    · rw [if_pos hl] at h1
      refine ⟨(mainToShadow_frame h1).1 hdist, ?_, ?_⟩
      · rw [mainToShadow_app_unchanged h1 n hp]; exact ha
      · rw [(mainToShadow_frame h1).2 (shadowName n) (fun m hm _ he => by
          have hmn : n = m := shadowName_inj he
          subst hmn
          have : (findDbi e.dbis n).isSome = true := findDbi_isSome_iff.mpr hm
          rw [ha] at this; cases this)]
        exact hs
    · rw [if_neg hl] at h1; subst h1; exact ⟨hdist, ha, hs⟩
  obtain ⟨hdist1, ha1, hs1⟩ := ph1
  obtain ⟨m0, hm0, hmn, hd2, kvs2, hsd2, hS2, hK2⟩ := loadFold_shadow_create hn hp snap.dbs h2 ha1 hs1 hex
  have hdist2 := (loadFold_edits h2).distinct hdist1
  have hnd0 := hnd m0 hm0 hmn
  obtain ⟨sd, kvs3, hsd', hd3, hparse, hproj⟩ := shadowToMain_nondup hdist2 h3 hp hd2 hnd0
  cases hsd2.symm.trans hsd'
  obtain ⟨hS3, hK3, hget3⟩ := hproj (sorted_nil _) (fun p hp => by cases hp) hS2 hK2
  have hpriv := (shadowToMain_frame h3).2.2 (shadowName n) (isPrivate_shadowName n)
  have hdbis : r.env.dbis = w3.dbis := by rw [henv]; rfl
  refine ⟨m0, hm0, hmn, kvs2, kvs3, by rw [hdbis]; exact hd3, by rw [hdbis, hpriv]; exact hsd2, ?_⟩
  exact ⟨hS3, _, by simp only; rw [hdbis, hpriv]; exact hsd2, hS2, hK2, hparse, hget3⟩

/-- **`SendOnce` is the capture.** In shadow mode the write transaction of `SendOnce` is exactly
    `mainToShadow` on the environment with transaction id `e.lastTxn + 1`, committed (so
    `C11_capture` / `C11_capture_frame` describe it); in native mode `SendOnce` writes nothing. -/
theorem C11_send_is_capture (c : Txn.Cfg) (e : Env) (now cutoff : Nat) (r : SendRes)
    (h : sendOnce c e now cutoff = .ok r) :
    (c.native = true → r.env = e) ∧
    (c.native = false → ∃ w', mainToShadow c ⟨e.dbis, false⟩ (e.lastTxn + 1) now cutoff = .ok w' ∧
      r.env = commit e w') :=
  sendOnce_env h

/-- **The set of DBIs stays well-formed.** DBI names strictly increasing in the root DBI's order
    (hence distinct) stay so through `mainToShadow`, `shadowToMain` and a whole `LoadOnce` (either
    mode), also when DBIs are created. -/
theorem C11_names_preserved :
    (∀ (c : Txn.Cfg) (w w' : W) (txnID now cutoff : Nat), mainToShadow c w txnID now cutoff = .ok w' →
      NamesSorted w.dbis → NamesSorted w'.dbis) ∧
    (∀ (c : Txn.Cfg) (w w' : W), shadowToMain c w = .ok w' → NamesSorted w.dbis → NamesSorted w'.dbis) ∧
    (∀ (c : Txn.Cfg) (e : Env) (snap : Snap) (lastSynced now cutoff : Nat) (r : LoadRes),
      loadOnce c e snap lastSynced now cutoff = .ok r → NamesSorted e.dbis → NamesSorted r.env.dbis) ∧
    (∀ dbis, NamesSorted dbis → DistinctNames dbis) :=
  ⟨fun _ _ _ _ _ _ h hd => namesSorted_iff.mpr (mainToShadow_sorted (namesSorted_iff.mp hd) h),
   fun _ _ _ h hd => namesSorted_iff.mpr (shadowToMain_sorted (namesSorted_iff.mp hd) h),
   fun c e snap lastSynced now cutoff r h hd => by
    obtain ⟨w0, w1, w2, h0, h1, h2, rfl⟩ := loadOnce_ok.mp h
    have hs0 : SortedNames w0.dbis := by
      unfold preLoad at h0
      split at h0
      · exact mainToShadow_sorted (namesSorted_iff.mp hd) h0
      · cases h0; exact namesSorted_iff.mp hd
    have hs1 := loadFold_sorted hs0 h1
    unfold postLoad at h2
    split at h2
    · cases h2; exact namesSorted_iff.mpr hs1
    · exact namesSorted_iff.mpr (shadowToMain_sorted hs1 h2),
   fun _ h => h.distinct⟩

/-- **Integer keys.** A missing shadow DBI is created with exactly the flags of the application
    DBI that are allowed for shadow DBIs (`allowedShadowDBIFlagsMask` = MDB_INTEGERKEY), so it
    inherits MDB_INTEGERKEY and nothing else (never MDB_DUPSORT), and starts empty; both passes then
    run their strategy in that key order (`C11_capture`, `C11_project` are stated with
    `isIntKey d.flags`). After `mainToShadow` the shadow of every application DBI exists. -/
theorem C11_integer_keys (c : Txn.Cfg) (w w' : W) (txnID now cutoff : Nat) (n : Bytes) (d : Dbi)
    (hdist : DistinctNames w.dbis) (h : mainToShadow c w txnID now cutoff = .ok w')
    (hp : isPrivate n = false) (hd : findDbi w.dbis n = some d) (hnd : isDupSort d.flags = false) :
    (findDbi w.dbis (shadowName n) = none →
      (shadowOf w n d).flags = d.flags &&& Gen.allowedShadowDBIFlagsMask ∧
      (shadowOf w n d).kvs = [] ∧
      isIntKey (shadowOf w n d).flags = isIntKey d.flags ∧ isDupSort (shadowOf w n d).flags = false) ∧
    ∃ sd', findDbi w'.dbis (shadowName n) = some sd' ∧ sd'.flags = (shadowOf w n d).flags := by
  constructor
  · intro hs
    unfold shadowOf; rw [hs]
    exact ⟨rfl, rfl, isIntKey_mask d.flags, isDupSort_mask d.flags⟩
  · obtain ⟨kvs', hf, _⟩ := mainToShadow_nondup hdist h hp hd hnd
    exact ⟨_, hf, rfl⟩

/-- the configuration of the concrete instances below: shadow mode, no options -/
def exCfg : Txn.Cfg := { native := false, hack := false, pad := false, receiveOnly := false, override := [] }

/-- one mirror cycle: capture, then projection -/
def cycle (c : Txn.Cfg) (w : W) (txnID now cutoff : Nat) : Except Err W := do
  let w1 ← mainToShadow c w txnID now cutoff
  shadowToMain c w1

/-- an MDB_INTEGERKEY application DBI "a" with the 4-byte keys 0, 1 and 256 (little-endian): in
    integer order, not in byte order -/
def exIntW : W :=
  { dbis := [{ name := [0x61], flags := 8,
               kvs := [([0, 0, 0, 0], [5]), ([1, 0, 0, 0], [7]), ([0, 1, 0, 0], [9])] }],
    dirty := false }

/-- Capture and projection succeed on an integer-key DBI containing key 0 (the strategy does not
    reject a first key 0, finding D6): the shadow is created with flags 8 (MDB_INTEGERKEY), holds the three keys
    in integer order, and the application DBI is unchanged by the cycle. -/
example :
    (mainToShadow exCfg exIntW 1 100 0).map (fun w =>
      (findDbi w.dbis (shadowName [0x61])).map (fun sd => (sd.flags, sd.kvs.map (·.1))))
      = .ok (some (8, [[0, 0, 0, 0], [1, 0, 0, 0], [0, 1, 0, 0]])) ∧
    (cycle exCfg exIntW 1 100 0).map (fun w => (findDbi w.dbis [0x61]).map (·.kvs))
      = .ok (some [([0, 0, 0, 0], [5]), ([1, 0, 0, 0], [7]), ([0, 1, 0, 0], [9])]) := by
  decide +kernel

/-- an application DBI "a" with an empty value under key 01 and a non-empty one under key 02 -/
def exEmptyW : W :=
  { dbis := [{ name := [0x61], flags := 0, kvs := [([1], []), ([2], [7])] }], dirty := false }

/-- **Negative witness (finding D7, known, not fixed).** An application key with a zero-length value
    is captured as a live entry with an empty value (bare 24-byte header, flags 0) — and is then
    REMOVED from the application DBI by the projection: after `mainToShadow` + `shadowToMain`
    key 01 is gone from the application DBI while key 02 is still there. So "every key present with
    its value" fails for empty values; the mirror theorems carry `projVal` / "live shadow values
    are non-empty". -/
theorem C11_empty_value_witness :
    (mainToShadow exCfg exEmptyW 1 100 0).map (fun w =>
      (findDbi w.dbis (shadowName [0x61])).map (fun sd => get false sd.kvs [1]))
      = .ok (some (some (liveBytes 100 1 []))) ∧
    (cycle exCfg exEmptyW 1 100 0).map (fun w => (findDbi w.dbis [0x61]).map (·.kvs))
      = .ok (some [([2], [7])]) := by
  decide +kernel

/-! ## the hypotheses are satisfiable -/

/-- a well-formed environment in steady state: application DBI "a" = projection of its shadow -/
def exShadow : Dbi :=
  { name := shadowName [0x61], flags := 0, kvs := [([1], liveBytes 50 3 [0x11]), ([2], markerBytes 60 4)] }

def exEnv : Env :=
  { dbis := [exShadow, { name := [0x61], flags := 0, kvs := [([1], [0x11])] }], lastTxn := 7 }

example : DistinctNames exEnv.dbis ∧ isPrivate [0x61] = false ∧
    findDbi exEnv.dbis [0x61] = some { name := [0x61], flags := 0, kvs := [([1], [0x11])] } := by
  decide +kernel

/-- the local hypotheses of `C11_capture` / `C11_step` hold on it (byte-wise key order) -/
example : Sorted false [([1], [0x11])] ∧ DKeysOK [([1], [0x11])] ∧
    Sorted false exShadow.kvs ∧ DKeysOK exShadow.kvs ∧
    (∀ p ∈ exShadow.kvs, ∀ hd v, Header.parse p.2 = .ok (hd, v) → hd.ts < 100) ∧
    MirrorOK exEnv.dbis { name := [0x61], flags := 0, kvs := [([1], [0x11])] } := by
  have hp1 : Header.parse (liveBytes 50 3 [0x11]) = _ := parse_liveBytes 50 3 [0x11] (by decide) (by decide)
  have hp2 : Header.parse (markerBytes 60 4) = _ := parse_markerBytes 60 4 (by decide) (by decide)
  refine ⟨by decide, by decide, by decide, by decide, ?_, by decide, exShadow, (by decide +kernel),
    (by decide), (by decide), ?_, ?_⟩
  · intro p hp hd v hpr
    simp only [exShadow, List.mem_cons, List.not_mem_nil, or_false] at hp
    rcases hp with rfl | rfl
    · rw [hp1] at hpr; injection hpr with hpr; injection hpr with h1 _; subst h1; decide
    · rw [hp2] at hpr; injection hpr with hpr; injection hpr with h1 _; subst h1; decide
  · intro p hp
    simp only [exShadow, List.mem_cons, List.not_mem_nil, or_false] at hp
    rcases hp with rfl | rfl
    · exact ⟨_, _, hp1⟩
    · exact ⟨_, _, hp2⟩
  · intro k
    have e1 : projVal (liveBytes 50 3 [0x11]) = some [0x11] := by unfold projVal; rw [hp1]; rfl
    have e2 : projVal (markerBytes 60 4) = none := by unfold projVal; rw [hp2]; rfl
    have hik : isIntKey 0 = false := by decide
    simp only [exShadow, hik, Lmdb.get, kcmp, Bool.false_eq_true, if_false, bcmp_eq]
    by_cases h1 : k = [1]
    · subst h1; simp [e1]
    · by_cases h2 : k = [2]
      · subst h2; simp [e2]
      · simp [h1, h2]

/-- a step with a local change (the application wrote 03 ↦ 33 in transaction 7) and a remote
    entry for key 02: succeeds; the local write and the remote entry are both in the application DBI -/
example :
    (loadOnce exCfg
      { dbis := [exShadow, { name := [0x61], flags := 0, kvs := [([1], [0x11]), ([3], [0x33])] }], lastTxn := 7 }
      { fv := 3, cv := 1, dbs := [{ name := [0x61], flags := 0, transform := [],
                                     entries := [{ key := [2], val := [0x22], ts := 70, flags := 0 }] }] }
      6 100 0).map (fun r => ((findDbi r.env.dbis [0x61]).map (·.kvs), r.localChanged, r.txnID))
      = .ok (some [([1], [0x11]), ([2], [0x22]), ([3], [0x33])], true, 8) := by
  decide +kernel

end Ls.C11
