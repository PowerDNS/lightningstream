import LsLemmas.LoopBucket
import LsProps.C12
import LsProps.C01Loop
/-
  C05 (fleets of sync loops with the real cleaner) — published data is never lost from the bucket.
  The product fleet of native-mode sync loops (LsLemmas/LoopBound.lean, LsLemmas/LoopAbs.lean)
  extended with the model of the real cleaner (LsModel/Cleaner.lean `runOnce`): an event
  `clean k now` runs instance `k`'s `Worker.RunOnce` at time `now` on the names of the shared
  bucket, with `lastByInstance` = the `St.committed` of `k`'s loop (what `SetCommitted` was handed
  after the latest successful store), every `Delete` succeeding; the deleted blobs leave the one
  bucket all instances see (`xstep`, LsLemmas/LoopBucket.lean).

  Vocabulary: `Naming` — how a blob `(inst, ts)` is named and `ParseName` reads the name back
  (`law`; `unaryNaming` is a lawful instance); `XF` — loop fleet, cleaner states, and the ghost
  list `ever` of all blobs ever stored, in storage order; `X.bucket` — the one bucket;
  `blobDB x = absSnap x.snap`; `isNewest B x` — no blob of `x`'s instance in `B` has a larger
  timestamp; `bucketJoin B` — the last-writer-wins join of `blobDB` over the newest blob of every
  instance with a blob in `B`; `XInv` — the invariant (one bucket; environments `EnvWF`; blobs of
  one instance stored in timestamp order with growing content; every instance holds what it
  published; `committed` ⊆ what was merged before a stored dump; the WITNESS invariant; the
  cleaners' first-seen times respect the storage order); side conditions `XRunOk` / `XOk`:
  `LoopOkX` (the conditions `LoopOkN` of `C01_loop_fleet_refines_native`, plus the per-instance
  clock: the time a segment reads is above the timestamps of all blobs its instance has stored)
  and `CleanOk` (the per-cleaner clock: `now` is not below any first-seen time it recorded).
-/
namespace Ls.C05
open Ls Ls.Lmdb Ls.Txn Ls.SyncLoop Ls.Loop

/-- **One cleaner run, any state.** For any naming with `parse (nm a t) = snapshot a t`, any cleaner
    configuration (enabled or not, any `mustKeep`, `removeOld`) and state whose ignore list holds only
    unparsable names, run at any time `now` on the names of a bucket `B` in which the blobs of one
    instance carry distinct timestamps and whose first-seen times respect the timestamp order per
    instance (`FsOrdered`: what a clock that does not go backwards and blobs appearing in timestamp
    order give — the hypotheses of `C12_newest_protected_partial`, here as a property of the state;
    `C05_cleaner_deletes_guarded` derives it from the loop model): every blob `Delete` is called on
    is NOT the newest blob of its instance in the bucket, or its timestamp is at most the time the
    cleaner was told (`lastByInstance`) for the blob's instance. -/
theorem C05_cleaner_run_guarded (N : Naming) (cfg : Cleaner.Cfg) (st : Cleaner.St) (now : Int) (B : Bucket)
    (hig : ∀ n ∈ st.ignored, N.parse n = none) (hdist : DistinctTs B)
    (hord : FsOrdered N st.firstSeen B) (x : Blob)
    (hdel : N.nameOf x ∈
      (Cleaner.runOnce N.parse cfg st now (some (B.map N.nameOf)) (fun _ => false)).2.delCalls) :
    (∃ y ∈ B, y.inst = x.inst ∧ x.ts < y.ts) ∨
    (∃ T, Cleaner.look x.inst st.committed = some T ∧ (x.ts : Int) ≤ T) :=
  clean_deletes_guarded N cfg st now B hig hdist hord x hdel

/-- **What a cleaner of the fleet deletes.** In every state of the extended fleet satisfying the
    invariant `XInv` (every state an admissible schedule reaches,
    `C05_loop_fleet_join_monotone_partial`), for every instance `k` of the fleet, any cleaner
    configuration and any time `now`: every blob `w` the run deletes is EITHER not the newest blob
    of its instance in the bucket, OR its timestamp is at most the time `p.2` that `k`'s loop has in
    `St.committed` for `w`'s instance — and that entry is backed by the storage history: a blob of
    that instance with timestamp `p.2` (that very blob `w`, or a newer one of the same instance)
    was stored, and `k` merged it BEFORE taking a dump `d` that was then stored and whose content
    dominates it (`committed` ⊆ `lastBy` at the time of `k`'s latest successful store). The order
    and clock hypotheses of `C12_newest_protected_partial` are not assumed here: they are part of
    the invariant, derived from the per-instance and per-cleaner clock conditions of the schedule. -/
theorem C05_cleaner_deletes_guarded (N : Naming) (cs : Nat → LoopCfg) (ccfg : Nat → Cleaner.Cfg)
    (n : Nat) (X : XF) (k now : Nat) (hinv : XInv N cs n X) (hk : k < n) (w : Blob)
    (hd : dead N (cleanRun N ccfg selCommitted X k now).2 w = true) :
    (∃ y ∈ X.bucket, y.inst = w.inst ∧ w.ts < y.ts) ∨
    ∃ p ∈ (X.F k).st.committed, p.1 = w.inst ∧ w.ts ≤ p.2 ∧
      ∃ (q : Nat) (d : Blob), X.ever[q]? = some d ∧
        ∃ (i : Nat) (z : Blob), i < q ∧ X.ever[i]? = some z ∧ z.inst = p.1 ∧ z.ts = p.2 ∧
          (blobDB z).le (blobDB d) :=
  xclean_guarded N cs ccfg n X k now hinv hk w hd

/-- **The witness invariant for fleets of sync loops.** In every state satisfying `XInv`, every
    blob ever stored (position `p` of the storage history, deleted or not) is dominated by a blob
    stored no earlier that is still in the bucket and is the newest blob of its instance there —
    `C05_witness_invariant_ordered`, for the loop fleet with the real cleaner. -/
theorem C05_loop_fleet_witness (N : Naming) (cs : Nat → LoopCfg) (n : Nat) (X : XF)
    (hinv : XInv N cs n X) (p : Nat) (x : Blob) (hx : X.ever[p]? = some x) :
    ∃ (q : Nat) (w : Blob), p ≤ q ∧ X.ever[q]? = some w ∧ w ∈ X.bucket ∧
      isNewest X.bucket w = true ∧ (blobDB x).le (blobDB w) :=
  hinv.wit p x hx

/-- **One event.** From a state satisfying the invariant, an event satisfying its side condition
    leads to a state satisfying the invariant, and the join over the newest blobs of the bucket
    after the event is, for every key, at least as new as before. -/
theorem C05_loop_fleet_join_step (N : Naming) (cs : Nat → LoopCfg) (ccfg : Nat → Cleaner.Cfg) (n : Nat)
    (hn : ∀ j, (cs j).txn.native = true) (hro : ∀ j, (cs j).txn.receiveOnly = false)
    (hown : ∀ i j, i < n → j < n → (cs i).own = (cs j).own → i = j)
    (X : XF) (e : XEv) (hinv : XInv N cs n X) (hok : XOk cs n X e) :
    XInv N cs n (xstep N cs ccfg selCommitted X e) ∧
    (bucketJoin X.bucket).le (bucketJoin (xstep N cs ccfg selCommitted X e).bucket) :=
  xinv_step N cs ccfg n hn hro hown X e hinv hok

/-- **Property C05 for fleets of native-mode sync loops with the real cleaner model.** `n`
    instances with pairwise distinct names, native schema, not receive-only, each booting from its
    own well-formed environment with a fresh cleaner (any cleanup configuration per instance:
    enabled or not, any `mustKeep`, any `removeOld`), over an empty bucket; any lawful `Naming`.
    Along every schedule of loop events (segments with arbitrary receiver answers, store failures
    and — increasing per instance — clock readings; single-put application transactions as in
    `LoopOkN`; listings) and cleaner runs of any instance, at any times that do not go backwards
    per cleaner (`XRunOk`): at every moment the newest snapshots of all instances jointly contain,
    for every key, a version at least as new as any version they jointly contained before —
    `(bucketJoin B_before).le (bucketJoin B_after)` for any two moments of the schedule — and the
    invariant `XInv` holds throughout (so `C05_cleaner_deletes_guarded` and
    `C05_loop_fleet_witness` apply at every moment).
    `_partial`: no restarts (an instance never loses its LMDB or its loop state; with restarts the
    abstract system of LsProps/C05.lean needs the "wait for the own snapshot" guard, which the
    loop model has as `waiting` but which is not connected here); native mode only; no blobs from
    outside the fleet; every `Delete` succeeds (a failing `Delete` only deletes less). -/
theorem C05_loop_fleet_join_monotone_partial (N : Naming) (cs : Nat → LoopCfg)
    (ccfg : Nat → Cleaner.Cfg) (n : Nat)
    (hn : ∀ j, (cs j).txn.native = true) (hro : ∀ j, (cs j).txn.receiveOnly = false)
    (hown : ∀ i j, i < n → j < n → (cs i).own = (cs j).own → i = j)
    (envs : Nat → Env) (hwf : ∀ j, EnvWF (envs j))
    (pre post : List XEv) (hok : XRunOk N cs ccfg n (xinit envs) (pre ++ post)) :
    XInv N cs n (xrun N cs ccfg selCommitted (xinit envs) pre) ∧
    XInv N cs n (xrun N cs ccfg selCommitted (xinit envs) (pre ++ post)) ∧
    (bucketJoin (xrun N cs ccfg selCommitted (xinit envs) pre).bucket).le
      (bucketJoin (xrun N cs ccfg selCommitted (xinit envs) (pre ++ post)).bucket) := by
  obtain ⟨h1, h2⟩ := xrunOk_append pre post _ hok
  obtain ⟨i1, _⟩ := xinv_run N cs ccfg n hn hro hown pre _ (xinv_init N cs n envs hwf) h1
  obtain ⟨i2, hle⟩ := xinv_run N cs ccfg n hn hro hown post _ i1 h2
  rw [xrun_append]
  exact ⟨i1, i2, hle⟩

namespace FleetExample
open Ls.Loop.Witness (cfgN app)
open Ls.Loop.BoundWitness (hv)
open Ls.C01.LoopExample (seg)
open Ls.C01.LoopExampleN (cfgNb csN envN)

/-- cleanup enabled, both intervals zero (only the order of times matters) -/
def ccfg : Nat → Cleaner.Cfg := fun _ => { enabled := true, mustKeep := 0, removeOld := 0 }

def X0 : XF := xinit (fun _ => envN)

/-- "a" writes key 1 and starts: its start-up `SendOnce` dumps at 5 and stores blob `a@5`; "b"
    starts; b's cleaner runs for the first time (at 10: it only records what it sees); "b" merges
    `a@5` and records it in `lastBy` — but has NOT uploaded anything -/
def common : List XEv :=
  [.loop (0, .app [.put app [1] (hv 65)]),
   .loop (0, seg none 5), .loop (0, seg none 6), .loop (0, seg none 7),
   .loop (1, seg none 8),
   .clean 1 10,
   .loop (1, seg (some ("a", 5)) 11), .loop (1, seg none 12)]

/-- … "b" writes key 2, runs its iteration: dumps at 14, stores `b@14`, and tells its cleaner
    (`committed := lastBy`) -/
def upload : List XEv :=
  [.loop (1, .app [.put app [2] (hv 66)]),
   .loop (1, seg none 13), .loop (1, seg none 14), .loop (1, seg none 15), .loop (1, seg none 16)]

def k1 : Abs.Key := (app, [1])

/-- **The guard is necessary (the aliasing bug).** If the cleaner is told `lastBy` (merged, but
    not yet uploaded) instead of `committed`, then after `common` a run of b's cleaner at 20 deletes
    `a@5` — the newest and only blob of "a", which "b" has merged but never re-published: the
    bucket is empty, and the join over the newest snapshots, which held key 1, holds nothing — it
    DECREASES. With `committed` (empty: "b" never stored) the same run deletes nothing. -/
theorem C05_lastBy_instead_of_committed_loses_data :
    let Xc := xrun unaryNaming csN ccfg selLastBy X0 common
    ((Xc.F 1).st.lastBy = [("a", 5)] ∧ (Xc.F 1).st.committed = []) ∧
    (Xc.bucket.map fun x => (x.inst, x.ts)) = [("a", 5)] ∧
    bucketJoin Xc.bucket k1 = some ⟨7, false, [65]⟩ ∧
    (xstep unaryNaming csN ccfg selLastBy Xc (.clean 1 20)).bucket = [] ∧
    ¬ (bucketJoin Xc.bucket).le (bucketJoin (xstep unaryNaming csN ccfg selLastBy Xc (.clean 1 20)).bucket) ∧
    ((xstep unaryNaming csN ccfg selCommitted Xc (.clean 1 20)).bucket.map fun x => (x.inst, x.ts)) =
      [("a", 5)] := by
  intro Xc
  have e1 : bucketJoin Xc.bucket k1 = some ⟨7, false, [65]⟩ := by decide +kernel
  have e2 : (xstep unaryNaming csN ccfg selLastBy Xc (.clean 1 20)).bucket = [] := by decide +kernel
  refine ⟨by decide +kernel, by decide +kernel, e1, e2, ?_, by decide +kernel⟩
  intro hle
  have := hle k1
  rw [e1, e2] at this
  cases this

/-- `app` is an application DBI name; the written values are well-formed stored values -/
theorem C05_example_facts : isPrivate app = false ∧ StoredWF (hv 65) ∧ StoredWF (hv 66) := by
  decide +kernel

/-- **The hypotheses are satisfiable, with a cleaner that really deletes.** The schedule
    `common ++ upload` followed by a run of b's cleaner at 20 satisfies every side condition; the
    run deletes `a@5` — the newest blob of "a", legitimately: "b" merged it before its dump `b@14`,
    which is stored — and the join over the newest snapshots still holds key 1 (now through
    `b@14`), and key 2. -/
theorem C05_example_runOk :
    XRunOk unaryNaming csN ccfg 2 X0 (common ++ upload ++ [.clean 1 20]) :=
  xRunOk_of_check _ _ (by decide +kernel)

/-- the configuration hypotheses, as one fact -/
theorem C05_example_cfg : (∀ j, (csN j).txn.native = true) ∧ (∀ j, (csN j).txn.receiveOnly = false) ∧
    (∀ i j, i < 2 → j < 2 → (csN i).own = (csN j).own → i = j) ∧ EnvWF envN := by
  refine ⟨fun j => ?_, fun j => ?_, ?_, by decide +kernel⟩
  · unfold csN; split <;> decide +kernel
  · unfold csN; split <;> decide +kernel
  · intro i j hi hj h
    have hi' : i = 0 ∨ i = 1 := by omega
    have hj' : j = 0 ∨ j = 1 := by omega
    rcases hi' with rfl | rfl <;> rcases hj' with rfl | rfl
    · rfl
    · exact absurd h (by decide +kernel)
    · exact absurd h (by decide +kernel)
    · rfl

/-- the state after `common ++ upload`: "b" has told its cleaner that it merged `a@5`; the bucket
    holds `a@5` and `b@14` -/
example :
    ((xrun unaryNaming csN ccfg selCommitted X0 (common ++ upload)).F 1).st.committed = [("a", 5)] ∧
    ((xrun unaryNaming csN ccfg selCommitted X0 (common ++ upload)).bucket.map fun x => (x.inst, x.ts)) =
      [("a", 5), ("b", 14)] ∧
    bucketJoin (xrun unaryNaming csN ccfg selCommitted X0 (common ++ upload)).bucket k1 =
      some ⟨7, false, [65]⟩ := by
  decide +kernel

/-- … and the theorem applies across the cleaner run at 20 (whose `slices.SortFunc` over two
    candidates the kernel cannot evaluate: `List.mergeSort` is defined by well-founded recursion):
    the invariant holds before and after, and the join over the newest snapshots does not
    decrease — whatever the run deletes. -/
example :
    XInv unaryNaming csN 2 (xrun unaryNaming csN ccfg selCommitted X0 (common ++ upload ++ [.clean 1 20])) ∧
    (bucketJoin (xrun unaryNaming csN ccfg selCommitted X0 (common ++ upload)).bucket).le
      (bucketJoin (xrun unaryNaming csN ccfg selCommitted X0 (common ++ upload ++ [.clean 1 20])).bucket) := by
  obtain ⟨_, h2, h3⟩ := C05_loop_fleet_join_monotone_partial unaryNaming csN ccfg 2 C05_example_cfg.1
    C05_example_cfg.2.1 C05_example_cfg.2.2.1 (fun _ => envN) (fun _ => C05_example_cfg.2.2.2)
    (common ++ upload) [.clean 1 20] C05_example_runOk
  exact ⟨h2, h3⟩

end FleetExample

end Ls.C05
