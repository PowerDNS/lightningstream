import LsLemmas.LoopWitness
/-
  C09 — Every committed local change gets published.

  Over the sync-loop model with application transactions at every yield point and arbitrary
  numbers of failing Store attempts. The full-strength statement is FALSE of the model and of the
  code (finding D9: `C09_race_witness`, `C09_race_witness_native`); what is proved for ALL
  schedules that avoid the race window `Racy` (named in `LsProps/C03.lean` and
  `LsLemmas/LoopGhost.lean`) is `C09_I2_partial`.

  Ghost bookkeeping (`LsLemmas/LoopGhost.lean`, never read by the model): a recorded application
  transaction goes into `allApp`, `unpub` and `sinceInfo`; when a dump begins (`SendOnce`'s
  transaction — the dump is the complete image of the LMDB at that transaction, `C06_complete`,
  so it covers every transaction recorded before) `unpub` moves to `inflight`; when the dump is
  stored `inflight` moves to `published`; `sinceInfo` is emptied by every `beforeInfo` segment.
-/
namespace Ls.C09
open Ls Ls.Txn Ls.SyncLoop Ls.Loop

/-- **I2 at idle (partial: race-free schedules).** After every schedule without a recorded
    application transaction inside the race window, of an instance that is not receive-only: if the
    loop is idle (`pc = sleep`: it has not ended) and its own instance is not in the start-up
    waiting set, then every application transaction LMDB ever recorded is covered by a dump that
    was stored in the bucket — or was committed after the `beforeInfo` step of the iteration that
    just ended (the next iteration sees `lastTxn > lastSynced`, `C09_I2_ids`, and sends).
    Exceptions, stated: (1) the race window (D9); (2) receive-only instances never store;
    (3) while the own instance is in the waiting set the loop deliberately does not upload (C05);
    (4) when Store fails `retryCount` times the loop ends with an error (`C09_retry`), it does not
    idle. The start-up guard `hasDataAtStart ∨ lastSynced > 0` is no exception:
    `C09_startup_guard_dead`. -/
theorem C09_I2_partial (c : LoopCfg) (env : Env) (b : Bucket) (evs : List Ev)
    (hrf : RaceFree c env b evs) (hro : c.txn.receiveOnly = false)
    (hidle : (run c env b evs).st.pc = .sleep) (hown : c.own ∉ (run c env b evs).st.waiting) :
    ∀ p ∈ (run c env b evs).gh.allApp,
      p ∈ (run c env b evs).gh.published ∨ p ∈ (run c env b evs).gh.sinceInfo := by
  have h0 := inv0_run c env b evs
  have h1 := inv1_run hrf
  unfold Inv1 at h1
  rw [hidle] at h1
  intro p hp
  have hin := h0.inflight hro (by rw [hidle]; rfl)
  rcases h0.cover p hp with h | h | h
  · exact Or.inr (h1.2 hown p h)
  · rw [hin] at h; cases h
  · exact Or.inl h

/-- **I2 in terms of transaction ids (partial: race-free schedules).** At the yield points where
    the loop has no send in progress (`top`, `loadAfterTxn`, `beforeInfo`, `sleep`, and `boot`),
    every application transaction not covered by a dump has an id above `lastSynced` and at most
    `lastTxn` — so `beforeInfo` finds `lastTxn > lastSynced` and uploads (unless the own instance
    is still waited for). -/
theorem C09_I2_ids (c : LoopCfg) (env : Env) (b : Bucket) (evs : List Ev)
    (hrf : RaceFree c env b evs)
    (hpc : (run c env b evs).st.pc = .boot ∨ (run c env b evs).st.pc = .top ∨
      (run c env b evs).st.pc = .beforeInfo ∨ (run c env b evs).st.pc = .sleep ∨
      ∃ t lc inst ts n, (run c env b evs).st.pc = .loadAfterTxn t lc inst ts n) :
    ∀ p ∈ (run c env b evs).gh.unpub,
      (run c env b evs).st.lastSynced < p ∧ p ≤ (run c env b evs).st.env.lastTxn := by
  have h0 := inv0_run c env b evs
  have h1 := inv1_run hrf
  unfold Inv1 at h1
  intro p hp
  refine ⟨?_, h0.all_le.2 p hp⟩
  rcases hpc with h | h | h | h | ⟨t, lc, inst, ts, n, h⟩ <;> rw [h] at h1
  · exact h1.2 p hp
  · exact h1.2 p hp
  · exact h1.2 p hp
  · exact h1.1.2 p hp
  · exact h1.1.2 p hp

/-- **The decision at `beforeInfo`**, for any state: with `lastTxn > lastSynced` and the own
    instance not waited for, the loop sets `lastSynced := lastTxn` and goes on to `SendOnce`. The
    branch "LMDB is empty, waiting for data" (`¬ hasDataAtStart ∧ lastSynced = 0` after the
    assignment) cannot be taken on this path: `lastTxn > lastSynced ≥ 0`. (That branch is
    reachable only through `snapshotOverdue`: an armed force flag with an empty LMDB. The
    statement holds whether or not the force flag is armed.) -/
theorem C09_startup_guard_dead (c : LoopCfg) (b : Bucket) (s : St) (i : In)
    (hpc : s.pc = .beforeInfo) (hgt : s.env.lastTxn > s.lastSynced)
    (hown : c.own ∉ s.waiting) :
    (go c b s i).1.pc = .beforeSend ∧ (go c b s i).1.lastSynced = s.env.lastTxn ∧
    (go c b s i).1.env = s.env := by
  obtain ⟨g1, _, g3, g4⟩ := go_pc c b s i
  rw [g1, g3, g4, goRaw_beforeInfo hpc, if_pos (Or.inl hgt), if_neg (by simpa using hown),
    if_pos (Or.inr (by omega))]
  exact ⟨rfl, rfl, rfl⟩

/-- **Store retries** (also C05's `C05_retry`). From the yield point after `SendOnce`'s transaction,
    not receive-only: with fewer failing attempts than the retry budget the dump — exactly the
    blob `(own, ts, snap)` of that transaction — is appended to the bucket and the loop is at
    `sendStored`; with the budget exhausted the loop ends with the error "store" and the bucket is
    unchanged. It never continues as if it had stored. -/
theorem C09_retry (c : LoopCfg) (b : Bucket) (s : St) (i : In) (who : Caller) (t ts : Nat) (snap : Snap)
    (hpc : s.pc = .sendAfterTxn who t ts snap) (hro : c.txn.receiveOnly = false) :
    (i.fails < c.retryCount →
      (go c b s i).2 = b ++ [{ inst := c.own, ts := ts, snap := snap }] ∧
      (go c b s i).1.pc = .sendStored who (if s.env.lastTxn < t then s.env.lastTxn else t) ∧
      (go c b s i).1.lastSynced = s.lastSynced) ∧
    (i.fails ≥ c.retryCount →
      (go c b s i).2 = b ∧ (go c b s i).1.pc = .exited (.err "store")) := by
  rw [go_store hpc hro]
  refine ⟨fun hf => ?_, fun hf => ?_⟩
  · rw [if_neg (by omega)]
    exact ⟨rfl, rfl, rfl⟩
  · rw [if_pos hf]
    exact ⟨rfl, rfl⟩

/-- after a store, `lastSynced` becomes the transaction id `SendOnce` reported -/
theorem C09_after_store (c : LoopCfg) (b : Bucket) (s : St) (i : In) (who : Caller) (t : Nat)
    (hpc : s.pc = .sendStored who t) :
    (go c b s i).1.lastSynced = t ∧ (go c b s i).2 = b := by
  obtain ⟨_, _, _, g4⟩ := go_pc c b s i
  rw [g4, go_eq, goRaw_sendStored hpc]
  rw [sendReturned_eq]
  cases who <;> exact ⟨rfl, rfl⟩

/-! ## the race (finding D9) -/

open Ls.Loop.Witness in
/-- **An application commit right after an empty `SendOnce` transaction is never uploaded.**
    Shadow-mode instance "a" (`schedC09`): the application's transaction that writes `[3]` lands on
    the yield point after `SendOnce`'s empty transaction and is recorded with id 4; the loop stores
    the dump — keys `[1]`, `[2]` — and sets `lastSynced := 4 = lastTxn`. After a whole further
    iteration the loop idles, the own instance is not waited for, transaction 4 is in neither
    `published` nor `sinceInfo` (the conclusion of `C09_I2_partial` fails), the LMDB holds `[3]`
    and the newest own snapshot does not. And it stays so FOREVER: from there, for every continuation of any
    length in which no application transaction is recorded — any receiver answers, any snapshots
    of others, any listings — the loop stores nothing (`synced_run`). -/
theorem C09_race_witness :
    ¬ RaceFree cfgS env0 bkt schedC09 ∧ RaceFree cfgS env0 bkt (schedC09.take 10) ∧
    Racy (run cfgS env0 bkt (schedC09.take 10)).st ∧
    (run cfgS env0 bkt schedC09).st.pc = .sleep ∧
    cfgS.own ∉ (run cfgS env0 bkt schedC09).st.waiting ∧
    (run cfgS env0 bkt schedC09).gh.allApp = [4, 2] ∧
    (run cfgS env0 bkt schedC09).gh.published = [2] ∧
    (run cfgS env0 bkt schedC09).gh.sinceInfo = [] ∧
    (appKvs (run cfgS env0 bkt schedC09)).map (·.map (·.1)) = some [[1], [2], [3]] ∧
    ownKeys (run cfgS env0 bkt schedC09) = some [[[1], [2]]] ∧
    (∀ evs, NoAppFrom cfgS (run cfgS env0 bkt schedC09) evs →
      (runFrom cfgS (run cfgS env0 bkt schedC09) evs).bucket =
        (run cfgS env0 bkt schedC09).bucket ++ othersOf evs) := by
  -- all the decidable facts in one evaluation of the schedule, with `Synced` in the place of the
  -- last conjunct, which follows from it (`synced_run`)
  exact .imp_right (.imp_right (.imp_right (.imp_right (.imp_right (.imp_right (.imp_right (.imp_right
    (.imp_right (.imp_right fun (hs : Synced _) evs hna => (synced_run cfgS _ evs hs hna).2)))))))))
    (by decide +kernel)

open Ls.Loop.Witness in
/-- **Native schema: an application commit right after an empty `LoadOnce` transaction is never
    uploaded** (`schedC09n`; native `SendOnce` uses a read transaction, so in native mode the race
    exists only after `LoadOnce`). Nothing is destroyed (`C03_race_native_harmless`), but the loop
    idles with `lastSynced = lastTxn = 2`, transaction 2 unpublished, no own snapshot in the bucket
    at all — forever, as above. -/
theorem C09_race_witness_native :
    ¬ RaceFree cfgN env0 bkt schedC09n ∧
    (run cfgN env0 bkt schedC09n).st.pc = .sleep ∧
    cfgN.own ∉ (run cfgN env0 bkt schedC09n).st.waiting ∧
    (run cfgN env0 bkt schedC09n).gh.allApp = [2] ∧
    (run cfgN env0 bkt schedC09n).gh.published = [] ∧
    (run cfgN env0 bkt schedC09n).gh.sinceInfo = [] ∧
    (appKvs (run cfgN env0 bkt schedC09n)).map (·.map (·.1)) = some [[1], [2]] ∧
    ownKeys (run cfgN env0 bkt schedC09n) = none ∧
    (∀ evs, NoAppFrom cfgN (run cfgN env0 bkt schedC09n) evs →
      (runFrom cfgN (run cfgN env0 bkt schedC09n) evs).bucket =
        (run cfgN env0 bkt schedC09n).bucket ++ othersOf evs) := by
  exact .imp_right (.imp_right (.imp_right (.imp_right (.imp_right (.imp_right (.imp_right (.imp_right
    fun (hs : Synced _) evs hna => (synced_run cfgN _ evs hs hna).2)))))))
    (by decide +kernel)

open Ls.Loop.Witness in
/-- the hypotheses of `C09_I2_partial` are satisfiable, and its conclusion is the interesting
    disjunct: a race-free schedule whose application transaction is published (the newest own
    snapshot contains the key) -/
example : RaceFree cfgS env0 bkt schedOk ∧ cfgS.txn.receiveOnly = false ∧
    (run cfgS env0 bkt schedOk).st.pc = .sleep ∧ cfgS.own ∉ (run cfgS env0 bkt schedOk).st.waiting ∧
    (run cfgS env0 bkt schedOk).gh.allApp = [2] ∧ (run cfgS env0 bkt schedOk).gh.published = [2] ∧
    ownKeys (run cfgS env0 bkt schedOk) = some [[[1], [2]]] := by
  decide +kernel

end Ls.C09
