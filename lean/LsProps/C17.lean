import LsLemmas.ConcTopic
import LsLemmas.ConcToken
import LsLemmas.ConcStorage
import LsModel.Generated
import LsModel.SyncLoop
/-
  C17 — Concurrent components neither race nor deadlock.

  Stated on the small-step models of LsModel/Conc.lean (explicit program counters, mutex owners,
  rendez-vous channels, channel close). A state is a *deadlock* (`Stuck`) when some goroutine is
  unfinished and no step at all is enabled. All theorems hold for every number of goroutines and
  every interleaving: they are consequences of the inductive invariants in
  LsLemmas/ConcTopic.lean, ConcToken.lean, ConcStorage.lean.

  * Topic (utils/topics): one publisher calling `Publish` any number of times, any number of
    subscriber goroutines `Subscribe; (Next | Close)*`, `Close` at any moment and any number of
    times, the subscribers' context cancelled at any moment. The model with `fixed = true` is the
    code after 6c0a76e; `fixed = false` is the code before it and has the deadlock D5.
  * Token (utils/climit): capacity `limit`, `n` goroutines, each any sequence of `Acquire`,
    `Release` of any token acquired so far (its own or not, released already or not), finish.
  * Global storage (snapshot/storage): `nSet` calls of `SetGlobal`, `nGet` calls of `GetGlobal`,
    with a pending writer holding back new readers or not. `fixed = true` is the code after
    9c71a0d; `fixed = false` has the panic D4.
  * Lock discipline: the table regenerated from the Go source by the extractor.

  Cancellation of the sync loop (`C17_cancel_edges`). The sync-loop model LsModel/SyncLoop.lean
  has no blocking step: one `go` runs from one yield point to the next, so there is nothing to
  prove about blocking on it. The real loop blocks at four kinds of places, each of which has a
  cancellation alternative in the current code:
    - `utils.SleepContext(ctx, …)` at the end of an iteration (yield point `loop.sleep`);
    - the sleep between `Store` attempts in `SendOnce` (`SleepContext`; yield points
      `send.afterTxn`, `send.stored`);
    - the start-up "wait for the initial listing" retry (`time.Sleep` before 09f49c2 — finding
      D11 — now `SleepContext` and return; yield point `startup.listingFailed`);
    - `ConcurrencyLimit.Acquire` in the downloaders (released by `Token.Release`, which by
      `C17_token_release` never blocks; the downloader goroutines end with the context).
  That cancelling at each of these points makes `Sync` return is validated on the real code by
  the harness scenarios `conc.cancel` (startup.listingFailed, send.afterTxn, send.stored, loop.top,
  loop.beforeInfo, loop.sleep); on the model the only statement is that an exited loop stays
  exited.
-/
namespace Ls.C17
open Ls Ls.Conc

/-- Topic: no deadlock, and the publisher is never wedged. With the current code, for every number
    `k` of subscriber goroutines and every schedule, in every reachable state:
    (1) the state is not a deadlock: if some goroutine is unfinished some step is enabled;
    (2) more precisely some step of a *goroutine* (not the cancellation of the context) is
        enabled, unless the publisher has finished, the context is not cancelled and every
        unfinished subscriber waits in `Next` for a value — the only legitimate waiting, which the
        cancellation ends;
    (3) if the publisher is blocked in `Publish` sending to subscriber `i`, then subscriber `i`
        exists and is at distance `d ≤ 4` (`waitDist`) from releasing it: for `d = 0` the delivery
        (subscriber `i` is receiving in `Next`) or the skip (subscriber `i` has executed
        `close(closing)` and waits for the topic mutex) is enabled now; for `d > 0` subscriber `i`
        has an enabled step of its own and each of its enabled steps lowers `d` and leaves the
        publisher where it is — whether it goes on to receive or starts to `Close`;
    (4) the number of subscribers the current `Publish` call still has to serve is at most `k`. -/
theorem C17_topic_no_wedge (k : Nat) {s : Topic.St} (h : Topic.Reach true k s) :
    ¬ Topic.Stuck s ∧
    (¬ Topic.allDone s → (∃ a, a ≠ Topic.Step.cancel ∧ Topic.guard s a = true) ∨ Topic.Quiescent s) ∧
    (∀ i todo, s.pub = .sending i todo → ∃ sb, s.subs[i]? = some sb ∧ Topic.waitDist sb.pc ≤ 4 ∧
      (Topic.waitDist sb.pc = 0 →
        Topic.guard s .pubDeliver = true ∨ Topic.guard s .pubSkip = true) ∧
      (0 < Topic.waitDist sb.pc → (∃ a, Topic.guard s (.sub i a) = true) ∧
        ∀ a, Topic.guard s (.sub i a) = true →
          ∃ sb', (Topic.next s (.sub i a)).subs[i]? = some sb' ∧
            Topic.waitDist sb'.pc < Topic.waitDist sb.pc ∧
            (Topic.next s (.sub i a)).pub = .sending i todo)) ∧
    Topic.pubRemaining s.pub ≤ k := by
  have hinv := Topic.inv_reach h
  have hfix := Topic.fixed_reach h
  refine ⟨Topic.not_stuck hinv hfix, Topic.progress hinv hfix, ?_, hinv.rem⟩
  intro i todo hp
  obtain ⟨sb, hi, h0, h1⟩ := Topic.blocked_measure hinv hfix hp
  exact ⟨sb, hi, Topic.waitDist_le sb.pc, h0, h1⟩

/-- Topic: a `Publish` call makes at most |subscribers| deliveries or skips. In every state,
    reachable or not (`_h` is not needed), in which the publisher is at a program counter inside
    `Publish` (`pubHolds`; in reachable states it then holds the topic mutex), no enabled step
    of anybody increases the number of subscribers still to be served, every delivery and every
    skip lowers it by exactly one, and a step other than the completion of the blocked send or a
    step of the subscriber the publisher is blocked on changes neither the publisher nor that
    subscriber. Together with `C17_topic_no_wedge` (the count starts at most at `k`, a blocked
    send is released after at most four steps of the subscriber concerned): every `Publish`
    returns provided the subscriber it is blocked on is scheduled. -/
theorem C17_topic_publish_bounded (k : Nat) {s : Topic.St} (_h : Topic.Reach true k s) (a : Topic.Step)
    (hg : Topic.guard s a = true) (hin : Topic.pubHolds s.pub = true) :
    Topic.pubRemaining (Topic.next s a).pub ≤ Topic.pubRemaining s.pub ∧
    ((a = .pubDeliver ∨ a = .pubSkip) →
      Topic.pubRemaining (Topic.next s a).pub + 1 = Topic.pubRemaining s.pub) ∧
    (∀ i todo, s.pub = .sending i todo → a ≠ .pubDeliver → a ≠ .pubSkip → a ≠ .pubSendClosed →
      (∀ b, a ≠ .sub i b) →
      (Topic.next s a).pub = s.pub ∧ (Topic.next s a).subs[i]? = s.subs[i]?) :=
  ⟨(Topic.remaining_step a hg hin).1, (Topic.remaining_step a hg hin).2,
   fun _ _ hp h1 h2 h3 h4 => Topic.blocked_stable hp a hg h1 h2 h3 h4⟩

/-- Topic, the code before 6c0a76e deadlocks (finding D5). With one subscriber there is a
    reachable deadlock of the old code (`Publish` sends unconditionally while holding the topic
    mutex, `Close` does not announce itself): the publisher is blocked in the send to subscriber 0
    holding the topic mutex, subscriber 0 is inside `Close` (holding its own mutex) waiting for the
    topic mutex, the context is already cancelled, and no step is enabled. The schedule:
    subscribe; `Publish` takes the mutex and starts the send; the subscriber calls `Close`. -/
theorem C17_topic_deadlock_witness_old :
    ∃ s, Topic.Reach false 1 s ∧ Topic.Stuck s ∧ s.pub = .sending 0 [] ∧ s.tmu = some .pub ∧
      s.cancelled = true ∧ (s.subs[0]?).map (·.pc) = some .cLockT ∧ (s.subs[0]?).map (·.smu) = some true := by
  let sched : List Topic.Step :=
    [.sub 0 .subLock, .sub 0 .subInsert, .pubCall, .pubLock, .pubPick 0, .cancel,
     .sub 0 .closeCall, .sub 0 .lockS, .sub 0 .check]
  have hrun : Topic.run (Topic.init false 1) sched =
      some { fixed := false, tmu := some .pub, cancelled := true, pub := .sending 0 [],
             subs := [{ pc := .cLockT, smu := true, topicNil := false, inMap := true }] } := by decide
  refine ⟨_, Topic.reach_run Topic.Reach.init sched hrun, ⟨by decide, ?_⟩, rfl, rfl, rfl, rfl, rfl⟩
  intro a
  cases a with
  | sub i b =>
    cases i with
    | zero => cases b <;> rfl
    | succ n => simp [Topic.guard]
  | pubPick i => rfl
  | _ => rfl

/-- Topic: the publisher never sends on a closed channel and nothing is closed twice. For both
    versions of the code, every `k` and every schedule, in every reachable state: the publisher
    has not panicked and the panicking send is not enabled; if the publisher is blocked sending to
    subscriber `i` then `i`'s channel is open (it is closed only under the topic mutex, which
    `Publish` holds while it sends, and only together with the removal from the map); and for
    every subscription `close(closing)` and `close(ch)` have each been executed at most once —
    exactly as often as the respective channel is closed. -/
theorem C17_topic_no_send_on_closed (fixed : Bool) (k : Nat) {s : Topic.St} (h : Topic.Reach fixed k s) :
    s.pub ≠ .panic ∧ Topic.guard s .pubSendClosed = false ∧
    (∀ i todo, s.pub = .sending i todo → ∃ sb, s.subs[i]? = some sb ∧ sb.chClosed = false) ∧
    (∀ sb ∈ s.subs, sb.nClosing ≤ 1 ∧ sb.nCh ≤ 1 ∧ sb.nClosing = sb.closing.toNat ∧
      sb.nCh = sb.chClosed.toNat) := by
  have hinv := Topic.inv_reach h
  refine ⟨hinv.noPanic, Topic.sendClosed_disabled hinv, ?_, ?_⟩
  · intro i todo hp
    obtain ⟨sb, hi, _, hc, _⟩ := Topic.blocked_on hinv hp
    exact ⟨sb, hi, hc⟩
  · intro sb hsb
    obtain ⟨i, hi⟩ := List.mem_iff_getElem?.mp hsb
    obtain ⟨h1, h2⟩ := Topic.subOk_counts (hinv.loc i sb hi)
    refine ⟨?_, ?_, h1, h2⟩
    · rw [h1]; cases sb.closing <;> simp
    · rw [h2]; cases sb.chClosed <;> simp

/-- Token: `Release` from any goroutine, any number of times, never blocks and returns each token
    once. For every capacity `limit`, every number `n` of goroutines and every interleaving of
    their `Acquire`s and `Release`s (of any token handed out so far, whoever acquired it, released
    already or not), in every reachable state:
    (1) channel contents plus tokens for which nothing has been sent back equals `limit`
        (so the channel never overflows);
    (2) a goroutine at the send inside `Release` finds room in the channel: the send is enabled;
    (3) a goroutine waiting for a token's mutex either gets it now or the goroutine holding it
        has an enabled step; a goroutine holding it always has one;
    (4) no deadlock caused by `Release`: if some goroutine is unfinished then some step is
        enabled, unless every unfinished goroutine is blocked in `Acquire` on an empty channel
        (all `limit` tokens are out and nobody is left to release them: the callers broke
        "a Token MUST be released"; with `limit = 0` excluded by `New`);
    (5) for every token at most one value was sent back, a released token has exactly one, and
        while its mutex is free "released" and "sent back" agree;
    (6) at the end — whenever every token handed out is released — the channel is full again:
        `free = limit`. -/
theorem C17_token_release (limit n : Nat) {s : Token.St} (h : Token.Reach limit n s) :
    s.free + Token.unsent s.toks = s.limit ∧
    (∀ g t, s.gs[g]? = some (.rSend t) → s.free < s.limit ∧ Token.guard s ⟨g, .send⟩ = true) ∧
    (∀ g t, s.gs[g]? = some (.rLock t) → Token.guard s ⟨g, .lock⟩ = true ∨
      ∃ g' a, Token.tokMu s t = some (some g') ∧ Token.guard s ⟨g', a⟩ = true) ∧
    (¬ Token.allDone s → (∃ x, Token.guard s x = true) ∨ Token.Starved s) ∧
    (∀ tk ∈ s.toks, tk.nSends ≤ 1 ∧ (tk.released = true → tk.nSends = 1) ∧
      (tk.mu = none → tk.nSends = tk.released.toNat)) ∧
    ((∀ tk ∈ s.toks, tk.released = true) → s.free = s.limit) := by
  have hinv := Token.inv_reach h
  refine ⟨hinv.cnt, ?_, fun g t hg => Token.lock_wait hinv hg, Token.progress hinv, ?_,
    Token.all_released hinv⟩
  · intro g t hg
    exact ⟨Token.send_room hinv hg, Token.send_enabled hinv hg⟩
  · intro tk htk
    obtain ⟨t, ht⟩ := List.mem_iff_getElem?.mp htk
    exact Token.tok_counts hinv ht

/-- Token: a goroutine that is neither finished nor inside `Acquire` — in particular one anywhere
    inside `Release` — guarantees that the system is not stuck. -/
theorem C17_token_release_not_stuck (limit n : Nat) {s : Token.St} (h : Token.Reach limit n s)
    {g : Nat} {pc : Token.GPc} (hg : s.gs[g]? = some pc) (h1 : pc ≠ .done) (h2 : pc ≠ .acquiring) :
    ¬ Token.Stuck s := by
  intro ⟨_, hno⟩
  rcases Token.goroutine_progress (Token.inv_reach h) hg h1 with ⟨x, hx⟩ | ⟨e, _⟩
  · rw [hno x] at hx; cases hx
  · exact h2 e

/-- Global storage: `GetGlobal` returns the handle, whenever it is called. With the current code,
    for both readings of the RWMutex (a pending writer holds back new readers or not), any number
    `nGet` of `GetGlobal` calls and any number `nSet` of `SetGlobal` calls in any interleaving, in
    every reachable state:
    (1) once there is at least one `SetGlobal` call the state is not a deadlock (without one the
        getters wait, as documented);
    (2) no `GetGlobal` is at the panic;
    (3) every `GetGlobal` that has returned holds the (non-nil) handle that was set;
    (4) `close(ready)` has been executed at most once, and the storage being set implies that
        `ready` is closed. -/
theorem C17_storage_get (wpref : Bool) (nSet nGet : Nat) {s : Storage.St}
    (h : Storage.Reach true wpref nSet nGet s) :
    (0 < nSet → ¬ Storage.Stuck s) ∧
    (∀ pc ∈ s.getters, pc ≠ .panic) ∧
    (∀ v, Storage.GPc.done v ∈ s.getters → v = true) ∧
    s.nClose ≤ 1 ∧ (s.stored = true → s.ready = true) := by
  have hinv := Storage.inv_reach h
  obtain ⟨hfix, hlen, _⟩ := Storage.params_reach h
  refine ⟨?_, Storage.no_panic hinv hfix, fun v hv => Storage.done_handle hinv hfix hv,
    Storage.close_once hinv, hinv.stRd⟩
  intro hn ⟨hnd, hno⟩
  have hne : s.setters ≠ [] := by
    intro e; rw [e] at hlen; simp at hlen; omega
  obtain ⟨x, hx⟩ := Storage.progress hinv hfix hne hnd
  rw [hno x] at hx; cases hx

/-- Global storage, the code before 9c71a0d panics (finding D4). With the inverted check a
    `GetGlobal` that starts before `SetGlobal` reads nil, waits for `ready`, reads the handle after
    `SetGlobal` has stored it — and reaches the panic. -/
theorem C17_storage_panic_witness_old :
    ∃ s, Storage.Reach false true 1 1 s ∧ s.getters = [.panic] ∧ s.setters = [.done] ∧
      s.stored = true := by
  let sched : List Storage.Step :=
    [.get 0 .rlock1, .get 0 .read1, .get 0 .runlock1, .get 0 .test1,
     .set 0 .call, .set 0 .lock, .set 0 .check, .set 0 .closeReady, .set 0 .store, .set 0 .unlock,
     .get 0 .wake, .get 0 .rlock2, .get 0 .read2, .get 0 .runlock2, .get 0 .test2]
  have hrun : Storage.run (Storage.init false true 1 1) sched =
      some { fixed := false, wpref := true, writer := none, readers := 0, stored := true, ready := true,
             nClose := 1, setters := [.done], getters := [.panic] } := by decide
  exact ⟨_, Storage.reach_run Storage.Reach.init sched hrun, rfl, rfl, rfl⟩

/-- Lock discipline. In the table regenerated from the Go source (one row per syntactic access to
    a field declared as guarded by a mutex, in `Receiver`, `cleaner.Worker`, `Topic`,
    `Subscription`, `Token` and the package-level `storage`) every access happens in a region in
    which that mutex is held; and the table is not empty. -/
theorem C17_lock_table :
    (∀ row ∈ Gen.lockTable, row.2.2.2.2.2 = true) ∧ Gen.lockTable ≠ [] := by
  constructor
  · decide
  · decide

/-- Sync loop: the model has no blocking step (see the head of this file for the blocking points
    of the real loop and how cancellation at them is validated); a loop that has exited — with
    `context canceled` or otherwise — stays exited and leaves the bucket alone. -/
theorem C17_cancel_edges (c : SyncLoop.LoopCfg) (b : SyncLoop.Bucket) (s : SyncLoop.St)
    (i : SyncLoop.In) (e : SyncLoop.Exit) (h : s.pc = .exited e) : SyncLoop.go c b s i = (s, b) := by
  simp [SyncLoop.go, SyncLoop.goRaw, h]

/-- two subscribers, current code: subscriber 0 receives the value, subscriber 1 closes while the
    publisher is blocked sending to it; the publisher skips it and everybody finishes -/
example :
    (Topic.run (Topic.init true 2)
      [.sub 0 .subLock, .sub 0 .subInsert, .sub 1 .subLock, .sub 1 .subInsert,
       .pubCall, .pubLock, .pubPick 1, .sub 1 .closeCall, .sub 1 .lockS, .sub 1 .check,
       .sub 1 .closeClosing, .pubSkip, .pubPick 0, .sub 0 .nextCall, .pubDeliver, .pubUnlock,
       .sub 1 .lockT, .sub 1 .unsub, .sub 1 .unlockT, .sub 1 .setNil, .sub 1 .unlockS,
       .sub 1 .closeCall, .sub 1 .lockS, .sub 1 .check, .sub 1 .unlockS, .sub 1 .finish,
       .sub 0 .closeCall, .sub 0 .lockS, .sub 0 .check, .sub 0 .closeClosing, .sub 0 .lockT,
       .sub 0 .unsub, .sub 0 .unlockT, .sub 0 .setNil, .sub 0 .unlockS, .sub 0 .finish,
       .pubFinish]).map (fun s => (decide (Topic.allDone s), s.subs.map (·.got), s.subs.map (·.nCh)))
    = some (true, [1, 0], [1, 1]) := by decide

/-- the schedule of the old deadlock on the current code: after `close(closing)` the skip is
    enabled -/
example :
    (Topic.run (Topic.init true 1)
      [.sub 0 .subLock, .sub 0 .subInsert, .pubCall, .pubLock, .pubPick 0, .cancel,
       .sub 0 .closeCall, .sub 0 .lockS, .sub 0 .check, .sub 0 .closeClosing]).map
      (fun s => Topic.guard s .pubSkip) = some true := by decide

/-- capacity 1, two goroutines: goroutine 0 acquires, both release the same token concurrently;
    one value goes back, the channel is full again -/
example :
    (Token.run (Token.init 1 2)
      [⟨0, .acquireCall⟩, ⟨0, .acquire⟩, ⟨0, .releaseCall 0⟩, ⟨1, .releaseCall 0⟩, ⟨1, .lock⟩,
       ⟨1, .check⟩, ⟨1, .send⟩, ⟨1, .setReleased⟩, ⟨1, .unlock⟩, ⟨0, .lock⟩, ⟨0, .check⟩, ⟨0, .unlock⟩,
       ⟨0, .finish⟩, ⟨1, .finish⟩]).map (fun s => (s.free, s.toks.map (·.nSends), decide (Token.allDone s)))
    = some (1, [1], true) := by decide

/-- while goroutine 1 holds the token's mutex goroutine 0 cannot take it -/
example :
    (Token.run (Token.init 1 2)
      [⟨0, .acquireCall⟩, ⟨0, .acquire⟩, ⟨0, .releaseCall 0⟩, ⟨1, .releaseCall 0⟩, ⟨1, .lock⟩]).map
      (fun s => Token.guard s ⟨0, .lock⟩) = some false := by decide

/-- the schedule of the old panic on the current code: the getter returns the handle -/
example :
    (Storage.run (Storage.init true true 1 1)
      [.get 0 .rlock1, .get 0 .read1, .get 0 .runlock1, .get 0 .test1,
       .set 0 .call, .set 0 .lock, .set 0 .check, .set 0 .closeReady, .set 0 .store, .set 0 .unlock,
       .get 0 .wake, .get 0 .rlock2, .get 0 .read2, .get 0 .runlock2, .get 0 .test2]).map
      (fun s => (s.getters, decide (Storage.allDone s))) = some ([.done true], true) := by decide

/-- a pending writer holds back a new reader (Go's RWMutex) and itself waits for reader 0, who
    holds the read lock and can go on -/
example :
    (Storage.run (Storage.init true true 1 2) [.get 0 .rlock1, .set 0 .call]).map
      (fun s => (Storage.guard s (.get 1 .rlock1), Storage.guard s (.set 0 .lock),
                 Storage.guard s (.get 0 .read1))) = some (false, false, true) := by decide

end Ls.C17
