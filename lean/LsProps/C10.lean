import LsLemmas.TxnMirrorNoop
/-
  C10 — Syncing reaches quiescence: no echo uploads, no write amplification.
  Transaction-level part: a `LoadOnce` of a snapshot that contains nothing newer, with no local
  change, does not even commit an LMDB transaction (native mode; shadow mode without the dupsort
  hack); with the dupsort hack the content is rewritten identically; loading the same snapshot
  twice changes nothing the second time.
  Model: LsModel/Txn.lean (`loadDbi`, `loadOnce`, `commit`: LMDB records a transaction — `lastTxn`
  advances — only if something was written). Helper lemmas are in LsLemmas/TxnMirror{Load,Noop}.lean.
  (The sync-loop part of C10 is in LsProps/C10Loop.lean.)

  "Nothing newer" (`MsgNotNewer`, for every message of the snapshot whose DBI is not private):
  the message passes the gates of `loadDbi` (`ValidateTransform`, format/compat version), no DBI
  has to be created for it, the target DBI (the DBI itself in native mode, its shadow otherwise)
  is sorted in its key order, and every entry has a non-empty key and is `EntryNotNewer`: its key
  is stored with a parsable header and `Merge.keep` holds (the stored version is not beaten: for
  well-formed entries exactly "does not win last-writer-wins", `keep_not_beats` /
  `not_keep_beats`), or the key is absent and the entry is a deletion marker older than the
  cut-off, which is refused (`Merge.stale`). `Merge.keep` reads neither the transaction id nor the
  padding option, so the statements cover both settings of `header_extra_padding_block`.
-/
namespace Ls.C10
open Ls Ls.Lmdb Ls.Strategy Ls.Merge Ls.Txn

/-- **No-op transaction, native mode.** If the snapshot contains nothing newer than the local data
    (`MsgNotNewer` for every message; the transaction id a write transaction would get is
    `e.lastTxn + 1`), then `LoadOnce` returns the environment EXACTLY as it was — same bytes in
    every DBI, `lastTxn` unchanged: no LMDB transaction is recorded — and reports `e.lastTxn` as the
    transaction id; and with no local change either (`lastSynced ≥ e.lastTxn`) `localChanged` is
    false. For every cut-off, format version, and with and without the padding option. -/
theorem C10_noop_txn (c : Txn.Cfg) (e : Env) (snap : Snap) (lastSynced now cutoff : Nat)
    (hn : c.native = true) (hdist : DistinctNames e.dbis)
    (hsnap : ∀ m ∈ snap.dbs, MsgNotNewer c snap (e.lastTxn + 1) cutoff e.dbis m)
    (hloc : e.lastTxn ≤ lastSynced) :
    loadOnce c e snap lastSynced now cutoff =
      .ok { env := e, txnID := e.lastTxn, localChanged := false } := by
  rw [loadOnce_native_noop c e snap lastSynced now cutoff hn hdist hsnap]
  have : ¬ lastSynced < e.lastTxn := by omega
  simp [this]

/-- **No-op transaction, shadow mode without duplicate-keys DBIs.** Additionally assume the mirror
    invariant of C11 (`C11_step`) for every application DBI: it is not a duplicate-keys DBI and it
    is exactly the projection of its shadow (`MirrorOK`: both sorted in the application DBI's key
    order, shadow keys valid, shadow values parsable). Then the capture does not run (no local
    change), the merge writes nothing, the projection writes nothing, and `LoadOnce` returns the
    environment exactly as it was, `lastTxn` unchanged. -/
theorem C10_noop_txn_shadow (c : Txn.Cfg) (e : Env) (snap : Snap) (lastSynced now cutoff : Nat)
    (hn : c.native = false) (hdist : DistinctNames e.dbis)
    (hsnap : ∀ m ∈ snap.dbs, MsgNotNewer c snap (e.lastTxn + 1) cutoff e.dbis m)
    (hloc : e.lastTxn ≤ lastSynced)
    (hmirror : ∀ d ∈ e.dbis, isPrivate d.name = false → isDupSort d.flags = false ∧ MirrorOK e.dbis d) :
    loadOnce c e snap lastSynced now cutoff =
      .ok { env := e, txnID := e.lastTxn, localChanged := false } := by
  have hall : AllMirrorOK c e.dbis := fun d hd hp => Or.inl (hmirror d hd hp)
  have hnd : anyDupApp e.dbis = false := by
    unfold anyDupApp
    rw [List.any_eq_false]
    intro d hd
    cases hp : isPrivate d.name with
    | true => simp
    | false => simp [(hmirror d hd hp).1]
  rw [loadOnce_shadow_noop c e snap lastSynced now cutoff hn hdist (by omega) hsnap hall, hnd]
  simp

/-- **With the dupsort hack the same content is rewritten.** Shadow mode, nothing newer, no local
    change, every application DBI satisfies its mirror invariant (ordinary: `MirrorOK`;
    duplicate-keys with the hack enabled: `DupMirrorOK`, the invariant `C20_cycle` establishes), and
    at least one application DBI is a duplicate-keys DBI: the DBIs are left with exactly the same
    content, but the transaction IS recorded (EmptyPut drops and refills the DBI):
    `lastTxn = e.lastTxn + 1`, and that id is returned. -/
theorem C10_dupsort_rewrites_same_content (c : Txn.Cfg) (e : Env) (snap : Snap)
    (lastSynced now cutoff : Nat)
    (hn : c.native = false) (hdist : DistinctNames e.dbis)
    (hsnap : ∀ m ∈ snap.dbs, MsgNotNewer c snap (e.lastTxn + 1) cutoff e.dbis m)
    (hloc : e.lastTxn ≤ lastSynced) (hall : AllMirrorOK c e.dbis)
    (hdup : ∃ d ∈ e.dbis, isPrivate d.name = false ∧ isDupSort d.flags = true) :
    loadOnce c e snap lastSynced now cutoff =
      .ok { env := { dbis := e.dbis, lastTxn := e.lastTxn + 1 }, txnID := e.lastTxn + 1,
            localChanged := false } := by
  have hd : anyDupApp e.dbis = true := by
    unfold anyDupApp
    rw [List.any_eq_true]
    obtain ⟨d, hd, hp, hds⟩ := hdup
    exact ⟨d, hd, by simp [hp, hds]⟩
  rw [loadOnce_shadow_noop c e snap lastSynced now cutoff hn hdist (by omega) hsnap hall, hd]
  simp

/-- **Loading the same snapshot twice.** Native mode, cut-off 0: after a successful `LoadOnce` of a
    snapshot (entries well-formed — a deleted entry carries no value — with 64-bit timestamps;
    the DBIs the snapshot names sorted in their key order; distinct DBI names), loading the same
    snapshot again, with `lastSynced` = the id the first load returned, changes nothing: the
    environment is returned exactly as the first load left it, no transaction is recorded,
    `localChanged = false` (so the loop does not upload). The id the first load returned is the
    LMDB transaction id after it. Uses: a merge never moves a key backwards and leaves the merged
    entry not newer than what is stored (C02), and the equality skip of `setNewVal` (C19). -/
theorem C10_merge_idempotent_txn (c : Txn.Cfg) (e : Env) (snap : Snap) (lastSynced now now' : Nat)
    (r1 : LoadRes)
    (hn : c.native = true) (hdist : DistinctNames e.dbis) (hts : TargetsSorted snap.dbs e.dbis)
    (hent : EntriesWF snap.dbs) (htx : e.lastTxn + 1 < two64)
    (h : loadOnce c e snap lastSynced now 0 = .ok r1) :
    r1.txnID = r1.env.lastTxn ∧
    loadOnce c r1.env snap r1.txnID now' 0 =
      .ok { env := r1.env, txnID := r1.env.lastTxn, localChanged := false } := by
  obtain ⟨w1, hf, henv, _, htid⟩ := loadOnce_native_ok hn h
  obtain ⟨hd1, hts1, _, _, hge⟩ :=
    loadFold_native_mono hn htx hent snap.dbs (fun _ hm => hm) hf hdist hts
  have hid : r1.txnID = r1.env.lastTxn := by rw [htid, henv]; exact commit_lastTxn_min e w1
  refine ⟨hid, ?_⟩
  have hdbis : r1.env.dbis = w1.dbis := by rw [henv]; rfl
  rw [loadOnce_native_noop c r1.env snap r1.txnID now' 0 hn (by rw [hdbis]; exact hd1)]
  · rw [hid]; simp
  · intro m hm hp
    rw [hdbis]
    exact msgNotNewer_of_storedGE hn (fun en hen => (hent m hm en hen).1) (hts1 m hm hp) (hge m hm hp) hp

/-- … and what the state after the first load satisfies: no entry of the snapshot beats what is
    stored for its key (`StoredGE`). `msgNotNewer_of_storedGE` turns this into the hypothesis
    `MsgNotNewer` of `C10_noop_txn`; that is how `C10_merge_idempotent_txn` is obtained. -/
theorem C10_after_load_nothing_newer (c : Txn.Cfg) (e : Env) (snap : Snap) (lastSynced now : Nat)
    (r1 : LoadRes)
    (hn : c.native = true) (hdist : DistinctNames e.dbis) (hts : TargetsSorted snap.dbs e.dbis)
    (hent : EntriesWF snap.dbs) (htx : e.lastTxn + 1 < two64)
    (h : loadOnce c e snap lastSynced now 0 = .ok r1) :
    DistinctNames r1.env.dbis ∧
    ∀ m ∈ snap.dbs, isPrivate m.name = false → ∀ en ∈ m.entries,
      en.key ≠ [] ∧ StoredGE r1.env.dbis m.name en.key (norm (loadCfg c snap (e.lastTxn + 1) 0) en) := by
  obtain ⟨w1, hf, henv, _, _⟩ := loadOnce_native_ok hn h
  obtain ⟨hd1, _, _, _, hge⟩ :=
    loadFold_native_mono hn htx hent snap.dbs (fun _ hm => hm) hf hdist hts
  have hdbis : r1.env.dbis = w1.dbis := by rw [henv]; rfl
  rw [hdbis]
  exact ⟨hd1, fun m hm hp => (hge m hm hp).2.2.2⟩

/-! ## the hypotheses are satisfiable -/

/-- a native-mode DBI "a": key 01 live (timestamp 50), key 02 deleted (timestamp 60) -/
def exEnv : Env :=
  { dbis := [{ name := [0x61], flags := 0,
               kvs := [([1], liveBytes 50 3 [0x11]), ([2], markerBytes 60 4)] }],
    lastTxn := 7 }

/-- a snapshot with an older version of key 01, the same marker for key 02, and — for cut-off 100 —
    a stale marker for the absent key 03 -/
def exSnap : Snap :=
  { fv := 3, cv := 1,
    dbs := [{ name := [0x61], flags := 0, transform := [],
              entries := [{ key := [1], val := [0x10], ts := 40, flags := 0 },
                          { key := [2], val := [], ts := 60, flags := 1 },
                          { key := [3], val := [], ts := 30, flags := 1 }] }] }

def exNative (pad : Bool) : Txn.Cfg :=
  { native := true, hack := false, pad := pad, receiveOnly := false, override := [] }

example (pad : Bool) : DistinctNames exEnv.dbis ∧
    ∀ m ∈ exSnap.dbs, MsgNotNewer (exNative pad) exSnap (exEnv.lastTxn + 1) 100 exEnv.dbis m := by
  refine ⟨by decide, ?_⟩
  intro m hm
  simp only [exSnap, List.mem_singleton] at hm
  subst hm
  intro _
  cases pad
  all_goals
    refine ⟨(by decide +kernel), (by decide +kernel), (fun h => by cases h), ?_⟩
    refine ⟨{ name := [0x61], flags := 0, kvs := [([1], liveBytes 50 3 [0x11]), ([2], markerBytes 60 4)] },
      rfl, by decide, ?_⟩
    intro en hen
    simp only [List.mem_cons, List.not_mem_nil, or_false] at hen
    rcases hen with rfl | rfl | rfl
    · exact ⟨by decide, { ts := 50, txn := 3, version := 0, flags := 0, numExtra := 0, extra := [] }, [0x11],
        (by decide +kernel), (by decide)⟩
    · exact ⟨by decide, { ts := 60, txn := 4, version := 0, flags := 1, numExtra := 0, extra := [] }, [],
        (by decide +kernel), (by decide)⟩
    · refine ⟨by decide, ?_⟩
      show Merge.stale _ _
      decide

/-- the conclusion on the instance, evaluated: same environment, no transaction recorded -/
example : loadOnce (exNative false) exEnv exSnap 7 1000 100
    = .ok { env := exEnv, txnID := 7, localChanged := false } := by decide +kernel

/-- shadow mode, a steady-state environment (application DBI "a" = projection of its shadow) -/
def exShadowEnv : Env :=
  { dbis := [{ name := shadowName [0x61], flags := 0,
               kvs := [([1], liveBytes 50 3 [0x11]), ([2], markerBytes 60 4)] },
             { name := [0x61], flags := 0, kvs := [([1], [0x11])] }],
    lastTxn := 7 }

def exShadowCfg (hack : Bool) : Txn.Cfg :=
  { native := false, hack := hack, pad := false, receiveOnly := false, override := [] }

/-- `C10_noop_txn_shadow` on the instance (the mirror invariant of the instance is checked in
    LsProps/C11.lean): same environment, no transaction recorded -/
example : loadOnce (exShadowCfg false) exShadowEnv exSnap 7 1000 100
    = .ok { env := exShadowEnv, txnID := 7, localChanged := false } := by decide +kernel

/-- `C10_dupsort_rewrites_same_content` on an instance: a duplicate-keys DBI after one mirror
    cycle (transaction 1); an empty snapshot and no local change: same content, but transaction 2
    is recorded and returned -/
example :
    (((mainToShadow (exShadowCfg true)
        { dbis := [{ name := [0x64], flags := 4, kvs := [([1], [0x0a]), ([1], [0x0b]), ([2], [0x0a])] }],
          dirty := false } 1 100 0).bind (shadowToMain (exShadowCfg true))).bind fun w =>
      (loadOnce (exShadowCfg true) { dbis := w.dbis, lastTxn := 1 } { fv := 3, cv := 1, dbs := [] } 1 200 0).map
        fun r => (decide (r.env.dbis = w.dbis), r.env.lastTxn, r.txnID, r.localChanged))
      = .ok (true, 2, 2, false) := by decide +kernel

end Ls.C10
