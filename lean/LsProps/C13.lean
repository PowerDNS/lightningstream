import LsLemmas.SweeperPass
/-
  C13 — The tomb sweeper removes exactly the expired deletion markers.
  Model: LsModel/Sweeper.lean (`startAt` = the LimitScanner's resume rule, `scan`/`slice` = one
  write-lock slice, `passDbi` = the slices of one DBI with the application committing in between,
  `pass` = all swept DBIs), LsModel/Lmdb.lean (abstract DBI), LsModel/Header.lean.
  Vocabulary: LsLemmas/SweeperDefs.lean (`IsExpired`, `Parses`, `keep`, `covered`, `dbiKvs`,
  `appPart`, `boundaries`, `Untouched`, `AppKeeps`).
-/
namespace Ls.C13
open Ls Ls.Lmdb Ls.Txn Ls.Sweeper

/-- A stored value is what the sweeper deletes (`IsExpired`) iff its header parses, carries the
    deleted flag and a timestamp strictly below the cut-off. A live entry, a marker with
    `ts ≥ cutoff` (the boundary `ts = cutoff` included) and an unparsable value are not. -/
theorem C13_expired_iff (cutoff : Nat) (v : Bytes) :
    IsExpired cutoff v ↔
      ∃ h rest, Header.parse v = .ok (h, rest) ∧ Header.isDeleted h.flags = true ∧ h.ts < cutoff :=
  isExpired_iff cutoff v

/-- One write-lock slice on a sorted DBI, started at any resume cursor with any limit: the new
    content is the old one with some entries removed (a sublist: no key or value of a remaining
    entry is altered, nothing is added, the order is kept); every removed entry held, in this
    transaction, an expired marker; so every live entry, every younger marker stays; the reported
    count is the number of entries removed; and through `get`, every key reads what it read
    before unless it read an expired marker and now reads nothing. -/
theorem C13_slice_sound (ik : Bool) (cutoff : Nat) (db : KVs) (last : Option (Bytes × Bytes))
    (n : Option Nat) (r : SliceRes) (hs : Sorted ik db) (h : Sweeper.slice ik cutoff db last n = .ok r) :
    r.db.Sublist db ∧
    (∀ kv ∈ db, kv ∉ r.db → IsExpired cutoff kv.2) ∧
    (∀ kv ∈ db, ¬ IsExpired cutoff kv.2 → kv ∈ r.db) ∧
    r.cleaned + r.db.length = db.length ∧
    Sorted ik r.db ∧
    (∀ k, get ik r.db k = get ik db k ∨
      ∃ v, get ik db k = some v ∧ IsExpired cutoff v ∧ get ik r.db k = none) := by
  refine ⟨slice_sublist hs h, fun kv hm hr => slice_removed hs h hm hr, fun kv hm hne => ?_, slice_cleaned hs h,
    slice_sorted hs h, slice_get hs h⟩
  exact Classical.byContradiction fun hr => hne (slice_removed hs h hm hr)

/-- One slice in closed form. With `todo = startAt ik db last` (a suffix of the DBI:
    `db = pre ++ todo`) and `m = covered n todo` (`min n todo.length`, all of `todo` without a
    limit), the slice examines exactly the first `m` entries of `todo`: the expired markers among
    them are removed, everything else — `pre`, the other examined entries, the unexamined rest —
    stays in place; `cleaned` counts the expired ones; the cursor returned is the last examined
    entry (the old cursor if none was examined); the limit is reported as reached iff there is
    one and it is at most the number of entries ahead; every examined value parsed. -/
theorem C13_slice_progress (ik : Bool) (cutoff : Nat) (db : KVs) (last : Option (Bytes × Bytes))
    (n : Option Nat) (r : SliceRes) (hs : Sorted ik db) (h : Sweeper.slice ik cutoff db last n = .ok r) :
    let todo := startAt ik db last
    let m := covered n todo
    ∃ pre, db = pre ++ todo ∧
      r.db = pre ++ ((todo.take m).filter (keep cutoff) ++ todo.drop m) ∧
      r.cleaned = ((todo.take m).filter (fun kv => decide (IsExpired cutoff kv.2))).length ∧
      r.last = ((todo.take m).getLast?).or last ∧
      (r.limitReached = true ↔ ∃ l, n = some l ∧ l ≤ todo.length) ∧
      (∀ kv ∈ todo.take m, Parses kv.2) := by
  obtain ⟨pre, T, D, h0, _, rfl, rfl, hp, rfl⟩ := slice_pieces hs h
  exact ⟨pre, h0.trans (by rw [List.take_append_drop]), rfl, rfl, rfl, hitLimit_iff .., hp⟩

/-- The number of entries a slice examines: all that are ahead without a limit, else the limit
    or what is ahead, whichever is smaller. -/
theorem C13_covered (todo : KVs) :
    covered none todo = todo.length ∧ ∀ l, covered (some l) todo = min l todo.length :=
  ⟨rfl, fun _ => rfl⟩

/-- A slice fails (its transaction aborts) exactly when one of the values it would examine has no
    parsable header, and then with the header error; values outside the examined range are never
    parsed. In particular it succeeds on a DBI whose values all parse. -/
theorem C13_slice_total (ik : Bool) (cutoff : Nat) (db : KVs) (last : Option (Bytes × Bytes)) (n : Option Nat) :
    ((∃ r, Sweeper.slice ik cutoff db last n = .ok r) ↔
      ∀ kv ∈ (startAt ik db last).take (covered n (startAt ik db last)), Parses kv.2) ∧
    (∀ e, Sweeper.slice ik cutoff db last n = .error e → e = .header) ∧
    ((∀ kv ∈ db, Parses kv.2) → ∃ r, Sweeper.slice ik cutoff db last n = .ok r) := by
  refine ⟨slice_ok_iff, fun e he => slice_error he, fun hp => slice_ok_iff.mpr fun kv hkv => ?_⟩
  exact hp kv ((startAt_sublist ik db last).subset (List.mem_of_mem_take hkv))

/-- Resuming when nothing changed between two slices: the next slice starts exactly at the
    unexamined rest of this one — whether the last examined entry was kept (it is found again,
    byte-identical, and skipped) or was itself deleted by this slice (the scan lands on its
    successor, which is not skipped). -/
theorem C13_resume (ik : Bool) (cutoff : Nat) (db : KVs) (last : Option (Bytes × Bytes))
    (n : Option Nat) (r : SliceRes) (hs : Sorted ik db) (h : Sweeper.slice ik cutoff db last n = .ok r) :
    startAt ik r.db r.last =
      (startAt ik db last).drop (covered n (startAt ik db last)) :=
  slice_resume hs h

/-- Resuming on whatever sorted content `db'` the application left, with cursor `(lk, lv)`: the
    slice starts at a suffix of `db'` that consists of exactly the entries with a key above `lk`
    plus the entry at `lk` unless it is byte-identical to `(lk, lv)`. So: an entry whose value
    the application changed under the resume key is examined again; every entry above the resume
    key is still ahead; entries at keys below the resume key — inserted behind the scan — are not
    examined in this pass; the unchanged resume entry is not examined twice. -/
theorem C13_resume_after_app (ik : Bool) (db' : KVs) (lk lv : Bytes) (hs : Sorted ik db') :
    (∃ pre, db' = pre ++ startAt ik db' (some (lk, lv))) ∧
    startAt ik db' (some (lk, lv)) =
      db'.filter (fun kv => decide (kcmp ik lk kv.1 < 0) ||
        (decide (kcmp ik kv.1 lk = 0) && decide (kv ≠ (lk, lv)))) ∧
    (∀ v', v' ≠ lv → (lk, v') ∈ db' → (lk, v') ∈ startAt ik db' (some (lk, lv))) ∧
    (∀ kv ∈ db', kcmp ik lk kv.1 < 0 → kv ∈ startAt ik db' (some (lk, lv))) ∧
    (∀ kv ∈ db', kcmp ik kv.1 lk < 0 → kv ∉ startAt ik db' (some (lk, lv))) ∧
    (lk, lv) ∉ startAt ik db' (some (lk, lv)) := by
  refine ⟨startAt_suffix ik db' _, startAt_eq_filter hs lk lv, ?_, ?_, ?_, ?_⟩
  · intro v' hne hm
    rw [mem_startAt hs]
    exact ⟨hm, Or.inr ⟨kcmp_refl ik lk, by simp [hne]⟩⟩
  · intro kv hm hlt
    rw [mem_startAt hs]
    exact ⟨hm, Or.inl hlt⟩
  · intro kv _ hlt hin
    rw [mem_startAt hs] at hin
    have := kcmp_lt_asymm ik hlt
    rcases hin.2 with h | ⟨h, _⟩ <;> omega
  · intro hin
    rw [mem_startAt hs] at hin
    have := kcmp_refl ik lk
    rcases hin.2 with h | ⟨_, h⟩
    · simp only at h; omega
    · exact h rfl

/-- A pass over one DBI without application writes, with any slice length `n ≥ 1`: it succeeds
    (values parse), the final content of the DBI is the start content without its expired markers
    — every expired marker is gone, every other entry is there byte-identical, in order — so the
    result does not depend on how the pass is chopped into slices; no other DBI is touched. It
    takes `len / n + 1` write transactions and `len / n` pauses and reports the number of
    expired markers; the environment's transaction id moves iff something was removed. Fuel:
    `len < fuel * n` suffices (i.e. `fuel ≥ len / n + 1`; `pass` supplies `len + 1002`). -/
theorem C13_complete_no_app (ik : Bool) (cutoff n : Nat) (name : Bytes) (fuel : Nat) (e : Env) (d : Dbi)
    (bi nt nc : Nat) (hn : 1 ≤ n) (hd : findDbi e.dbis name = some d) (hs : Sorted ik d.kvs)
    (hp : ∀ kv ∈ d.kvs, Parses kv.2) (hf : d.kvs.length < fuel * n) :
    ∃ ef, passDbi ik cutoff n (fun _ e => e) name fuel e none bi nt nc =
        .ok (ef, bi + d.kvs.length / n, nt + d.kvs.length / n + 1,
             nc + (d.kvs.filter (fun kv => decide (IsExpired cutoff kv.2))).length) ∧
      ef.dbis = setKvs e.dbis name (d.kvs.filter (fun kv => !decide (IsExpired cutoff kv.2))) ∧
      e.lastTxn ≤ ef.lastTxn ∧
      (ef.lastTxn = e.lastTxn ↔ ∀ kv ∈ d.kvs, ¬ IsExpired cutoff kv.2) := by
  obtain ⟨ef, h1, h2, h3, h4⟩ := passDbi_no_app (ik := ik) (cutoff := cutoff) (name := name) hn fuel e none bi nt nc
    d [] d.kvs hd rfl rfl hs hp hf
  refine ⟨ef, h1, by rw [h2]; rfl, h3, ?_⟩
  rw [h4, List.length_eq_zero_iff, List.filter_eq_nil_iff]
  simp

/-- …in particular two passes with different slice lengths leave the same DBIs. -/
theorem C13_slicing_irrelevant (ik : Bool) (cutoff n n' : Nat) (name : Bytes) (fuel fuel' : Nat) (e : Env)
    (d : Dbi) (bi nt nc bi' nt' nc' : Nat) (hn : 1 ≤ n) (hn' : 1 ≤ n')
    (hd : findDbi e.dbis name = some d) (hs : Sorted ik d.kvs)
    (hp : ∀ kv ∈ d.kvs, Parses kv.2) (hf : d.kvs.length < fuel * n) (hf' : d.kvs.length < fuel' * n') :
    ∃ ef ef' x x', passDbi ik cutoff n (fun _ e => e) name fuel e none bi nt nc = .ok (ef, x) ∧
      passDbi ik cutoff n' (fun _ e => e) name fuel' e none bi' nt' nc' = .ok (ef', x') ∧
      ef.dbis = ef'.dbis := by
  obtain ⟨ef, h1, h2, _⟩ := C13_complete_no_app ik cutoff n name fuel e d bi nt nc hn hd hs hp hf
  obtain ⟨ef', h1', h2', _⟩ := C13_complete_no_app ik cutoff n' name fuel' e d bi' nt' nc' hn' hd hs hp hf'
  exact ⟨ef, ef', _, _, h1, h1', by rw [h2, h2']⟩

/-- A whole pass over an environment (distinct DBI names) without application writes, native or
    not, any slice length `n ≥ 1`, every swept DBI sorted in its own key order with parsable
    values: the pass succeeds and leaves exactly the environment in which every swept DBI has
    lost its expired markers and nothing else, and every other DBI is as it was. The fuel `pass`
    gives each DBI suffices. -/
theorem C13_pass_no_app (native : Bool) (cutoff n : Nat) (e : Env) (hn : 1 ≤ n)
    (hnd : (e.dbis.map (·.name)).Nodup)
    (hsw : ∀ d ∈ e.dbis, swept native d.name = true →
      Sorted (isIntKey d.flags) d.kvs ∧ ∀ kv ∈ d.kvs, Parses kv.2) :
    ∃ ef nt nc, pass native cutoff n (fun _ e => e) e = .ok (ef, nt, nc) ∧
      ef.dbis = e.dbis.map (fun d =>
        if swept native d.name then { d with kvs := d.kvs.filter (fun kv => !decide (IsExpired cutoff kv.2)) }
        else d) := by
  obtain ⟨res, h1, h2⟩ := fold_no_app (cutoff := cutoff) hn e hnd
    ((e.dbis.map (·.name)).filter (swept native)) [] (e, 0, 0, 0)
    (fun x hx => by
      obtain ⟨d, hd⟩ := findDbi_of_mem_names (List.mem_filter.mp hx).1
      exact ⟨d, hd, hsw d (findDbi_mem hd) (findDbi_name hd ▸ (List.mem_filter.mp hx).2)⟩)
    (hnd.sublist List.filter_sublist) (fun _ _ h => by cases h)
    (by simp [sweepNamed])
  refine ⟨res.1, res.2.2.1, res.2.2.2, ?_, ?_⟩
  · rw [pass_eq, h1]; rfl
  · rw [h2]
    refine sweepNamed_congr fun d hd => ?_
    simp only [List.append_nil, List.mem_reverse, List.mem_filter, List.mem_map]
    exact ⟨fun h => h.2, fun h => ⟨⟨d, hd, rfl⟩, h⟩⟩

/-- Soundness of a pass over one DBI under ARBITRARY application commits at the slice boundaries
    (`app i` at boundary `i`), from any resume cursor, any slice length, any fuel. For a key `k`
    whose binding the application leaves untouched at the boundaries actually reached
    (`Untouched`, which also asks that the application's commits keep the DBI sorted): if the DBI
    still exists at the end, it is sorted and `k` reads what it read at the start — same bytes —
    unless it read an expired marker (expired in the content of the slice's own transaction) and
    now reads nothing. A live entry, a younger marker, an absent key are never altered, removed,
    created. (Per slice, without any assumption on the application, this is `C13_slice_sound`.) -/
theorem C13_sound_with_app (ik : Bool) (cutoff n : Nat) (app : Nat → Env → Env) (name k : Bytes)
    (fuel : Nat) (e : Env) (last : Option (Bytes × Bytes)) (bi nt nc : Nat)
    (ef : Env) (bi' nt' nc' : Nat) (kvs : KVs)
    (h : passDbi ik cutoff n app name fuel e last bi nt nc = .ok (ef, bi', nt', nc'))
    (hk : dbiKvs e name = some kvs) (hs : Sorted ik kvs)
    (hu : Untouched ik name k app (boundaries ik cutoff n app name fuel e last bi)) :
    ∀ kf, dbiKvs ef name = some kf →
      Sorted ik kf ∧
      (get ik kf k = get ik kvs k ∨
        ∃ v, get ik kvs k = some v ∧ IsExpired cutoff v ∧ get ik kf k = none) := by
  intro kf hkf
  obtain ⟨a, ha, hsa, hg⟩ := passDbi_sound h ⟨kvs, hk, hs, .refl ..⟩ hu (.inl (by rw [hkf]; simp))
  cases ha.symm.trans hkf
  exact ⟨hsa, hg⟩

/-- The scan invariant behind completeness, from any point of a pass: if at the start of a slice
    key `k` is either already absent or bound to the expired marker `v` in the part of the DBI
    still ahead of the cursor (`startAt`), the application leaves `k`'s binding untouched at the
    boundaries reached, and the pass ends by itself (`nt' < nt + fuel`: it opened fewer
    transactions than it had fuel, i.e. its last slice did not hit the limit), then `k` is absent
    at the end. Slice length `n ≥ 1`. -/
theorem C13_complete_invariant (ik : Bool) (cutoff n : Nat) (app : Nat → Env → Env) (name k v : Bytes)
    (fuel : Nat) (e : Env) (last : Option (Bytes × Bytes)) (bi nt nc : Nat)
    (ef : Env) (bi' nt' nc' : Nat) (kvs : KVs) (hn : 1 ≤ n) (hv : IsExpired cutoff v)
    (h : passDbi ik cutoff n app name fuel e last bi nt nc = .ok (ef, bi', nt', nc'))
    (hfuel : nt' < nt + fuel)
    (hk : dbiKvs e name = some kvs) (hs : Sorted ik kvs)
    (hinv : get ik kvs k = none ∨ get ik (startAt ik kvs last) k = some v)
    (hu : Untouched ik name k app (boundaries ik cutoff n app name fuel e last bi)) :
    ∃ kf, dbiKvs ef name = some kf ∧ get ik kf k = none :=
  passDbi_complete h hn hv hfuel hk hs hinv hu

/-- Completeness of a pass over one DBI under ARBITRARY application commits at the slice
    boundaries: every key `k` bound to an expired marker at pass start whose binding the
    application leaves untouched at the boundaries reached (it may write anything else: the resume
    key, its neighbours, keys behind and ahead, insertions and deletions, as long as the DBI stays
    sorted) is absent when the pass has ended — the DBI still exists and `k` reads nothing.
    Slice length `n ≥ 1`; `nt' < nt + fuel` says the pass ended by itself and was not cut short
    by the model's fuel (with an application that keeps inserting ahead of the cursor the real
    pass need not end at all). -/
theorem C13_complete_with_app (ik : Bool) (cutoff n : Nat) (app : Nat → Env → Env) (name k v : Bytes)
    (fuel : Nat) (e : Env) (bi nt nc : Nat) (ef : Env) (bi' nt' nc' : Nat) (kvs : KVs)
    (hn : 1 ≤ n)
    (h : passDbi ik cutoff n app name fuel e none bi nt nc = .ok (ef, bi', nt', nc'))
    (hfuel : nt' < nt + fuel)
    (hk : dbiKvs e name = some kvs) (hs : Sorted ik kvs)
    (hkv : get ik kvs k = some v) (hv : IsExpired cutoff v)
    (hu : Untouched ik name k app (boundaries ik cutoff n app name fuel e none bi)) :
    ∃ kf, dbiKvs ef name = some kf ∧ get ik kf k = none :=
  passDbi_complete h hn hv hfuel hk hs (Or.inr hkv) hu

/-- Both directions for an untouched key: after a pass that ended by itself, it reads nothing if
    it read an expired marker at pass start, and else exactly what it read at pass start. -/
theorem C13_exact_with_app (ik : Bool) (cutoff n : Nat) (app : Nat → Env → Env) (name k : Bytes)
    (fuel : Nat) (e : Env) (bi nt nc : Nat) (ef : Env) (bi' nt' nc' : Nat) (kvs : KVs)
    (hn : 1 ≤ n)
    (h : passDbi ik cutoff n app name fuel e none bi nt nc = .ok (ef, bi', nt', nc'))
    (hfuel : nt' < nt + fuel)
    (hk : dbiKvs e name = some kvs) (hs : Sorted ik kvs)
    (hu : Untouched ik name k app (boundaries ik cutoff n app name fuel e none bi)) :
    ∃ kf, dbiKvs ef name = some kf ∧
      get ik kf k = (get ik kvs k).filter (fun v => !decide (IsExpired cutoff v)) := by
  obtain ⟨kf, hkf, _, hg⟩ := passDbi_sound h ⟨kvs, hk, hs, .refl ..⟩ hu (.inr hfuel)
  refine ⟨kf, hkf, hg.eq_filter fun v hg0 hv => ?_⟩
  obtain ⟨kf', hkf', hnone⟩ := passDbi_complete h hn hv hfuel hk hs (.inr hg0) hu
  cases hkf.symm.trans hkf'
  exact hnone

/-- The application functions need not be known on all environments: a function-level condition
    implies `Untouched` on every trace. If every `app i` maps a sorted content of the DBI to a
    sorted content with the same binding for `k`, then `k` is untouched in every pass. -/
theorem C13_untouched_of_fn (ik : Bool) (name k : Bytes) (app : Nat → Env → Env)
    (happ : ∀ i e a b, dbiKvs e name = some a → dbiKvs (app i e) name = some b → Sorted ik a →
      Sorted ik b ∧ get ik b k = get ik a k) (bs : List (Nat × Env)) :
    Untouched ik name k app bs :=
  fun i e' _ a b ha hb hsa => happ i e' a b ha hb hsa

/-- Soundness of a whole pass over an environment (all swept DBIs, native or not) with the
    application committing at every slice boundary: for a DBI `name` and key `k` such that the
    application's commits keep the DBI with its flags, keep it sorted in its key order and leave
    `k`'s binding untouched (`AppKeeps`; everything else, in this and every other DBI, is
    arbitrary), after the pass the DBI is there with the same flags, sorted, and `k` reads the
    same bytes as at pass start, unless it read an expired marker and now reads nothing. -/
theorem C13_pass_sound_with_app (native : Bool) (cutoff n : Nat) (app : Nat → Env → Env) (e ef : Env)
    (nt nc : Nat) (name k : Bytes) (d : Dbi)
    (hd : findDbi e.dbis name = some d) (hs : Sorted (isIntKey d.flags) d.kvs)
    (happ : AppKeeps (isIntKey d.flags) name k app)
    (h : pass native cutoff n app e = .ok (ef, nt, nc)) :
    ∃ df, findDbi ef.dbis name = some df ∧ df.flags = d.flags ∧ Sorted (isIntKey d.flags) df.kvs ∧
      (get (isIntKey d.flags) df.kvs k = get (isIntKey d.flags) d.kvs k ∨
        ∃ v, get (isIntKey d.flags) d.kvs k = some v ∧ IsExpired cutoff v ∧
          get (isIntKey d.flags) df.kvs k = none) := by
  obtain ⟨nb, hf⟩ := pass_ok_inv h
  obtain ⟨⟨a, ha, hsa, hg⟩, hfl⟩ := fold_keySoundFl (cutoff := cutoff) rfl happ hf
    ⟨⟨d.kvs, dbiKvs_eq hd, hs, .refl _ (get (isIntKey d.flags) d.kvs k)⟩, by rw [hd]; rfl⟩
  obtain ⟨df, hdf, rfl⟩ := dbiKvs_some ha
  rw [hdf] at hfl
  exact ⟨df, hdf, Option.some.inj hfl, hsa, hg⟩

/-- Non-native mode sweeps exactly the DBIs with Lightning Stream's private prefix; native mode
    sweeps every DBI. -/
theorem C13_native_all (e : Env) :
    (∀ name, swept false name = isPrivate name) ∧ (∀ name, swept true name = true) ∧
    (e.dbis.map (·.name)).filter (swept true) = e.dbis.map (·.name) ∧
    (e.dbis.map (·.name)).filter (swept false) = (e.dbis.map (·.name)).filter isPrivate := by
  refine ⟨fun _ => rfl, fun _ => rfl, ?_, ?_⟩
  · exact List.filter_eq_self.mpr (fun _ _ => rfl)
  · rfl

/-- A non-native pass never writes an application DBI, whatever the application does meanwhile:
    if what each application commit makes of the application's DBIs (`appPart`: all DBIs without
    the private prefix — names, flags, contents, order) depends on those DBIs only, say through
    `g i`, then after the pass the application's DBIs are exactly what the application's commits
    alone make of them, `g (nb-1) (… (g 0 (appPart e)))` for the `nb` slice boundaries of the
    pass. -/
theorem C13_shadow_only (cutoff n : Nat) (app : Nat → Env → Env) (g : Nat → List Dbi → List Dbi)
    (e ef : Env) (nt nc : Nat)
    (happ : ∀ i e, appPart (app i e) = g i (appPart e))
    (h : pass false cutoff n app e = .ok (ef, nt, nc)) :
    ∃ nb, appPart ef = (List.range nb).foldl (fun s i => g i s) (appPart e) := by
  obtain ⟨nb, hf⟩ := pass_ok_inv h
  exact ⟨nb, fold_appPart g happ (fun name hn => by simpa [swept] using (List.mem_filter.mp hn).2) hf⟩

/-- …so with an application that does not write its own DBIs during the pass (or no application
    at all), they are byte-identical before and after a non-native pass. -/
theorem C13_shadow_only_identical (cutoff n : Nat) (app : Nat → Env → Env) (e ef : Env) (nt nc : Nat)
    (happ : ∀ i e, appPart (app i e) = appPart e)
    (h : pass false cutoff n app e = .ok (ef, nt, nc)) :
    appPart ef = appPart e := by
  obtain ⟨nb, hnb⟩ := C13_shadow_only cutoff n app (fun _ s => s) e ef nt nc happ h
  rw [hnb]
  induction (List.range nb) with
  | nil => rfl
  | cons _ _ ih => exact ih

/-- A slice changes the DBI iff it removed something (`cleaned > 0`), and the environment the
    sweeper commits after a slice — the one handed to the application at the boundary, or the
    final one — carries a new LMDB transaction id iff the slice changed the DBI: a slice that
    deletes nothing records no transaction. -/
theorem C13_lasttxn (ik : Bool) (cutoff n : Nat) (app : Nat → Env → Env) (name : Bytes) (fuel : Nat)
    (e : Env) (last : Option (Bytes × Bytes)) (bi nt nc : Nat) (d : Dbi) (r : SliceRes)
    (hd : findDbi e.dbis name = some d) (hs : Sorted ik d.kvs)
    (hr : Sweeper.slice ik cutoff d.kvs last (some n) = .ok r) :
    (r.cleaned > 0 ↔ r.db ≠ d.kvs) ∧
    passDbi ik cutoff n app name (fuel + 1) e last bi nt nc =
      (let e' : Env := { dbis := setKvs e.dbis name r.db,
                         lastTxn := if r.db = d.kvs then e.lastTxn else e.lastTxn + 1 }
       if r.limitReached then passDbi ik cutoff n app name fuel (app bi e') r.last (bi + 1) (nt + 1) (nc + r.cleaned)
       else .ok (e', bi, nt + 1, nc + r.cleaned)) := by
  have hc := slice_cleaned_pos hs hr
  refine ⟨hc, ?_⟩
  rw [passDbi_succ hd hr]
  have : commitSlice e name r =
      { dbis := setKvs e.dbis name r.db, lastTxn := if r.db = d.kvs then e.lastTxn else e.lastTxn + 1 } := by
    unfold commitSlice
    by_cases hz : r.cleaned > 0
    · rw [if_pos hz, if_neg (hc.mp hz)]
    · rw [if_neg hz, if_pos (Classical.byContradiction fun hne => hz (hc.mpr hne))]
  rw [this]

section Examples

/-- a stored value: header (timestamp, transaction id 7, flags) and application bytes -/
private def val (ts : Nat) (fl : UInt8) (payload : Bytes) : Bytes := Header.putBasic ts 7 fl ++ payload

/-- live, old marker, marker exactly at the cut-off 10, old marker, live -/
private def exDb : KVs :=
  [([1], val 5 0 [9]), ([2], val 5 1 []), ([3], val 10 1 []), ([4], val 3 1 []), ([5], val 20 0 [8])]

example : IsExpired 10 (val 5 1 []) := by decide +kernel
example : ¬ IsExpired 10 (val 10 1 []) := by decide +kernel      -- `ts = cutoff` stays
example : ¬ IsExpired 10 (val 5 0 [9]) := by decide +kernel       -- live entries stay, however old
example : ¬ IsExpired 10 [1, 2, 3] := by decide +kernel           -- no header

/-- slice 1 (two entries): the resume cursor is the marker at key 2, which the slice deleted -/
example : (Sweeper.slice false 10 exDb none (some 2)).toOption =
    some { db := [([1], val 5 0 [9]), ([3], val 10 1 []), ([4], val 3 1 []), ([5], val 20 0 [8])],
           last := some ([2], val 5 1 []), limitReached := true, cleaned := 1 } := by decide +kernel

/-- resuming at a deleted key: the scan continues with its successor, nothing is skipped -/
example : startAt false [([1], val 5 0 [9]), ([3], val 10 1 []), ([4], val 3 1 []), ([5], val 20 0 [8])]
    (some ([2], val 5 1 [])) = [([3], val 10 1 []), ([4], val 3 1 []), ([5], val 20 0 [8])] := by decide +kernel

/-- slice 2: keeps the marker at the cut-off, deletes the marker at key 4 (again the cursor) -/
example : (Sweeper.slice false 10 [([1], val 5 0 [9]), ([3], val 10 1 []), ([4], val 3 1 []), ([5], val 20 0 [8])]
    (some ([2], val 5 1 [])) (some 2)).toOption =
    some { db := [([1], val 5 0 [9]), ([3], val 10 1 []), ([5], val 20 0 [8])],
           last := some ([4], val 3 1 []), limitReached := true, cleaned := 1 } := by decide +kernel

/-- slice 3: one entry left, the limit is not reached, nothing removed -/
example : (Sweeper.slice false 10 [([1], val 5 0 [9]), ([3], val 10 1 []), ([5], val 20 0 [8])]
    (some ([4], val 3 1 [])) (some 2)).toOption =
    some { db := [([1], val 5 0 [9]), ([3], val 10 1 []), ([5], val 20 0 [8])],
           last := some ([5], val 20 0 [8]), limitReached := false, cleaned := 0 } := by decide +kernel

/-- resuming at a kept entry: found again byte-identical and skipped; changed by the application
    (here: re-deleted with an older timestamp): examined again -/
example : startAt false exDb (some ([3], val 10 1 [])) = [([4], val 3 1 []), ([5], val 20 0 [8])] := by decide +kernel
example : startAt false [([1], val 5 0 [9]), ([3], val 2 1 []), ([5], val 20 0 [8])] (some ([3], val 10 1 [])) =
    [([3], val 2 1 []), ([5], val 20 0 [8])] := by decide +kernel

private def exEnv : Env := { dbis := [{ name := [0x61], flags := 0, kvs := exDb }], lastTxn := 40 }

/-- the whole pass in slices of two: three transactions (two of them recorded), two markers
    removed; the same content as in one unlimited slice -/
example : (passDbi false 10 2 (fun _ e => e) [0x61] 10 exEnv none 0 0 0).toOption =
    some ({ dbis := [{ name := [0x61], flags := 0,
                       kvs := [([1], val 5 0 [9]), ([3], val 10 1 []), ([5], val 20 0 [8])] }],
            lastTxn := 42 }, 2, 3, 2) := by decide +kernel

example : ((Sweeper.slice false 10 exDb none none).toOption.map (·.db)) =
    some [([1], val 5 0 [9]), ([3], val 10 1 []), ([5], val 20 0 [8])] := by decide +kernel

private def exApp (i : Nat) (e : Env) : Env :=
  if i = 0 then
    match findDbi e.dbis [0x61] with
    | some d => { e with dbis := setKvs e.dbis [0x61] (put false (put false d.kvs [2] (val 4 1 [])) [1, 5] (val 1 1 [])) }
    | none => e
  else e

/-- the application, at the first boundary, re-creates an expired marker under the (deleted)
    resume key 2 and inserts one behind the scan at key [1,5]: the first is examined again and
    removed, the second is not examined in this pass -/
example : (passDbi false 10 2 exApp [0x61] 10 exEnv none 0 0 0).toOption.map (fun r => (dbiKvs r.1 [0x61], r.2.2)) =
    some (some [([1], val 5 0 [9]), ([1, 5], val 1 1 []), ([3], val 10 1 []), ([5], val 20 0 [8])], 4, 3) := by
  decide +kernel

/-- non-native mode leaves the application DBI `a` alone; native mode sweeps it -/
example : (pass false 10 2 (fun _ e => e) exEnv).toOption = some (exEnv, 0, 0) := by decide +kernel
example : ((pass true 10 2 (fun _ e => e) exEnv).toOption.map (fun r => (dbiKvs r.1 [0x61], r.2))) =
    some (some [([1], val 5 0 [9]), ([3], val 10 1 []), ([5], val 20 0 [8])], 3, 2) := by decide +kernel

end Examples

end Ls.C13
