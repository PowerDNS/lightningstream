import LsLemmas.LoopWitness
/-
  C05 (sync-loop part) — an instance whose name already has snapshots in the bucket uploads
  nothing before it has merged its own newest one; a failed Store is fatal, never skipped.
  For EVERY schedule. (The bucket-level join invariant of C05 is in `LsProps/C05Fleet.lean`.)
  The guard holds with a forced periodic snapshot overdue as well (last section).
-/
namespace Ls.C05
open Ls Ls.Txn Ls.SyncLoop Ls.Loop

/-- **No upload while the own instance is waited for.** In every schedule, whenever a segment
    stores a blob, the own instance is not in the waiting set; and for the start-up `SendOnce`
    (`Caller.initial`) the waiting set is empty altogether — it only happens when the bucket
    listing at start-up was empty (`C05_startup_send_only_if_empty`), so no own snapshot existed. -/
theorem C05_no_upload_before_own (c : LoopCfg) (env : Env) (b : Bucket) (evs : List Ev) (i : In)
    (hst : Stores c (run c env b evs).st i) :
    c.own ∉ (run c env b evs).st.waiting ∧
    (∀ t ts snap, (run c env b evs).st.pc = .sendAfterTxn .initial t ts snap →
      (run c env b evs).st.waiting = []) :=
  (ownGuard_run c env b evs).stores hst

/-- the same at the yield points before and after the store: `SendOnce` is entered, and its
    result stored, only with the own instance out of the waiting set -/
theorem C05_send_part_guard (c : LoopCfg) (env : Env) (b : Bucket) (evs : List Ev)
    (hpc : (run c env b evs).st.pc = .beforeSend ∨
      (∃ who t ts snap, (run c env b evs).st.pc = .sendAfterTxn who t ts snap) ∨
      ∃ who t, (run c env b evs).st.pc = .sendStored who t) :
    c.own ∉ (run c env b evs).st.waiting :=
  (ownGuard_run c env b evs).send_part hpc

/-- **The start-up `SendOnce` happens only into an empty bucket**: if the start-up segment ends at
    the yield point after a `SendOnce` transaction, the bucket it listed was empty (and the LMDB
    non-empty). -/
theorem C05_startup_send_only_if_empty (c : LoopCfg) (b : Bucket) (s : St) (i : In)
    (hpc : s.pc = .boot) (who : Caller) (t ts : Nat) (snap : Snap)
    (h : (go c b s i).1.pc = .sendAfterTxn who t ts snap) :
    b = [] ∧ s.env.lastTxn > 0 ∧ who = .initial ∧ (go c b s i).1.waiting = [] := by
  obtain ⟨hw, hs⟩ := (go_seg c b s i Gh.init).boot hpc
  obtain ⟨h1, h2, h3⟩ := hs _ _ _ _ h
  exact ⟨h1, h2, h3, by rw [hw, h1]; rfl⟩

/-- **How the own instance (any instance) leaves the waiting set** after start-up: only by a
    segment in which `poll` found one of its snapshots in the bucket and began to load it
    (`pollTarget`), or in which `afterLoads` ran while the receiver no longer saw the instance
    (its snapshots disappeared). Nothing else removes it, and nothing adds to the set. -/
theorem C05_own_leaves_waiting (c : LoopCfg) (b : Bucket) (s : St) (i : In) (x : InstId)
    (hboot : s.pc ≠ .boot) (hx : x ∈ s.waiting) (hx' : x ∉ (go c b s i).1.waiting) :
    pollTarget b s i = some x ∨ (runsAfterLoads s i = true ∧ x ∉ s.seen) :=
  (go_seg c b s i Gh.init).waiting_leave hboot hx hx'

/-- **A failed Store is fatal, never skipped**: failing attempts within the retry budget end in the
    store of the same blob; with the budget exhausted the loop returns an error and the bucket is
    unchanged. -/
theorem C05_retry (c : LoopCfg) (b : Bucket) (s : St) (i : In)
    (hpc : ∃ who t ts snap, s.pc = .sendAfterTxn who t ts snap) (hro : c.txn.receiveOnly = false) :
    (i.fails < c.retryCount → ∃ blob, dumpBlob c s = some blob ∧ (go c b s i).2 = b ++ [blob]) ∧
    (i.fails ≥ c.retryCount → (go c b s i).2 = b ∧ (go c b s i).1.pc = .exited (.err "store")) := by
  obtain ⟨who, t, ts, snap, hpc⟩ := hpc
  rw [go_store hpc hro]
  refine ⟨fun hf => ?_, fun hf => ?_⟩
  · rw [if_neg (by omega)]
    exact ⟨_, by unfold dumpBlob; rw [hpc], rfl⟩
  · rw [if_pos hf]
    exact ⟨rfl, rfl⟩

/-! ## the guard and the forced periodic snapshot (`storage_force_snapshot_interval`)

  `C05_startup_send_only_if_empty`, `C05_own_leaves_waiting` and `C05_retry` above are about `go`
  from an arbitrary state: they hold whether or not the force flag is armed. The schedules of
  `C05_no_upload_before_own` / `C05_send_part_guard` (`run`, events `Ev`) never arm it; here are
  the same statements for schedules WITH the harness's arming event (`runA`, events `EvA`: an
  `Ev`, or `arm` — at any yield point), and the decisive step on its own. -/

/-- **A forced snapshot does not bypass the own-instance guard.** At the change check
    (`beforeInfo`) with a snapshot overdue (`forceArmed = true`) and the own instance in the
    waiting set — whatever `lastTxn` and `lastSynced` are —, the segment does not reach
    `beforeSend`: the loop goes to sleep (it cannot end either: the waiting set is not empty),
    nothing is stored, nothing else changes, and the snapshot stays overdue. -/
theorem C05_forced_respects_own_guard (c : LoopCfg) (b : Bucket) (s : St) (i : In)
    (hpc : s.pc = .beforeInfo) (harm : s.forceArmed = true) (hown : c.own ∈ s.waiting) :
    (go c b s i).1.pc ≠ .beforeSend ∧ (go c b s i).1.pc = .sleep ∧ (go c b s i).2 = b ∧
    (go c b s i).1.waiting = s.waiting ∧ (go c b s i).1.lastSynced = s.lastSynced ∧
    (go c b s i).1.env = s.env ∧ (go c b s i).1.forceArmed = true := by
  obtain ⟨g1, g2, g3, g4⟩ := go_pc c b s i
  have hb : (go c b s i).2 = b := by
    rcases go_bucket c b s i with ⟨⟨⟨who, t, ts, snap, hp⟩, _⟩, _⟩ | ⟨_, hb⟩
    · rw [hpc] at hp; cases hp
    · exact hb
  have hf : (go c b s i).1.forceArmed = true :=
    ((go_seg c b s i Gh.init).force_eq (by rw [hpc]; nofun)).trans harm
  have hraw : goRaw c b s i = (afterSend c s, b) := by
    rw [goRaw_beforeInfo hpc, if_pos (Or.inr harm), if_pos (by simpa using hown)]
  rw [g1, g2, g3, g4, hraw]
  have hsl : (afterSend c s).pc = .sleep := by
    rw [afterSend_pc, if_neg]
    rintro ⟨_, hw⟩
    rw [hw] at hown; cases hown
  rw [hsl, afterSend_eq]
  exact ⟨nofun, rfl, hb, rfl, rfl, rfl, hf⟩

/-- **No upload while the own instance is waited for — schedules with arming.** As
    `C05_no_upload_before_own`, for every schedule of loop segments, application transactions,
    listings, other instances' stores AND armings of the force flag at arbitrary yield points. -/
theorem C05_no_upload_before_own_armed (c : LoopCfg) (env : Env) (b : Bucket) (evs : List EvA) (i : In)
    (hst : Stores c (runA c env b evs).st i) :
    c.own ∉ (runA c env b evs).st.waiting ∧
    (∀ t ts snap, (runA c env b evs).st.pc = .sendAfterTxn .initial t ts snap →
      (runA c env b evs).st.waiting = []) :=
  (ownGuard_runA c env b evs).stores hst

/-- … and at the yield points before and after the store (as `C05_send_part_guard`) -/
theorem C05_send_part_guard_armed (c : LoopCfg) (env : Env) (b : Bucket) (evs : List EvA)
    (hpc : (runA c env b evs).st.pc = .beforeSend ∨
      (∃ who t ts snap, (runA c env b evs).st.pc = .sendAfterTxn who t ts snap) ∨
      ∃ who t, (runA c env b evs).st.pc = .sendStored who t) :
    c.own ∉ (runA c env b evs).st.waiting :=
  (ownGuard_runA c env b evs).send_part hpc

/-- the guard as a one-step invariant of `go` from ANY state (armed or not): if at the yield
    points of the send part the own instance is not waited for (`OwnGuard`), the same holds after
    one more segment; arming, application transactions and listings do not touch it -/
theorem C05_guard_step (c : LoopCfg) (b : Bucket) (s : St) (i : In) (h : OwnGuard c s) :
    OwnGuard c (go c b s i).1 ∧ OwnGuard c (armForce s) :=
  ⟨(go_seg c b s i Gh.init).ownGuard h, h⟩

open Ls.Loop.Witness in
/-- the hypotheses are satisfiable: instance "a" starts on a bucket that holds a snapshot of its
    own name; with the clock turned back at `top` the forced change check (third segment) still
    does not send while "a" is waited for — after the iteration nothing is stored and the snapshot
    is still overdue; once the own snapshot has been merged, the forced upload happens -/
example :
    let bA : Bucket := [{ inst := "a", ts := 1, snap := snapB }]
    let wait : List EvA := [.ev (.go (inp none)), .arm, .ev (.go (inp none)), .ev (.go (inp none)),
      .ev (.go (inp none))]
    let merge : List EvA := [.ev (.go (inp (some ("a", 1)))), .ev (.go (inp none)), .ev (.go (inp none)),
      .ev (.go (inp none)), .ev (.go (inp none)), .ev (.go (inp none))]
    (runA cfgS env0 bA (wait.take 3)).st.pc = .beforeInfo ∧
    (runA cfgS env0 bA (wait.take 3)).st.forceArmed = true ∧
    cfgS.own ∈ (runA cfgS env0 bA (wait.take 3)).st.waiting ∧
    (runA cfgS env0 bA wait).st.pc = .top ∧ (runA cfgS env0 bA wait).bucket = bA ∧
    (runA cfgS env0 bA wait).st.forceArmed = true ∧
    (runA cfgS env0 bA (wait ++ merge)).bucket.length = 2 ∧
    (runA cfgS env0 bA (wait ++ merge)).st.forceArmed = false := by
  decide +kernel

end Ls.C05
