import LsLemmas.LoopPublish
import LsProps.C09
import LsProps.C03
import LsProps.C01Loop
/-
  C03 / C09 at CONTENT level, for fleets of native-mode sync loops (LsLemmas/LoopAbs.lean,
  product fleet of LsLemmas/LoopBound.lean): the transaction-id bookkeeping theorems
  (`C03_I1_partial`, `C09_I2_partial`) read as statements about logical content (`absEnv`,
  `absSnap`). Helper lemmas: LsLemmas/LoopPublish.lean.

  Vocabulary: `RelN` — the simulation relation of `C01_loop_fleet_refines_native` (environments
  `EnvWF`, one bucket of `SnapOk` blobs); `LoopRunOkN` / `PRunOk` — its side conditions (`PRunOk`
  adds that every event belongs to an instance `< n`); `PS`, `prun`, `pinit` — the loop fleet with
  CONTENT ghosts `PG` per instance, parallel to the id ghosts of LsLemmas/LoopGhost.lean:
  `allW` (every recorded application write: transaction id, key, version), `unpubW`, `inflightW`,
  `publishedW` (recorded before the dump of a STORED blob began), `dumpEnv` / `storedEnv` (the
  environment at the moment the latest dump / the dump of the latest stored own blob began);
  `lastOwn B own` — the most recently stored blob of `own` in the bucket; `blobDB w = absSnap w.snap`;
  `Below v k D` — `D` holds for key `k` the version `v` or one that wins against it
  (`join (some v) (D k) = D k`).
-/
namespace Ls.C09
open Ls Ls.Lmdb Ls.Txn Ls.SyncLoop Ls.Loop

/-- **The logical content of a native-mode instance only grows.** Along every admissible schedule
    of the fleet — segments with any receiver answers, store failures and clock readings,
    application puts, listings; the D9 race windows included, no race hypothesis — `absEnv` of
    every instance at the end holds, for every key, a version at least as new (last-writer-wins)
    as at the start: every event leaves it unchanged, joins a snapshot into it (`LoadOnce`), or
    applies a non-losing write. -/
theorem C03_loop_fleet_content_monotone_native (cs : Nat → LoopCfg)
    (hn : ∀ j, (cs j).txn.native = true) (F : Fleet) (A : Abs.Fleet) (hrel : RelN cs F A)
    (evs : List (Nat × Ev)) (hok : LoopRunOkN cs F evs) (j : Nat) :
    (absEnv (F j).st.env).le (absEnv (fleetRun cs F evs j).st.env) := by
  obtain ⟨steps, h1, h2, h3, _⟩ := loop_run_refines_native cs hn evs F A hrel hok
  rw [← hrel.db j, ← h1.db j]
  exact Abs.run_db_mono steps A h3 j

/-- **A committed local application write is never destroyed by syncing (native mode, every
    schedule).** Once instance `j` has committed the put of version `verOf val` under `(name, key)`
    (an application event satisfying `LoopOkN`, with a key LMDB accepts, so that the transaction
    is committed), then at every later moment of the schedule — whatever is merged, uploaded or
    written afterwards, D9 windows included — instance `j` holds that version or one that wins
    last-writer-wins against it. (`C03_native` says this per segment and per stored value; here
    it is the content-level statement along whole schedules of the fleet.) -/
theorem C03_loop_fleet_write_survives_native (cs : Nat → LoopCfg)
    (hn : ∀ j, (cs j).txn.native = true) (F : Fleet) (A : Abs.Fleet) (hrel : RelN cs F A)
    (pre post : List (Nat × Ev)) (j : Nat) (name key val : Bytes) (hbk : badKey key = false)
    (hok : LoopRunOkN cs F (pre ++ (j, .app [.put name key val]) :: post)) :
    join (some (verOf val))
        (absEnv (fleetRun cs F (pre ++ (j, .app [.put name key val]) :: post) j).st.env (name, key)) =
      absEnv (fleetRun cs F (pre ++ (j, .app [.put name key val]) :: post) j).st.env (name, key) := by
  obtain ⟨hok1, hok2⟩ := loopRunOkN_append pre _ F hok
  obtain ⟨hokE, hok3⟩ := hok2
  obtain ⟨st1, hr1, _, _, _⟩ := loop_run_refines_native cs hn pre F A hrel hok1
  generalize hF1 : fleetRun cs F pre = F1 at hr1 hokE hok3
  obtain ⟨st2, hr2, _, _, _⟩ := loop_step_refines_native cs hn F1 _ (j, .app [.put name key val]) hr1 hokE
  -- the content right after the write
  have hafter : absEnv (fleetStep cs F1 (j, .app [.put name key val]) j).st.env (name, key) =
      some (verOf val) := by
    obtain ⟨name', key', val', hops, hp, hv, hd, _⟩ := hokE
    injection hops with hops _
    injection hops with e1 e2 e3
    subst e1 e2 e3
    rw [fleetStep_self]
    rcases appCommit_put (s := (F1 j).st) (key := key) (hr1.wf j) hp hv hd with ⟨hb, _⟩ | ⟨_, _, habs⟩
    · rw [hbk] at hb; cases hb
    · show absEnv (appCommit (F1 j).st [.put name key val]).env (name, key) = _
      rw [habs, Abs.upd_same]
  have hmono := C03_loop_fleet_content_monotone_native cs hn _ _ hr2 post hok3 j
  have hfin : fleetRun cs F (pre ++ (j, .app [.put name key val]) :: post) =
      fleetRun cs (fleetStep cs F1 (j, .app [.put name key val])) post := by
    rw [fleetRun_append, hF1]; rfl
  rw [hfin]
  have := hmono (name, key)
  rw [hafter] at this
  exact this

/-- **The newest own snapshot is a complete dump (every schedule, races included).** In every
    state an admissible schedule of `n` native-mode, not receive-only instances with distinct
    names reaches from their start (`pinit`), the most recently stored blob `w` of instance `j`
    in the bucket has exactly the logical content `j`'s environment had at the moment the dump
    transaction of `w` ran (`storedEnv`), lies below `j`'s present content, and covers every
    application write `j` recorded before that dump transaction (`publishedW`). -/
theorem C09_newest_own_snapshot_is_dump_native (cs : Nat → LoopCfg) (n : Nat)
    (hn : ∀ j, (cs j).txn.native = true) (hro : ∀ j, (cs j).txn.receiveOnly = false)
    (hown : ∀ i j, i < n → j < n → (cs i).own = (cs j).own → i = j)
    (envs : Nat → Env) (hwf : ∀ j, EnvWF (envs j)) (evs : List (Nat × Ev))
    (hok : PRunOk cs n (fun j => G.init (envs j) []) evs) (j : Nat) (hj : j < n) (w : Blob)
    (hw : lastOwn ((prun cs (pinit envs) evs).F 0).bucket (cs j).own = some w) :
    ∃ e, ((prun cs (pinit envs) evs).pg j).storedEnv = some e ∧ blobDB w = absEnv e ∧
      (blobDB w).le (absEnv ((prun cs (pinit envs) evs).F j).st.env) ∧
      ∀ t ∈ ((prun cs (pinit envs) evs).pg j).publishedW, Below t.2.2 t.2.1 (blobDB w) := by
  have h := pinv_run cs n hn hro hown evs (pinit envs) (pinv_init cs n envs hwf) hok
  have hJ := h.2 j hj
  rcases hJ.last with ⟨hnone, _⟩ | ⟨w', e, hw', he, hc, hcov⟩
  · rw [hnone] at hw; cases hw
  · rw [hw] at hw'; injection hw' with hw'; subst hw'
    obtain ⟨hwB, hwi⟩ := lastOwn_mem hw
    exact ⟨e, he, hc, hJ.own w hwB hwi, hcov⟩

/-- **At an idle point the newest own snapshot covers every local write, except the most recent
    ones (race-free schedules).** `n` native-mode, not receive-only instances with distinct names,
    started on well-formed environments over an empty bucket; an admissible schedule (`PRunOk`)
    in which no RECORDED application transaction of instance `j` commits inside the race window
    `Racy` (`RaceFree` of `j`'s local schedule: in native mode D9 affects exactly this property,
    `C09_race_content_witness_native`); `j` idles (`pc = sleep`: in particular no store exhausted
    its retry budget — then the loop has ended) and is not in its start-up waiting set. Then every
    application write `t` that `j` ever recorded (`allW`)
    * was recorded before the dump transaction of the newest own blob `w` in the bucket
      (`t ∈ publishedW` — precisely the covered writes), `w` has the content `j`'s environment
      had at that dump, and `w` holds for `t`'s key `t`'s version or one that wins against it; or
    * was recorded after the `beforeInfo` step of the iteration that just ended (`sinceInfo`):
      the next iteration finds `lastTxn > lastSynced` and uploads (`C09_I2_ids`).
    The invariant behind it is I2 (`C09_I2_partial`: `Inv0.cover`, `Inv0.inflight`, and `Fresh`
    from `Inv1` at `sleep`); `Calm` at `sleep` alone does not give it.
    `_partial`: besides race-freedom it assumes: native mode, not receive-only, single-put
    application transactions (`LoopOkN`), no blobs from outside the fleet, no restarts. -/
theorem C09_idle_snapshot_covers_writes_native_partial (cs : Nat → LoopCfg) (n : Nat)
    (hn : ∀ j, (cs j).txn.native = true) (hro : ∀ j, (cs j).txn.receiveOnly = false)
    (hown : ∀ i j, i < n → j < n → (cs i).own = (cs j).own → i = j)
    (envs : Nat → Env) (hwf : ∀ j, EnvWF (envs j)) (evs : List (Nat × Ev))
    (hok : PRunOk cs n (fun j => G.init (envs j) []) evs) (j : Nat) (hj : j < n)
    (hrf : RaceFree (cs j) (envs j) [] (localEvs cs (fun j => G.init (envs j) []) evs j))
    (hidle : ((prun cs (pinit envs) evs).F j).st.pc = .sleep)
    (hwait : (cs j).own ∉ ((prun cs (pinit envs) evs).F j).st.waiting) :
    ∀ t ∈ ((prun cs (pinit envs) evs).pg j).allW,
      t.1 ∈ ((prun cs (pinit envs) evs).F j).gh.sinceInfo ∨
      (t ∈ ((prun cs (pinit envs) evs).pg j).publishedW ∧
        ∃ w e, lastOwn ((prun cs (pinit envs) evs).F 0).bucket (cs j).own = some w ∧
          ((prun cs (pinit envs) evs).pg j).storedEnv = some e ∧ blobDB w = absEnv e ∧
          join (some t.2.2) (blobDB w t.2.1) = blobDB w t.2.1) := by
  have hinv := pinv_run cs n hn hro hown evs (pinit envs) (pinv_init cs n envs hwf) hok
  generalize hP : prun cs (pinit envs) evs = P at hinv hidle hwait ⊢
  have hF : P.F j = run (cs j) (envs j) [] (localEvs cs (fun j => G.init (envs j) []) evs j) := by
    rw [← hP, prun_F]
    exact fleetRun_local cs _ evs j
  have h0 : Inv0 (cs j) (P.F j) := by rw [hF]; exact inv0_run _ _ _ _
  have h1 : Inv1 (cs j) (P.F j) := by rw [hF]; exact inv1_run hrf
  have hJ := hinv.2 j hj
  intro t ht
  have hid : t.1 ∈ (P.F j).gh.allApp := by
    rw [hJ.allApp]; exact List.mem_map_of_mem ht
  have hI2 : t.1 ∈ (P.F j).gh.published ∨ t.1 ∈ (P.F j).gh.sinceInfo := by
    unfold Inv1 at h1
    rw [hidle] at h1
    have hin := h0.inflight (hro j) (by rw [hidle]; rfl)
    rcases h0.cover t.1 hid with h | h | h
    · exact Or.inr (h1.2 hwait t.1 h)
    · rw [hin] at h; cases h
    · exact Or.inl h
  rcases hI2 with hpub | hsince
  · right
    rw [hJ.published] at hpub
    obtain ⟨t', ht', hte⟩ := List.mem_map.mp hpub
    have : t' = t := eq_of_nodup_map (·.1) hJ.nodup (hJ.subP t' ht') ht hte
    subst this
    refine ⟨ht', ?_⟩
    rcases hJ.last with ⟨_, hnone⟩ | ⟨w, e, hw, he, hc, hcov⟩
    · rw [hnone] at ht'; cases ht'
    · exact ⟨w, e, hw, he, hc, hcov t' ht'⟩
  · exact Or.inl hsince

namespace FleetWitness
open Ls.Loop.Witness (app)
open Ls.Loop.BoundWitness (hv)
open Ls.C01.LoopExample (seg)
open Ls.C01.LoopExampleN (csN envN)

def F0 : Fleet := fun _ => G.init envN []

/-- "a" (instance 0) writes key 3 and publishes it (blob `a@5`); "b" (instance 1) writes key 1 and
    publishes it (blob `b@11`); "a" merges `b@11` (transaction 2), merges it AGAIN — an empty write
    transaction whose id 3 LMDB hands to the next writer — and right then, at the yield point
    after that empty `LoadOnce` (the race window), a's application commits key 2 and gets id 3;
    the loop takes 3 for its own transaction id, sets `lastSynced := 3 = lastTxn`, finds nothing to
    upload and idles -/
def raceSched : List (Nat × Ev) :=
  [(0, .app [.put app [3] (hv 67)]), (0, seg none 5), (0, seg none 6), (0, seg none 7),
   (1, .app [.put app [1] (hv 65)]), (1, seg none 8), (1, seg none 9), (1, seg none 10),
   (1, seg none 11), (1, seg none 12), (1, seg none 13),
   (0, seg (some ("b", 11)) 20), (0, seg (some ("b", 11)) 21),
   (0, .app [.put app [2] (hv 66)]),
   (0, seg none 22), (0, seg none 23)]

/-- `app` is an application DBI name; the written values are well-formed stored values -/
theorem C09_witness_facts : isPrivate app = false ∧ StoredWF (hv 65) ∧ StoredWF (hv 66) ∧ StoredWF (hv 67) := by
  decide +kernel

/-- every side condition of `C09_idle_snapshot_covers_writes_native_partial` except race-freedom
    holds for the schedule -/
theorem C09_witness_runOk : PRunOk csN 2 F0 raceSched :=
  pRunOk_of_check _ _ (by decide +kernel)

/-- the state after the schedule -/
def PW : PS := prun csN (pinit (fun _ => envN)) raceSched

/-- **D9 at content level (native mode): a committed local write that the newest own snapshot
    does not contain at the next idle point, although no later write happened.** Every side
    condition of `C09_idle_snapshot_covers_writes_native_partial` holds except race-freedom: the
    schedule is admissible (`C09_witness_runOk`), instance "a" idles and is not in its waiting
    set — but a's application transaction 3 (key 2) committed inside the race window `Racy`. At
    the idle point a's content holds key 2 (and keys 1, 3), the write is recorded (`allW`) and is
    neither recent (`sinceInfo` is empty) nor published; the newest own blob of "a" in the bucket
    is still `a@5`, whose content has no version at all for key 2 — the conclusion of the
    theorem fails for that write. (Nothing is destroyed: `C03_loop_fleet_write_survives_native`;
    what is lost is the publication, and it stays lost until the next local write.) -/
theorem C09_race_content_witness_native :
    ¬ RaceFree (csN 0) envN [] (localEvs csN F0 raceSched 0) ∧
    RaceFree (csN 0) envN [] (localEvs csN F0 (raceSched.take 13) 0) ∧
    Racy (fleetRun csN F0 (raceSched.take 13) 0).st ∧
    (PW.F 0).st.pc = .sleep ∧ (csN 0).own ∉ (PW.F 0).st.waiting ∧
    (PW.F 0).st.lastSynced = 3 ∧ (PW.F 0).st.env.lastTxn = 3 ∧
    (PW.pg 0).allW = [(3, (app, [2]), ⟨7, false, [66]⟩), (1, (app, [3]), ⟨7, false, [67]⟩)] ∧
    (PW.pg 0).publishedW = [(1, (app, [3]), ⟨7, false, [67]⟩)] ∧
    (PW.F 0).gh.sinceInfo = [] ∧
    absEnv (PW.F 0).st.env (app, [2]) = some ⟨7, false, [66]⟩ ∧
    ((lastOwn (PW.F 0).bucket (csN 0).own).map fun w => (w.inst, w.ts, blobDB w (app, [2]),
      blobDB w (app, [3]))) = some ("a", 5, none, some ⟨7, false, [67]⟩) := by
  -- one kernel evaluation for all facts but the last, so that the states of the schedule are
  -- computed once (the `Decidable` instance of all twelve together is too large to synthesize)
  simp only [← and_assoc]
  exact ⟨by decide +kernel, by decide +kernel⟩

/-- the same fleet without the race: if a's application writes key 2 one segment later (at
    `beforeInfo`, outside the window), the schedule is race-free, the same iteration uploads, and at
    the idle point the newest own snapshot (`a@24`) holds key 2 -/
def okSched : List (Nat × Ev) :=
  raceSched.take 13 ++
  [(0, seg none 22), (0, .app [.put app [2] (hv 66)]), (0, seg none 23), (0, seg none 24), (0, seg none 25),
   (0, seg none 26)]

example :
    RaceFree (csN 0) envN [] (localEvs csN F0 okSched 0) ∧
    ((prun csN (pinit (fun _ => envN)) okSched).F 0).st.pc = .sleep ∧
    ((lastOwn ((prun csN (pinit (fun _ => envN)) okSched).F 0).bucket (csN 0).own).map fun w =>
      (w.inst, w.ts, blobDB w (app, [2]))) = some ("a", 24, some ⟨7, false, [66]⟩) := by
  decide +kernel

end FleetWitness

end Ls.C09
