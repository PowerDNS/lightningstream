import LsLemmas.AbsFleetInv
import LsLemmas.AbsFleetSettle
/-
  C01 — Replicas converge to the per-key last-writer-wins winner.
  Stated on the abstract fleet (LsLemmas/AbsFleet.lean): any number of instances, arbitrary
  schedules of application writes (any key, any well-formed version, equal timestamps across
  instances allowed, timestamp 0 allowed), uploads, and merges of ANY snapshot in the bucket.
  The byte-level transactions refine these steps: C02_merge_is_join / C02_fold_is_joinAll (merge =
  join), C19_update_pointwise (Update applies it per key), C06_complete (a snapshot is the complete
  image), C11_step (non-native mirror); the real sync loops are tied to the model at trace level.
-/
namespace Ls.C01
open Ls Ls.Abs

/-- Once every instance has published its database and merged every other instance's newest
    snapshot, all instances hold identical logical content (same timestamp, deleted flag and value
    for every DBI and key) — whatever happened before, for any number of instances. Stated for
    a well-formed fleet; antisymmetry of the order (`DB.le.antisymm`) needs no well-formedness. -/
theorem C01_converged (f : Fleet) (hwf : FleetWF f) (hq : Quiescent f) :
    ∀ i j, i < f.n → j < f.n → f.db i = f.db j := by
  intro i j hi hj
  obtain ⟨_, _, rfl, hlej⟩ := hq j hj
  obtain ⟨_, _, rfl, hlei⟩ := hq i hi
  exact (hlei j hj).antisymm (hlej i hi)

/-- No invention: whatever any instance stores or publishes was written by some application. -/
theorem C01_content_is_written (n : Nat) (steps : List Step) (hs : StepsWF steps)
    (hm : MonotoneFrom (init n) steps) (i : Nat) (k : Key) (v : Ver)
    (h : (run (init n) steps).db i k = some v) : ∃ i', (i', k, v) ∈ writesOf steps :=
  (inv_run_init n steps hs hm).dbFrom i k v h

/-- The winner: in a quiescent state reached by a monotone schedule, every instance holds, for
    every key, a version that no version ever written anywhere for that key beats — and
    (`C01_content_is_written`) it is itself one of the written versions: the last-writer-wins
    maximum (highest timestamp; on equal timestamps the fixed tie-break), whatever the order of
    uploads and merges was. (`hn` holds of every schedule: `run_n`.) -/
theorem C01_winner (n : Nat) (steps : List Step) (hs : StepsWF steps)
    (hm : MonotoneFrom (init n) steps) (hn : (run (init n) steps).n = n)
    (hq : Quiescent (run (init n) steps)) (i : Nat) (hi : i < n) (j : Nat) (hj : j < n)
    (k : Key) (v : Ver) (hw : (j, k, v) ∈ writesOf steps) :
    join (some v) ((run (init n) steps).db i k) = (run (init n) steps).db i k := by
  have hinv := inv_run_init n steps hs hm
  rw [C01_converged _ hinv.wf hq i j (hn.symm ▸ hi) (hn.symm ▸ hj)]
  exact hinv.kept j k v hw

/-- non-vacuity: a write at instance 0 reaches instance 1 and the fleet is quiescent after one
    exchange (hypotheses of the theorems above are satisfiable by a reachable state) -/
example : Quiescent (run (init 2)
    [.write 0 ([1], [2]) ⟨5, false, [7]⟩, .send 0, .load 1 0, .send 1, .load 0 1]) := by
  have two : ∀ j, j < 2 → j = 0 ∨ j = 1 := fun j h => by omega
  intro j hj
  rcases two j hj with rfl | rfl
  · refine ⟨upd DB.empty ([1], [2]) ⟨5, false, [7]⟩, rfl, ?_, fun i hi => ?_⟩
    · funext k; simp [run, step, init, DB.join, DB.empty, join_none_left, join_idem]
    · rcases two i hi with rfl | rfl <;> intro k <;>
        simp [run, step, init, DB.join, DB.empty, join_idem, join_none_left]
  · refine ⟨DB.join DB.empty (upd DB.empty ([1], [2]) ⟨5, false, [7]⟩), rfl, ?_, fun i hi => ?_⟩
    · funext k; simp [run, step, init, DB.join]
    · rcases two i hi with rfl | rfl <;> intro k <;>
        simp [run, step, init, DB.join, DB.empty, join_idem, join_none_left]

/-- the settle schedule is literally "all upload, all load all of these uploads, all upload
    again": for 2 instances and a bucket that already holds 3 snapshots -/
example : settleSchedule 2 3 =
    [.send 0, .send 1, .load 0 3, .load 0 4, .load 1 3, .load 1 4, .send 0, .send 1] := rfl

/-- `allJoin f` — the join of the databases of instances `0..f.n-1` — is exactly their least
    upper bound in the last-writer-wins order: it is well-formed, every instance's database is
    below it, and it is below every well-formed database that is above all of them. -/
theorem C01_allJoin_is_lub (f : Fleet) (hwf : FleetWF f) :
    (allJoin f).WF ∧ (∀ j, j < f.n → (f.db j).le (allJoin f)) ∧
    ∀ d : DB, d.WF → (∀ j, j < f.n → (f.db j).le d) → (allJoin f).le d :=
  ⟨allJoin_wf hwf, le_allJoin f, fun _ _ => allJoin_le f⟩

/-- One settle round suffices, from ANY state (any number of instances, any prior databases, any
    prior bucket content; stated for well-formed fleets, `settle_quiescent` and `settle_db` hold
    for all): after every instance uploads, every instance merges
    every one of these uploads, and every instance uploads again, the fleet is quiescent, the
    number of instances is unchanged, and every instance holds exactly the join (least upper
    bound, `C01_allJoin_is_lub`) of all instances' prior databases — per key the last-writer-wins
    winner among what the instances held. (Holds for `f.n = 0` too, vacuously.) -/
theorem C01_settles (f : Fleet) (hwf : FleetWF f) :
    let g := run f (settleSchedule f.n f.bucket.length)
    Quiescent g ∧ g.n = f.n ∧ ∀ i, i < f.n → g.db i = allJoin f :=
  ⟨settle_quiescent f, run_n f _, settle_db f⟩

/-- `C01_settles` without reference to `allJoin`: after the settle round every instance's database
    is an upper bound of all prior databases and lies below every well-formed upper bound of them. -/
theorem C01_settles_lub (f : Fleet) (hwf : FleetWF f) (i : Nat) (hi : i < f.n) :
    let g := run f (settleSchedule f.n f.bucket.length)
    (∀ j, j < f.n → (f.db j).le (g.db i)) ∧
    ∀ d : DB, d.WF → (∀ j, j < f.n → (f.db j).le d) → (g.db i).le d := by
  intro g
  rw [show g.db i = allJoin f from settle_db f i hi]
  exact ⟨le_allJoin f, fun _ _ => allJoin_le f⟩

/-- After the settle round all instances hold identical content: each holds `allJoin f`. -/
theorem C01_settles_equal (f : Fleet) (hwf : FleetWF f) :
    let g := run f (settleSchedule f.n f.bucket.length)
    ∀ i j, i < f.n → j < f.n → g.db i = g.db j := by
  intro g i j hi hj
  exact (settle_db f i hi).trans (settle_db f j hj).symm

/-- Whatever happened before: after any schedule of well-formed writes, uploads and merges from
    the empty fleet of `n` instances, one settle round yields a quiescent fleet of `n` instances
    that all hold identical content, namely the join of what they held before the round. -/
theorem C01_settle_after_any_history (n : Nat) (steps : List Step) (hs : StepsWF steps) :
    let h := run (init n) steps
    let g := run h (settleSchedule n h.bucket.length)
    Quiescent g ∧ g.n = n ∧ (∀ i j, i < n → j < n → g.db i = g.db j) ∧
    ∀ i, i < n → g.db i = allJoin h := by
  intro h g
  have hh : FleetWF h := run_wf (init_wf n) hs
  have hn : h.n = n := run_n (init n) steps
  have hg : g = run h (settleSchedule h.n h.bucket.length) := by rw [hn]
  rw [hg]
  obtain ⟨hq, hgn, hall⟩ := C01_settles h hh
  exact ⟨hq, hgn.trans hn,
    fun i j hi hj => C01_settles_equal h hh i j (hn.symm ▸ hi) (hn.symm ▸ hj),
    fun i hi => hall i (hn.symm ▸ hi)⟩

/-- non-vacuity: two instances wrote the same key with conflicting versions (equal timestamps,
    different values); the fleet is well-formed, and after the settle round both hold the
    last-writer-wins winner (on equal timestamps the lexicographically lower value) -/
example :
    let f := run (init 2) [.write 0 ([1], [2]) ⟨5, false, [9]⟩, .write 1 ([1], [2]) ⟨5, false, [7]⟩]
    let g := run f (settleSchedule f.n f.bucket.length)
    FleetWF f ∧ f.n = 2 ∧ f.db 0 ([1], [2]) = some ⟨5, false, [9]⟩ ∧
    f.db 1 ([1], [2]) = some ⟨5, false, [7]⟩ ∧
    g.db 0 ([1], [2]) = some ⟨5, false, [7]⟩ ∧ g.db 1 ([1], [2]) = some ⟨5, false, [7]⟩ := by
  refine ⟨run_wf (init_wf 2) ?_, rfl, by decide, by decide, by decide, by decide⟩
  intro s hs
  simp only [List.mem_cons, List.mem_nil_iff, or_false] at hs
  rcases hs with rfl | rfl <;> simp [Ver.WF]

end Ls.C01
