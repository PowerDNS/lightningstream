import LsLemmas.MergeRefine
/-
  C14 — Values written by Lightning Stream always carry a well-formed header.
-/
namespace Ls.C14
open Ls Ls.Header Ls.Merge

/-- Decidable well-formedness of a value written by Lightning Stream's iterator with write
    transaction id `txn` (padding option `pad`): version-0 header, that transaction id, only
    synced flags, reserved bytes zero, extension count matching the bytes present (0, or 1
    all-zero block under the padding option), followed by exactly `app`, empty when deleted. -/
def WrittenWF (txn : Nat) (pad : Bool) (r : Bytes) (ts : Nat) (fl : UInt8) (app : Bytes) : Prop :=
  r = be64 ts ++ be64 txn ++ [0, fl, 0, 0, 0, 0, 0, if pad then 1 else 0]
        ++ (if pad then [0, 0, 0, 0, 0, 0, 0, 0] else []) ++ app
  ∧ fl &&& ~~~ (UInt8.ofNat Gen.flagSyncMask) = 0
  ∧ (isDeleted fl = true → app = [])

/-- PutBasic followed by a value parses back to exactly what was put (any ts, txn id, flag byte,
    value). -/
theorem C14_put_parse (ts txn : Nat) (fl : UInt8) (v : Bytes) (hts : ts < two64) (htx : txn < two64) :
    parse (putBasic ts txn fl ++ v)
      = .ok ({ ts := ts, txn := txn, version := 0, flags := fl, numExtra := 0, extra := [] }, v) :=
  parse_putBasic ts txn fl v hts htx

theorem C14_numExtra_range (b : Bytes) : getNumExtra b ≤ 65535 := by
  unfold getNumExtra
  have h := beNat_lt (slice b Gen.numExtraOffsetHigh (Gen.numExtraOffsetHigh + 2))
  have hl : (slice b Gen.numExtraOffsetHigh (Gen.numExtraOffsetHigh + 2)).length ≤ 2 := by
    simp [slice, Gen.numExtraOffsetHigh]; omega
  have : 256 ^ (slice b Gen.numExtraOffsetHigh (Gen.numExtraOffsetHigh + 2)).length ≤ 256 ^ 2 :=
    Nat.pow_le_pow_right (by decide) hl
  omega

/-- `Parse` is total and decides exactly as documented, for every byte string:
    too short / wrong version / truncated extension blocks are errors, otherwise the
    application value is what follows all `n` extension blocks, n = 0..65535. -/
theorem C14_parse_total (b : Bytes) :
    (b.length < 24 → parse b = .error .tooShort) ∧
    (24 ≤ b.length → b.getD 16 0 ≠ 0 → parse b = .error .version) ∧
    (24 ≤ b.length → b.getD 16 0 = 0 → b.length < 24 + 8 * getNumExtra b →
        parse b = .error .tooShort) ∧
    (24 ≤ b.length → b.getD 16 0 = 0 → 24 + 8 * getNumExtra b ≤ b.length →
        ∃ h, parse b = .ok (h, b.drop (24 + 8 * getNumExtra b)) ∧
          h.ts = beNat (slice b 0 8) ∧ h.txn = beNat (slice b 8 16) ∧ h.version = 0 ∧
          h.flags = b.getD 17 0 ∧ h.numExtra = getNumExtra b) :=
  ⟨parse_short, parse_version, parse_truncated,
   fun h hv ht => ⟨_, parse_ok h hv ht, rfl, rfl, rfl, rfl, rfl⟩⟩

/-- `Skip` agrees with `Parse` on every input. -/
theorem C14_skip_agrees (b : Bytes) : skip b = (parse b).map (·.2) := by
  unfold skip parse
  split <;> try rfl
  split <;> try rfl
  dsimp only
  split <;> rfl

/-- Every value `Merge` returns that is not the stored value itself is well-formed: header with
    the iterator's (= the write transaction's) id, synced flags only, reserved zero, extension
    count matching, followed by exactly the application value (empty when deleted). -/
theorem C14_written_wf (c : Cfg) (e : KV) (old r : Bytes)
    (h : merge c e old = .ok (some r)) (hne : r ≠ old) :
    ∃ ts fl app, WrittenWF c.txn c.pad r ts fl app ∧ (isDeleted fl = false → app = e.val) := by
  rcases merge_result c e old r h with h | h
  · exact absurd h hne
  · refine ⟨_, effFlags c e.val (maskedFlags e), _, ⟨h.trans (addHeader_eq ..), ?_, ?_⟩, ?_⟩
    · exact effFlags_in_mask _ _ _ (masked_in_mask _)
    · intro hd; rw [if_pos hd]
    · intro hd; rw [hd]; rfl

/-- Every value `Clean` (shadow capture of an application-side deletion) returns that is not the
    stored value itself is a well-formed deletion marker. -/
theorem C14_clean_wf (c : Cfg) (old r : Bytes)
    (h : clean c old = .ok (some r)) (hne : r ≠ old) :
    ∃ ts fl, WrittenWF c.txn c.pad r ts fl [] ∧ isDeleted fl = true := by
  rcases clean_result c old r h with h | h
  · exact absurd h hne
  · have hd : isDeleted (effFlags c [] (UInt8.ofNat Gen.flagDeleted)) = true := by
      unfold effFlags; split <;> decide
    refine ⟨c.defTs, effFlags c [] (UInt8.ofNat Gen.flagDeleted), ⟨?_, ?_, fun _ => rfl⟩, hd⟩
    · rw [h, addHeader_eq, if_pos hd, if_pos (rfl : (0 : Nat) = 0)]
    · exact effFlags_in_mask _ _ _ flagDeleted_in_mask

/-- A well-formed written value is read back by `Parse` as exactly (ts, txn, flags, app):
    the independent reader of the documented format sees what was written — also with the
    padding extension block. -/
theorem C14_wf_parses (txn : Nat) (pad : Bool) (r : Bytes) (ts : Nat) (fl : UInt8) (app : Bytes)
    (hts : ts < two64) (htx : txn < two64) (h : WrittenWF txn pad r ts fl app) :
    ∃ hd, parse r = .ok (hd, app) ∧ hd.ts = ts ∧ hd.txn = txn ∧ hd.flags = fl ∧ hd.version = 0
      ∧ hd.numExtra = (if pad then 1 else 0) := by
  rw [h.1, parse_written ts txn pad fl app hts htx]
  exact ⟨_, rfl, rfl, rfl, rfl, rfl, rfl⟩

/-- non-vacuity: a concrete merge that writes a new value -/
example : ∃ r, merge { fv := 3, defTs := 0, txn := 9, cutoff := 0, pad := false }
    { key := [0x6b], val := [0x61], ts := 5, flags := 0 } [] = .ok (some r) ∧ r ≠ [] := by
  refine ⟨_, rfl, ?_⟩; decide

end Ls.C14
