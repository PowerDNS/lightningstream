import LsLemmas.TxnAbsShadowRun
/-
  C01 (refinement, shadow mode) — the byte-level transactions of a NON-native schema (shadow
  DBIs, `schema_tracks_changes = false`), without the dupsort hack, refine — per transaction — the
  steps of the abstract last-writer-wins fleet of LsLemmas/AbsFleet.lean, once the application's
  pending writes are accounted for by the abstract capture.
  Model: LsModel/Txn.lean (`sendOnce`, `loadOnce`, `mainToShadow`, `shadowToMain`), following
  /repo/syncer/shadow.go mainToShadow / shadowToMain, /repo/syncer/sync.go LoadOnce,
  /repo/syncer/send.go SendOnce. Definitions and lemmas: LsLemmas/TxnAbsShadow.lean (per
  transaction) and TxnAbsShadowRun.lean (runs), on `loadDbi_spec`, `loadFold_join`, `dump_abs` of
  TxnAbs and on the lemmas behind C11_capture (`mainToShadow_nondup`) and C11_project
  (`shadowToMain_nondup`). D7 in the names of hypotheses: an empty live value cannot be mirrored,
  the projection removes the key from the application DBI.

  Scope: `c.native = false`, `c.hack = false` (a duplicate-keys application DBI makes either pass
  fail, so none exists: `ShadowWF` says so before, the theorems derive it after), byte-ordered or
  integer-key DBIs, stale-deletion cut-off 0 for `loadOnce` (any cut-off for `sendOnce`).
-/
namespace Ls.C01
open Ls Ls.Lmdb Ls.Txn
open Ls.Merge (KV norm decodeS)

/-- **What `absShadow` and `appView` are.** For a private DBI name both are `none`. For a
    non-private name: `appView e (name, k)` is the value LMDB finds for `k` in the DBI `name` (in
    its own key order), `none` if the DBI or the key is missing; `absShadow e (name, k)` is `none`
    if the shadow DBI `shadowName name` or the key in it is missing, and `some v` if LMDB finds the
    stored value `b` there and `decodeS b = .ok (some v)` (header timestamp, deleted flag,
    application value). In a well-formed environment the logical content is well-formed
    (deleted ⇒ no value). -/
theorem C01_absShadow_spec (e : Env) (name k : Bytes) :
    (isPrivate name = true → absShadow e (name, k) = none ∧ appView e (name, k) = none) ∧
    (isPrivate name = false →
      (findDbi e.dbis name = none → appView e (name, k) = none) ∧
      (∀ d, findDbi e.dbis name = some d → appView e (name, k) = get (isIntKey d.flags) d.kvs k) ∧
      (findDbi e.dbis (shadowName name) = none → absShadow e (name, k) = none) ∧
      (∀ sd, findDbi e.dbis (shadowName name) = some sd →
        (get (isIntKey sd.flags) sd.kvs k = none → absShadow e (name, k) = none) ∧
        (∀ b v, get (isIntKey sd.flags) sd.kvs k = some b → decodeS b = .ok (some v) →
          absShadow e (name, k) = some v))) ∧
    (ShadowWF e → (absShadow e).WF) := by
  refine ⟨fun hp => ⟨absShD_private hp k, appVD_private hp k⟩, fun hp => ⟨?_, ?_, ?_, ?_⟩, ?_⟩
  · intro hd; exact appVD_of_none hd k
  · intro d hd; exact appVD_of_find hp hd k
  · intro hs; exact absShD_of_none hs k
  · intro sd hs
    have habs : absShadow e (name, k) = decodeO (get (isIntKey sd.flags) sd.kvs k) :=
      absShD_of_find hp hs k
    refine ⟨fun hg => by rw [habs, hg]; rfl, fun b v hg hd => ?_⟩
    rw [habs, hg]; exact decodeO_some hd
  · intro hwf
    exact absShD_wf ((shadowWF_iff e).mp hwf).2.1

/-- **What the abstract capture does**, key by key. (1) The application holds `v` and the shadow
    holds a live version with value `v`: the version is kept, timestamp included. (2) The
    application holds `v` and the shadow holds nothing, a deleted version, or a live version with
    another value: `(now, live, v)`. (3) The application lacks the key and the shadow holds a live
    version: `(now, deleted, ∅)`. (4) The application lacks the key and the shadow holds a deleted
    version: kept. (5) Neither has the key: nothing. (This is `C11_capture` (a)–(e) on logical
    content.) -/
theorem C01_capture_spec (sh : Abs.DB) (app : Abs.Key → Option Bytes) (now : Nat) (key : Abs.Key) :
    (∀ v o, app key = some v → sh key = some o → o.del = false → o.val = v →
      capture sh app now key = some o) ∧
    (∀ v, app key = some v → (∀ o, sh key = some o → o.del = true ∨ o.val ≠ v) →
      capture sh app now key = some { ts := now, del := false, val := v }) ∧
    (∀ o, app key = none → sh key = some o → o.del = false →
      capture sh app now key = some { ts := now, del := true, val := [] }) ∧
    (∀ o, app key = none → sh key = some o → o.del = true → capture sh app now key = some o) ∧
    (app key = none → sh key = none → capture sh app now key = none) := by
  refine ⟨?_, ?_, ?_, ?_, ?_⟩
  · intro v o ha hs hd hv
    simp [capture, captureO, ha, hs, liveOf, hd, hv]
  · intro v ha hs
    have : liveOf (sh key) ≠ some v := fun h0 => by
      obtain ⟨ts, ho⟩ := liveOf_eq_some.mp h0
      rcases hs _ ho with h | h
      · cases h
      · exact h rfl
    simp [capture, captureO, ha, this]
  · intro o ha hs hd; simp [capture, captureO, ha, hs, hd]
  · intro o ha hs hd; simp [capture, captureO, ha, hs, hd]
  · intro ha hs; simp [capture, captureO, ha, hs]

/-- **The mirror invariant, in words.** `Mirrored e` holds iff (i) for every DBI name, key and
    value `v`: the application holds `v` under the key iff the shadow holds a live version
    `(ts, live, v)` for it, and (ii) no live shadow version has an empty value — the explicit D7
    exclusion: an empty live value cannot be mirrored, because the projection removes the key from
    the application DBI (`C11_empty_value_witness`). -/
theorem C01_mirrored_iff (e : Env) :
    Mirrored e ↔
      (∀ key v, appView e key = some v ↔
        ∃ ts, absShadow e key = some { ts := ts, del := false, val := v }) ∧
      (∀ key o, absShadow e key = some o → o.del = false → o.val ≠ []) := by
  refine and_congr (forall_congr' fun key => ?_) Iff.rfl
  rw [Option.ext_iff]
  exact forall_congr' fun v => by rw [← liveOf_eq_some]

/-- **A decidable form of the mirror invariant, and of the D7 exclusions.** On a well-formed
    environment: if every application DBI is literally the list of the live entries of its shadow
    (empty, if it has no shadow) and no live shadow value is empty (`MirroredD`, decidable), the
    mirror invariant holds; the decidable predicates `LiveNonEmpty`, `ClockBelow`, `AppNonEmpty`,
    `SnapLiveNonEmpty` say about the logical content what their names say. -/
theorem C01_mirrored_decidable (e : Env) (s : Snap) (now : Nat) (hwf : ShadowWF e) :
    (MirroredD e → Mirrored e) ∧
    (LiveNonEmpty e ↔ NoEmptyLive (absShadow e)) ∧
    (ClockBelow e now ↔ ∀ key v, absShadow e key = some v → v.ts < now) ∧
    (AppNonEmpty e → ∀ key v, appView e key = some v → v ≠ []) ∧
    (SnapLiveNonEmpty s → NoEmptyLive (absSnap s)) := by
  obtain ⟨_, hok, _⟩ := (shadowWF_iff e).mp hwf
  exact ⟨mirrored_of_decidable hwf,
    ⟨fun h key o ho => shadowAll_abs hok h key o ho, fun h => shadowAll_of_abs hok h⟩,
    ⟨fun h key o ho => shadowAll_abs hok h key o ho, fun h => shadowAll_of_abs hok h⟩,
    appNonEmpty_abs, snapLiveNonEmpty_abs⟩

/-- **Without a pending local change the capture changes nothing**: under the mirror invariant
    `capture (absShadow e) (appView e) now = absShadow e`, for any `now`. -/
theorem C01_capture_mirrored (e : Env) (now : Nat) (hm : Mirrored e) :
    capture (absShadow e) (appView e) now = absShadow e :=
  capture_of_mirrored now hm.1

/-- **A shadow-mode `sendOnce` with pending local changes publishes the captured content.** If
    `sendOnce` succeeds (any cut-off) on a well-formed shadow-mode environment (not receive-only)
    whose application values are non-empty (D7) and whose stored shadow timestamps are all below
    `now` (shared monotone clock), with `now` and the next transaction id below 2^64, then: the
    logical content of the snapshot AND the shadow content of the new environment are the
    capture of the application's view into the old shadow content — every key whose application
    value differs from the live shadow value is stamped `(now, live, value)`, every key live in the
    shadow but missing in the application `(now, deleted)`, every other key is left alone
    (`C01_capture_spec`; this is `C11_capture` for the whole environment); the application DBIs are
    untouched; the new environment is well-formed and the application's view is the live content
    of its shadows; if no live shadow value was empty, it is `Mirrored`; the snapshot is `SnapOk`,
    names no private DBI and carries the flags of the application DBIs. -/
theorem C01_send_refines_shadow_pending (c : Cfg) (e : Env) (now cutoff : Nat) (r : SendRes)
    (hn : c.native = false) (hro : c.receiveOnly = false)
    (hT : e.lastTxn + 1 < two64) (hnow : now < two64)
    (hwf : ShadowWF e) (hne : AppNonEmpty e) (hclk : ClockBelow e now)
    (h : sendOnce c e now cutoff = .ok r) :
    absSnap r.snap = capture (absShadow e) (appView e) now ∧
    absShadow r.env = capture (absShadow e) (appView e) now ∧
    appView r.env = appView e ∧
    ShadowWF r.env ∧
    (∀ key, appView r.env key = liveOf (absShadow r.env key)) ∧
    (LiveNonEmpty e → Mirrored r.env) ∧
    SnapOk r.snap ∧
    (∀ m ∈ r.snap.dbs, isPrivate m.name = false ∧
      ∃ d, findDbi e.dbis m.name = some d ∧ m.flags = d.flags) := by
  obtain ⟨hs, hok, hnd⟩ := (shadowWF_iff e).mp hwf
  obtain ⟨a1, a2, a3, _, happ, hsh, hsn, hlive, a6, a7⟩ := sendOnce_abs_sh c e now cutoff r hn hro hT
    hnow hs hok hnd (appNonEmpty_abs hne) (fun key o v ho _ _ => shadowAll_abs hok hclk key o ho) h
  exact ⟨hsn, hsh, happ, (shadowWF_iff r.env).mpr ⟨a1, a2, a3⟩, hlive, fun hl => ⟨hlive,
    hsh ▸ noEmptyLive_capture now (shadowAll_abs hok hl) (appNonEmpty_abs hne)⟩, a6, a7⟩

/-- **A shadow-mode `sendOnce` without pending local change publishes exactly the shadow content
    and changes none of it.** If `sendOnce` succeeds (any cut-off) on a well-formed shadow-mode
    environment (not receive-only) that satisfies the mirror invariant — the application DBIs are
    the live content of the shadows, no empty live value (D7) —, with `now` and the next
    transaction id below 2^64, then the logical content of the snapshot is the shadow content of
    the environment, the shadow content and the application's view are unchanged, the new
    environment is again well-formed and `Mirrored`, and the snapshot is `SnapOk` with the
    application DBIs' names and flags: the `send` step of the abstract fleet on `absShadow`. No
    clock hypothesis is needed: nothing is stamped. -/
theorem C01_send_refines_shadow (c : Cfg) (e : Env) (now cutoff : Nat) (r : SendRes)
    (hn : c.native = false) (hro : c.receiveOnly = false)
    (hT : e.lastTxn + 1 < two64) (hnow : now < two64)
    (hwf : ShadowWF e) (hm : Mirrored e)
    (h : sendOnce c e now cutoff = .ok r) :
    absSnap r.snap = absShadow e ∧ absShadow r.env = absShadow e ∧ appView r.env = appView e ∧
    ShadowWF r.env ∧ Mirrored r.env ∧ SnapOk r.snap ∧
    (∀ m ∈ r.snap.dbs, isPrivate m.name = false ∧
      ∃ d, findDbi e.dbis m.name = some d ∧ m.flags = d.flags) := by
  obtain ⟨hs, hok, hnd⟩ := (shadowWF_iff e).mp hwf
  obtain ⟨a1, a2, a3, _, happ, hsh, hsn, _, a6, a7⟩ := sendOnce_abs_sh c e now cutoff r hn hro hT
    hnow hs hok hnd (mirrored_app_nonempty hm)
    (fun key o v ho hv hne' => (mirrored_no_change hm key o v ho hv hne').elim) h
  rw [C01_capture_mirrored e now hm] at hsh hsn
  exact ⟨hsn, hsh, happ, (shadowWF_iff r.env).mpr ⟨a1, a2, a3⟩,
    ⟨fun key => by rw [happ, hsh]; exact hm.1 key, hsh ▸ hm.2⟩, a6, a7⟩

/-- **A shadow-mode `loadOnce` (no dupsort hack, cut-off 0) is: capture the pending local
    changes, then the pointwise join, then project.** Let `loadOnce` succeed on a well-formed
    shadow-mode environment `e` with a snapshot that is well-formed relative to `e`
    (`SnapWFShadow`), `now` and the next transaction id below 2^64.
    * If the capture runs (`lastSynced < e.lastTxn`, i.e. `r.localChanged`), assume non-empty
      application values (D7) and the shared monotone clock (`now` above every stored shadow
      timestamp). Then the shadow content afterwards is
      `(capture (absShadow e) (appView e) now).join (absSnap snap)`.
    * If the capture does not run, assume — honestly — that there really is no pending local
      change: `Mirrored e`. Then the shadow content afterwards is `(absShadow e).join (absSnap snap)`
      — the `load` step of the abstract fleet — and nothing pending was left out: the capture
      would have been the identity. (Finding D9 is that `lastSynced` can be wrong; the
      equation as such does not need `Mirrored e`, see `C01_load_shadow_no_capture`, but without it
      the application's pending writes are not part of `absShadow e` and are overwritten.)
    In both cases the new environment is well-formed again (in particular no application DBI has
    duplicate keys: the projection would have failed), every application DBI is the projection of
    the new shadows (`projVer`: the live, non-empty values — `C11_step` for the whole
    environment, DBIs created by the load included), and if moreover no live value was or arrives
    empty (D7: `NoEmptyLive` of the old shadow content and of the snapshot) the new environment
    is `Mirrored`, so the statement composes along a run. -/
theorem C01_load_refines_shadow (c : Cfg) (e : Env) (snap : Snap) (lastSynced now : Nat) (r : LoadRes)
    (hn : c.native = false) (hh : c.hack = false)
    (hT : e.lastTxn + 1 < two64) (hnow : now < two64)
    (hwf : ShadowWF e) (hsw : SnapWFShadow c e snap)
    (hloc : lastSynced < e.lastTxn → AppNonEmpty e ∧ ClockBelow e now)
    (hnoloc : ¬ lastSynced < e.lastTxn → Mirrored e)
    (h : loadOnce c e snap lastSynced now 0 = .ok r) :
    r.localChanged = decide (lastSynced < e.lastTxn) ∧
    (lastSynced < e.lastTxn →
      absShadow r.env = (capture (absShadow e) (appView e) now).join (absSnap snap)) ∧
    (¬ lastSynced < e.lastTxn →
      absShadow r.env = (absShadow e).join (absSnap snap) ∧
      capture (absShadow e) (appView e) now = absShadow e) ∧
    ShadowWF r.env ∧
    (∀ key, appView r.env key = projVer (absShadow r.env key)) ∧
    (NoEmptyLive (absShadow e) → NoEmptyLive (absSnap snap) → Mirrored r.env) := by
  obtain ⟨hs, hok, hnd⟩ := (shadowWF_iff e).mp hwf
  obtain ⟨b1, b2, b3, _, b4, b5⟩ := loadOnce_abs_sh (F := fun _ => True) c e snap lastSynced now r hn hh
    hT hnow hs hok hnd hsw.1 hsw.2 (fun hl => appNonEmpty_abs (hloc hl).1)
    (fun hl key o v ho _ _ => shadowAll_abs hok (hloc hl).2 key o ho)
    (fun _ _ _ _ => trivial) (fun _ _ _ => trivial) h
  obtain ⟨_, _, _, _, _, _, _, hlc, _⟩ := loadOnce_shadow_ok hn h
  refine ⟨hlc,
    fun hl => by rw [b4, if_pos hl],
    fun hl => ⟨by rw [b4, if_neg hl], C01_capture_mirrored e now (hnoloc hl)⟩,
    (shadowWF_iff r.env).mpr ⟨b1, b2, b3⟩, b5, fun hne1 hne2 => mirrored_of_proj b5 ?_⟩
  rw [b4]
  refine noEmptyLive_join ?_ hne2
  split
  · rename_i hl
    exact noEmptyLive_capture now hne1 (appNonEmpty_abs (hloc hl).1)
  · exact hne1

/-- **With an honest `lastSynced` both cases are one statement.** In the situation of
    `C01_load_refines_shadow` the shadow content afterwards is always
    `(capture (absShadow e) (appView e) now).join (absSnap snap)`: the join of the snapshot with the
    environment's logical content INCLUDING the application's pending writes (when the capture
    does not run there are none, by `Mirrored e`, and the capture is the identity). -/
theorem C01_load_refines_shadow_uniform (c : Cfg) (e : Env) (snap : Snap) (lastSynced now : Nat)
    (r : LoadRes) (hn : c.native = false) (hh : c.hack = false)
    (hT : e.lastTxn + 1 < two64) (hnow : now < two64)
    (hwf : ShadowWF e) (hsw : SnapWFShadow c e snap)
    (hloc : lastSynced < e.lastTxn → AppNonEmpty e ∧ ClockBelow e now)
    (hnoloc : ¬ lastSynced < e.lastTxn → Mirrored e)
    (h : loadOnce c e snap lastSynced now 0 = .ok r) :
    absShadow r.env = (capture (absShadow e) (appView e) now).join (absSnap snap) := by
  obtain ⟨_, h1, h2, _⟩ := C01_load_refines_shadow c e snap lastSynced now r hn hh hT hnow hwf hsw
    hloc hnoloc h
  by_cases hl : lastSynced < e.lastTxn
  · exact h1 hl
  · rw [(h2 hl).1, (h2 hl).2]

/-- **What a wrong `lastSynced` does (finding D9, stated positively).** If the capture does not
    run (`¬ lastSynced < e.lastTxn`), then — whatever the application DBIs contain, mirrored or
    not — the shadow content afterwards is `(absShadow e).join (absSnap snap)` and every
    application DBI is the projection of that: application writes that were pending (present in
    `appView e` but not in `absShadow e`) are neither captured nor kept. Hence the hypothesis
    `Mirrored e` in `C01_load_refines_shadow` for this case. -/
theorem C01_load_shadow_no_capture (c : Cfg) (e : Env) (snap : Snap) (lastSynced now : Nat)
    (r : LoadRes) (hn : c.native = false) (hh : c.hack = false)
    (hT : e.lastTxn + 1 < two64) (hnow : now < two64)
    (hwf : ShadowWF e) (hsw : SnapWFShadow c e snap)
    (hl : ¬ lastSynced < e.lastTxn)
    (h : loadOnce c e snap lastSynced now 0 = .ok r) :
    absShadow r.env = (absShadow e).join (absSnap snap) ∧
    (∀ key, appView r.env key = projVer (((absShadow e).join (absSnap snap)) key)) ∧
    ShadowWF r.env := by
  obtain ⟨hs, hok, hnd⟩ := (shadowWF_iff e).mp hwf
  obtain ⟨b1, b2, b3, _, b4, b5⟩ := loadOnce_abs_sh (F := fun _ => True) c e snap lastSynced now r hn hh
    hT hnow hs hok hnd hsw.1 hsw.2 (fun h0 => absurd h0 hl) (fun h0 => absurd h0 hl)
    (fun _ _ _ _ => trivial) (fun _ _ _ => trivial) h
  rw [if_neg hl] at b4
  exact ⟨b4, fun key => b4 ▸ b5 key, (shadowWF_iff r.env).mpr ⟨b1, b2, b3⟩⟩

namespace ShadowExample

def cfg : Cfg := { native := false, hack := false, pad := false, receiveOnly := false, override := [] }

def app : Bytes := strBytes "app"

/-- the shadow of `app`: keys 1, 2, 3 live ("A" at 50, "B" at 60, "C" at 70), key 4 a deletion
    marker (at 40), key 6 live ("F" at 30) -/
def shadow : Dbi :=
  { name := shadowName app, flags := 0,
    kvs := [([1], liveBytes 50 3 [65]), ([2], liveBytes 60 4 [66]), ([3], liveBytes 70 5 [67]),
            ([4], markerBytes 40 2), ([6], liveBytes 30 1 [70])] }

/-- a shadow-mode environment with pending local changes (written in transaction 7, last
    synchronised transaction 6): key 1 overwritten ("a"), key 5 new ("e"), key 6 deleted; keys 2
    and 3 as mirrored -/
def env : Env :=
  { dbis := [shadow,
      { name := app, flags := 0, kvs := [([1], [97]), ([2], [66]), ([3], [67]), ([5], [101])] }],
    lastTxn := 7 }

/-- the same environment without pending changes (the application DBI is the projection) -/
def envM : Env :=
  { dbis := [shadow,
      { name := app, flags := 0, kvs := [([1], [65]), ([2], [66]), ([3], [67]), ([6], [70])] }],
    lastTxn := 7 }

/-- a version-3 snapshot for `app`: key 1 at 80 (older than the local overwrite detected at 100),
    key 2 at 90 (newer than the stored 60), key 3 at 10 (older than the stored 70), key 7 a
    deletion marker at 20 (a new key) -/
def snap : Snap :=
  { fv := 3, cv := 1, dbs := [
      { name := app, flags := 0, transform := [], entries := [
          { key := [1], val := [88], ts := 80, flags := 0 },
          { key := [2], val := [89], ts := 90, flags := 0 },
          { key := [3], val := [90], ts := 10, flags := 0 },
          { key := [7], val := [], ts := 20, flags := 1 } ] } ] }

def keys : List Abs.Key := [1, 2, 3, 4, 5, 6, 7].map fun i => (app, [i])

/-- the hypotheses of `C01_load_refines_shadow` (capture case) and of
    `C01_send_refines_shadow_pending` hold for `env`, `snap`, detection time 100 -/
example : cfg.native = false ∧ cfg.hack = false ∧ cfg.receiveOnly = false ∧
    env.lastTxn + 1 < two64 ∧ 100 < two64 ∧ 6 < env.lastTxn ∧
    ShadowWF env ∧ SnapWFShadow cfg env snap ∧ AppNonEmpty env ∧ ClockBelow env 100 ∧
    LiveNonEmpty env ∧ SnapLiveNonEmpty snap := by
  decide +kernel

/-- the shadow content, the application's view, the snapshot's content, and the capture at 100:
    key 1 restamped with the local value, key 5 new, key 6 deleted, the rest untouched -/
example :
    keys.map (absShadow env) =
      [some ⟨50, false, [65]⟩, some ⟨60, false, [66]⟩, some ⟨70, false, [67]⟩, some ⟨40, true, []⟩,
       none, some ⟨30, false, [70]⟩, none] ∧
    keys.map (appView env) = [some [97], some [66], some [67], none, some [101], none, none] ∧
    keys.map (absSnap snap) =
      [some ⟨80, false, [88]⟩, some ⟨90, false, [89]⟩, some ⟨10, false, [90]⟩, none, none, none,
       some ⟨20, true, []⟩] ∧
    keys.map (capture (absShadow env) (appView env) 100) =
      [some ⟨100, false, [97]⟩, some ⟨60, false, [66]⟩, some ⟨70, false, [67]⟩, some ⟨40, true, []⟩,
       some ⟨100, false, [101]⟩, some ⟨100, true, []⟩, none] := by
  decide +kernel

/-- `loadOnce` with the local change (`lastSynced = 6 < 7`) succeeds, and both sides of
    `C01_load_refines_shadow`: the local overwrite of key 1 (stamped 100) beats the snapshot's 80,
    the snapshot's newer key 2 replaces, its older key 3 loses, its marker for key 7 arrives;
    the application sees the projection; the result is well-formed and mirrored -/
example :
    ((loadOnce cfg env snap 6 100 0).toOption.map fun r =>
      (r.localChanged, keys.map (absShadow r.env), keys.map (appView r.env))) =
      some (true,
        [some ⟨100, false, [97]⟩, some ⟨90, false, [89]⟩, some ⟨70, false, [67]⟩, some ⟨40, true, []⟩,
         some ⟨100, false, [101]⟩, some ⟨100, true, []⟩, some ⟨20, true, []⟩],
        [some [97], some [89], some [67], none, some [101], none, none]) ∧
    keys.map ((capture (absShadow env) (appView env) 100).join (absSnap snap)) =
      [some ⟨100, false, [97]⟩, some ⟨90, false, [89]⟩, some ⟨70, false, [67]⟩, some ⟨40, true, []⟩,
       some ⟨100, false, [101]⟩, some ⟨100, true, []⟩, some ⟨20, true, []⟩] ∧
    ((loadOnce cfg env snap 6 100 0).toOption.map fun r =>
      (decide (ShadowWF r.env), decide (MirroredD r.env))) = some (true, true) := by
  decide +kernel

/-- `sendOnce` on `env` (pending changes): the snapshot's content and the new shadow content are
    the capture (`C01_send_refines_shadow_pending`) -/
example :
    ((sendOnce cfg env 100 0).toOption.map fun r =>
      (keys.map (absSnap r.snap), keys.map (absShadow r.env), decide (SnapOk r.snap))) =
      some (keys.map (capture (absShadow env) (appView env) 100),
            keys.map (capture (absShadow env) (appView env) 100), true) := by
  decide +kernel

/-- `envM` is well-formed and satisfies the decidable form of the mirror invariant, hence
    `Mirrored envM` (`C01_mirrored_decidable`): the hypotheses of `C01_send_refines_shadow` and of
    the no-capture case of `C01_load_refines_shadow` hold -/
example : ShadowWF envM ∧ MirroredD envM ∧ SnapWFShadow cfg envM snap ∧ ¬ 7 < envM.lastTxn := by
  decide +kernel

example : Mirrored envM :=
  (C01_mirrored_decidable envM snap 0 (by decide +kernel)).1 (by decide +kernel)

/-- … and on `envM`: `sendOnce` publishes exactly the shadow content; `loadOnce` without capture
    (`lastSynced = 7`) yields the plain join -/
example :
    ((sendOnce cfg envM 100 0).toOption.map fun r =>
      (keys.map (absSnap r.snap), keys.map (absShadow r.env))) =
      some (keys.map (absShadow envM), keys.map (absShadow envM)) ∧
    ((loadOnce cfg envM snap 7 100 0).toOption.map fun r =>
      (r.localChanged, keys.map (absShadow r.env))) =
      some (false, keys.map ((absShadow envM).join (absSnap snap))) ∧
    keys.map ((absShadow envM).join (absSnap snap)) =
      [some ⟨80, false, [88]⟩, some ⟨90, false, [89]⟩, some ⟨70, false, [67]⟩, some ⟨40, true, []⟩,
       none, some ⟨30, false, [70]⟩, some ⟨20, true, []⟩] := by
  decide +kernel

/-- finding D9 on `env`: with a wrong `lastSynced` (7 instead of 6) the capture does not run and
    the pending overwrite of key 1, the new key 5 and the deletion of key 6 are gone — the
    application sees the projection of the plain join (`C01_load_shadow_no_capture`) -/
example :
    ((loadOnce cfg env snap 7 100 0).toOption.map fun r => keys.map (appView r.env)) =
      some [some [88], some [89], some [67], none, none, some [70], none] := by
  decide +kernel

end ShadowExample

/-- **The invariant of a shadow-mode fleet, from decidable predicates.** An environment that is
    `ShadowWF`, has no empty live shadow value and no empty application value (D7:
    `LiveNonEmpty`, `AppNonEmpty`) and only byte-ordered application DBIs (`ByteOrdD`) satisfies
    `EnvInv`, and conversely; a snapshot that is `SnapOk`, announces byte order for every
    application DBI and has no live entry with an empty value (`SnapInvD`) satisfies `SnapInv`. -/
theorem C01_shadow_inv_decidable (e : Env) (s : Snap) :
    (EnvInv e ↔ ShadowWF e ∧ LiveNonEmpty e ∧ AppNonEmpty e ∧ ByteOrdD e) ∧
    (SnapInvD s → SnapInv s) :=
  ⟨⟨envInv_decidable, fun h => envInv_of_decidable h.1 h.2.1 h.2.2.1 h.2.2.2⟩,
   fun h => ⟨h.1, h.2.1, snapLiveNonEmpty_abs h.2.2⟩⟩

/-- **What the abstract writes of a capture are.** `capWrites i e now` consists of writes of
    instance `i` only; each writes, for a key whose captured version differs from the stored
    shadow version, exactly that captured version — `(now, live, value)` for a key the application
    overwrote or created, `(now, deleted, ∅)` for a key it deleted (`C01_capture_spec`) —, and
    under the invariant every key the capture changes is written. -/
theorem C01_capture_writes (i : Nat) (e : Env) (now : Nat) :
    (∀ s ∈ capWrites i e now, ∃ key v, s = Abs.Step.write i key v ∧
      capture (absShadow e) (appView e) now key = some v ∧ some v ≠ absShadow e key) ∧
    (EnvInv e → ∀ key, capture (absShadow e) (appView e) now key ≠ absShadow e key →
      ∃ v, capture (absShadow e) (appView e) now key = some v ∧
        Abs.Step.write i key v ∈ capWrites i e now) := by
  constructor
  · intro s hs
    obtain ⟨p, hp, rfl⟩ := List.mem_map.mp hs
    exact ⟨p.1, p.2, rfl, (mem_capPairs.mp hp).2⟩
  · intro hinv key hne
    have hk : key ∈ capKeys e := by
      apply Classical.byContradiction
      intro hk
      obtain ⟨h1, h2⟩ := off_capKeys hinv.ok hinv.bytes hk
      apply hne
      rw [capture_apply, h1, h2]; rfl
    cases hv : capture (absShadow e) (appView e) now key with
    | none => exact absurd (by rw [hv]; exact (captureO_none hv).symm) hne
    | some v =>
      exact ⟨v, rfl, List.mem_map.mpr ⟨(key, v), mem_capPairs.mpr ⟨hk, hv, hv ▸ hne⟩, rfl⟩⟩

/-- **Every byte-level run of a shadow-mode fleet is a run of the abstract fleet.** A byte-level
    fleet (`BFleet`) is `n` environments and a bucket of snapshots; a step (`SStep`) is an
    application transaction putting one value (`appWrite`) or deleting one key (`appDelete`), a
    `sendOnce` at time `now` whose snapshot is appended to the bucket, or a `loadOnce` (cut-off 0)
    of any snapshot of the bucket at time `now` with some `lastSynced`; a failing or refused
    transaction leaves everything as it was (`sstep`). Let the configuration be shadow mode, no
    dupsort hack, not receive-only, with byte-ordered create-flag overrides (`CfgByte`); let the
    invariant `SInv` hold at the start (every environment `EnvInv` — decidable form:
    `C01_shadow_inv_decidable` —, every snapshot of the bucket `SnapInv`); and let every step
    satisfy its side condition in the state it is applied to (`SRunOk`/`SStepOk`; nothing is
    assumed about success): an application write puts a NON-EMPTY value (D7) into a non-private
    DBI; a delete concerns a non-private DBI; a `send`/`load` at instance `i` happens below
    transaction id 2^64, at a time `now` < 2^64 above every timestamp stored in the shadows of
    instance `i` (shared monotone clock — only the instance's own shadows matter); and every `load`
    is told the truth about local changes: `lastSynced < lastTxn` (the capture runs) or the
    environment is `Mirrored` (nothing to capture) — exactly the discipline finding D9 violates.
    The conditions a snapshot must satisfy to be loaded (`SnapWFShadow` against the loading
    environment) are NOT assumed: they follow from the invariant (all snapshots were produced by
    `send` steps or satisfy `SnapInv` initially; all application DBIs everywhere are byte-ordered).
    Then, with the abstract schedule `absRunShadow` — nothing for an application transaction; for
    a `send`/`load` that took place the abstract writes of its capture (`C01_capture_writes`:
    `write i key (now, live, value)` / `write i key (now, deleted, ∅)` for exactly the captured
    keys) followed by the abstract `send i` / `load i idx` —: the abstraction (`absShadowFleet`:
    `absShadow` of every environment, `absSnap` of every snapshot) of the final state is the state
    the abstract fleet reaches from the abstraction of the initial state; the invariant holds
    again; the abstract schedule is one the theorems of LsProps/C01.lean apply to (`StepsWF`,
    `MonotoneFrom`, `FleetWF`); and after every Lightning Stream transaction that took place its
    instance is `Mirrored` (`LsMirrored`). -/
theorem C01_shadow_run_refines (c : Cfg) (hn : c.native = false) (hh : c.hack = false)
    (hro : c.receiveOnly = false) (hcb : CfgByte c)
    (steps : List SStep) (f : BFleet) (hinv : SInv f) (hok : SRunOk c f steps) :
    absShadowFleet (srun c f steps) = Abs.run (absShadowFleet f) (absRunShadow c f steps) ∧
    SInv (srun c f steps) ∧
    Abs.StepsWF (absRunShadow c f steps) ∧
    Abs.MonotoneFrom (absShadowFleet f) (absRunShadow c f steps) ∧
    Abs.FleetWF (absShadowFleet f) ∧
    LsMirrored c f steps := by
  obtain ⟨h1, h2, h3, h4, h5⟩ := Abs.run_refines (step := sstep c) (abs := absShadowFleet)
    (one := fun f s => if (sstepD c f s).2 then absStepsShadow f s else []) (Inv := SInv)
    (ok := fun f s => SStepOk f s)
    (Q := fun f s => (sstepD c f s).2 = true → MirroredAfter (sstep c f s) s)
    (hstep := sstep_refines c hn hh hro hcb)
    (sched := absRunShadow c) (hs0 := fun _ => rfl) (hs1 := fun _ _ _ => rfl)
    (Ok := SRunOk c) (hok := fun _ _ _ h => h)
    (AllQ := LsMirrored c) (hq0 := fun _ => trivial) (hq1 := fun _ _ _ a b => ⟨a, b⟩)
    steps f hinv hok
  exact ⟨h1, h2, h3, h4, absShadowFleet_wf hinv, h5⟩

namespace ShadowRunExample
open ShadowExample (cfg app)

/-- an environment with an empty application DBI `app` and no shadow yet -/
def env0 : Env := { dbis := [{ name := app, flags := 0, kvs := [] }], lastTxn := 0 }

def fleet : BFleet := { n := 2, env := fun _ => env0, bucket := [] }

/-- instance 0 writes key 1 = "A" and writes-then-deletes key 3; instance 1 writes key 1 = "B"
    (a conflict) and key 2 = "C"; both send (at 100 and 110); each loads the other's snapshot (at
    120, 130; `lastSynced = 0`, so the capture always runs); then instance 1 deletes key 2, sends
    (at 140), and instance 0 loads that (at 150) -/
def steps : List SStep :=
  [.appWrite 0 app [1] [65], .appWrite 0 app [3] [68], .appDelete 0 app [3],
   .appWrite 1 app [1] [66], .appWrite 1 app [2] [67],
   .send 0 100, .send 1 110, .load 0 1 0 120, .load 1 0 0 130,
   .appDelete 1 app [2], .send 1 140, .load 0 2 0 150]

/-- the hypotheses of `C01_shadow_run_refines` hold -/
example : cfg.native = false ∧ cfg.hack = false ∧ cfg.receiveOnly = false ∧ CfgByte cfg := by
  decide +kernel

/-- the initial environment of the example satisfies the invariant (by the decidable form) -/
theorem C01_example_env0 : EnvInv env0 :=
  envInv_of_decidable (by decide +kernel) (by decide +kernel) (by decide +kernel) (by decide +kernel)

example : SInv fleet := ⟨fun _ => C01_example_env0, fun _ h => by cases h⟩

/-- `app` is an application (non-private) DBI name -/
theorem C01_example_private : isPrivate app = false := by decide +kernel

/-- one evaluation of the whole run (`SRunOkD`: every load of the example runs the capture) -/
example : SRunOk cfg fleet steps := sRunOk_of_decidable (by decide +kernel)

def keys : List Abs.Key := [1, 2, 3].map fun i => (app, [i])

/-- all steps take place; both instances end with the same content: key 1 = "B" (the later
    detection, 110, wins the conflict), key 2 deleted at 140, key 3 never seen by anybody; and
    both applications see the same -/
example :
    keys.map (absShadow ((srun cfg fleet steps).env 0)) =
      [some ⟨110, false, [66]⟩, some ⟨140, true, []⟩, none] ∧
    keys.map (absShadow ((srun cfg fleet steps).env 1)) =
      [some ⟨110, false, [66]⟩, some ⟨140, true, []⟩, none] ∧
    keys.map (appView ((srun cfg fleet steps).env 0)) = [some [66], none, none] ∧
    keys.map (appView ((srun cfg fleet steps).env 1)) = [some [66], none, none] ∧
    (srun cfg fleet steps).bucket.length = 3 := by
  decide +kernel

/-- the abstract schedule of that run: the application writes appear as abstract writes at
    capture time, stamped with the detection time -/
example :
    absRunShadow cfg fleet steps =
      [.write 0 (app, [1]) ⟨100, false, [65]⟩, .send 0,
       .write 1 (app, [1]) ⟨110, false, [66]⟩, .write 1 (app, [2]) ⟨110, false, [67]⟩, .send 1,
       .load 0 1, .load 1 0,
       .write 1 (app, [2]) ⟨140, true, []⟩, .send 1, .load 0 2] := by
  decide +kernel

end ShadowRunExample

end Ls.C01
