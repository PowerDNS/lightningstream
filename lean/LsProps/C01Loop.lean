import LsLemmas.LoopAbs
import LsProps.C01
import LsProps.C01RefineShadow
import LsProps.C03
/-
  C01 (sync loops) — fleets of SYNC LOOPS refine the abstract last-writer-wins fleet, so the
  convergence theorems of LsProps/C01.lean (`C01_converged`, `C01_winner`, `C01_content_is_written`,
  `C01_settles…`) apply to fleets of sync loops and not only to fleets of bare transactions.
  Model: LsModel/SyncLoop.lean (`go`, `appCommit`, `listed`), the product fleet of
  LsLemmas/LoopBound.lean (`Fleet := Nat → G`, `fleetStep`, `fleetRun`: a global event `(k, e)` is
  an event of instance `k`; the other instances see what it appended to the one bucket; the ghost
  fields of `G` never influence the model). Helper lemmas: LsLemmas/LoopAbs.lean.

  The loop differs from the bare-transaction fleets of C01Refine / C01RefineShadow in three ways,
  all handled by the simulation RELATIONS `RelN` / `RelS` (instead of abstraction functions):
  * `SendOnce`'s transaction and the store of its snapshot are different segments: the abstract
    `send` is taken when the transaction commits (that is when the published content is fixed);
    the blob reaches the bucket later (or never: store failure). Hence the relation says that every
    blob of the bucket, and every snapshot in flight, has its logical content SOMEWHERE in the
    abstract bucket — not at the same index;
  * the loop chooses `lastSynced` itself (finding D9). In native mode this affects what is
    published when, not the content: no race hypothesis. In shadow mode the invariant I1 of
    race-free schedules (`C03_I1_partial`) is what makes every `LoadOnce` honest (`C01_loop_honest`);
  * the start-up capture of shadow mode stamps with time 1 ("in the past").
-/
namespace Ls.C01
open Ls Ls.Lmdb Ls.Txn Ls.SyncLoop Ls.Loop

/-- **One segment of a native-mode loop is at most one transaction of the byte-level fleet.** For
    any program counter, bucket and input, `go c b s i` of a native-mode instance
    (1) leaves the environment as it is, or it polled (`prePoll s = some (s1, n)`: from `top`, or
        from the yield point after a load, where `lastSynced` is first brought up to date) and the
        new environment is that of ONE successful `loadOnce c.txn s.env blob.snap s1.lastSynced i.now 0`
        (cut-off 0: the loop model runs with the sweeper off) of the blob of the bucket the input
        names;
    (2) reaches the yield point after `SendOnce`'s transaction only by ONE successful `sendOnce` on
        the unchanged environment at time `i.now`, whose snapshot it then holds in flight;
    (3) changes the bucket only by appending the snapshot held in flight (not receive-only, the
        store did not exhaust its retries);
    and an application transaction `appCommit s ops` is exactly `appTxn` on the environment (all or
    nothing) and touches nothing else of the state. -/
theorem C01_loop_segment_refines_native (c : LoopCfg) (hn : c.txn.native = true) (b : Bucket)
    (s : St) (i : In) :
    ((go c b s i).1.env = s.env ∨
      ∃ inst ts blob s1 n r, i.next = some (inst, ts) ∧ findBlob b inst ts = some blob ∧ blob ∈ b ∧
        prePoll s = some (s1, n) ∧ s1.env = s.env ∧
        loadOnce c.txn s.env blob.snap s1.lastSynced i.now 0 = .ok r ∧ (go c b s i).1.env = r.env) ∧
    (∀ who t ts sn, (go c b s i).1.pc = .sendAfterTxn who t ts sn →
      ∃ r, sendOnce c.txn s.env i.now 0 = .ok r ∧ r.env = s.env ∧ (go c b s i).1.env = s.env ∧
        sn = r.snap ∧ ts = i.now) ∧
    ((go c b s i).2 = b ∨
      ∃ who t ts sn, s.pc = .sendAfterTxn who t ts sn ∧ c.txn.receiveOnly = false ∧
        i.fails < c.retryCount ∧ (go c b s i).2 = b ++ [{ inst := c.own, ts := ts, snap := sn }]) ∧
    (∀ ops, (appCommit s ops).env = (match appTxn s.env ops with | some e => e | none => s.env) ∧
      (appCommit s ops).pc = s.pc ∧ (appCommit s ops).lastSynced = s.lastSynced) := by
  have happ : ∀ ops, (appCommit s ops).env = (match appTxn s.env ops with | some e => e | none => s.env) ∧
      (appCommit s ops).pc = s.pc ∧ (appCommit s ops).lastSynced = s.lastSynced :=
    fun ops => ⟨appCommit_env s ops, (appCommit_facts s ops).1, (appCommit_facts s ops).2.1⟩
  cases go_segTxn c b s i Gh.init with
  | quiet h1 h2 h3 =>
    exact ⟨.inl (h1.native hn), fun who t ts sn hpc => (by rw [hpc] at h3; cases h3), .inl h2, happ⟩
  | store who t ts sn t' hpc hro hf h1 h2 h3 =>
    exact ⟨.inl h1, fun _ _ _ _ hpc' => (by rw [h2] at hpc'; cases hpc'), .inr ⟨who, t, ts, sn, hpc, hro, hf, h3⟩,
      happ⟩
  | load s1 n inst ts blob r h1 h2 hx hy h4 h5 h6 h7 =>
    exact ⟨.inr ⟨inst, ts, blob, s1, n, r, hx, hy, (findBlob_some hy).1, h1, h2, h4, h5⟩,
      fun _ _ _ _ hpc => (by rw [h6] at hpc; cases hpc), .inl h7, happ⟩
  | dump env1 r who _ h0 hs h1 h2 h3 =>
    obtain rfl := h0.native hn
    have hre := (Loop.sendOnce_facts hs).1 hn
    refine ⟨.inl (h1.trans hre), ?_, .inl h3, happ⟩
    intro who' t ts sn hpc
    rw [h2] at hpc
    injection hpc with _ _ e3 e4
    exact ⟨r, hs, hre, h1.trans hre, e4.symm, e3.symm⟩

/-- **Every schedule of a fleet of native-mode sync loops is a run of the abstract fleet.** Let
    all instances run a native schema; let the loop fleet `F` (any program counters, one shared
    bucket) and the abstract fleet `A` be related by `RelN`: `A.db j = absEnv (F j).st.env` for
    every instance, every environment `EnvWF`, every blob of the bucket and every snapshot in
    flight `SnapOk` with its logical content (`absSnap`) somewhere in the abstract bucket
    (`C01_loop_fleet_init_native`: the start). Let every global event satisfy its side condition
    in the state it is applied to (`LoopRunOkN` / `LoopOkN`, nothing about success): a segment runs
    below transaction id 2^64 and the snapshot the receiver hands over, if any, has the key order
    of its target DBIs (`FlagsOk`); an application transaction is one put of a well-formed stored
    value into an existing non-private, byte-ordered, non-duplicate DBI that does not lose
    against what is stored; no blob comes from outside the fleet. NO race hypothesis: the D9
    windows change what is published when, not the content. Then there is an abstract schedule
    `steps` — per global event at most one step: `write` for a committed application put, `load`
    for a segment that merged a blob, `send` for a segment in which `SendOnce`'s transaction
    committed (the store, later, is no abstract step) — such that the loop fleet after the
    schedule is related (`RelN`) to `Abs.run A steps`; the abstract schedule and fleet are ones the
    theorems of LsProps/C01.lean apply to (`StepsWF`, `MonotoneFrom`, `FleetWF`). -/
theorem C01_loop_fleet_refines_native (cs : Nat → LoopCfg) (hn : ∀ j, (cs j).txn.native = true)
    (F : Fleet) (A : Abs.Fleet) (evs : List (Nat × Ev)) (hrel : RelN cs F A)
    (hok : LoopRunOkN cs F evs) :
    ∃ steps, RelN cs (fleetRun cs F evs) (Abs.run A steps) ∧
      (∀ j, (Abs.run A steps).db j = absEnv (fleetRun cs F evs j).st.env) ∧
      Abs.StepsWF steps ∧ Abs.MonotoneFrom A steps ∧ Abs.FleetWF A ∧
      Abs.FleetWF (Abs.run A steps) ∧ steps.length ≤ evs.length := by
  obtain ⟨steps, h1, h2, h3, h4⟩ := loop_run_refines_native cs hn evs F A hrel hok
  exact ⟨steps, h1, h1.db, h2, h3, relN_fleetWF hrel, relN_fleetWF h1, h4⟩

/-- **The start.** `n` loops, each booting (`G.init`) from its own well-formed environment, over
    an empty bucket, are related to the abstract fleet holding `absEnv` of these environments and
    an empty bucket. -/
theorem C01_loop_fleet_init_native (cs : Nat → LoopCfg) (n : Nat) (envs : Nat → Env)
    (hwf : ∀ j, EnvWF (envs j)) :
    RelN cs (fun j => G.init (envs j) []) { n := n, db := fun j => absEnv (envs j), bucket := [] } :=
  relN_init cs n envs hwf

/-- **Convergence of native-mode sync loops.** If a loop fleet is related to an abstract fleet
    (as it is after every admissible schedule, `C01_loop_fleet_refines_native`) and that abstract
    fleet is quiescent (`Abs.Quiescent`: every instance's newest published snapshot is its
    database and every instance has merged every instance's newest snapshot), then all
    instances hold identical logical content `absEnv`. -/
theorem C01_loop_fleet_converges_native (cs : Nat → LoopCfg) (F : Fleet) (A : Abs.Fleet)
    (hrel : RelN cs F A) (hq : Abs.Quiescent A) :
    ∀ i j, i < A.n → j < A.n → absEnv (F i).st.env = absEnv (F j).st.env := by
  intro i j hi hj
  rw [← hrel.db i, ← hrel.db j]
  exact C01_converged A (relN_fleetWF hrel) hq i j hi hj

/-- **I1 makes the loop honest.** At an instance satisfying the loop invariants `Inv0` (every
    schedule) and `Inv1` (race-free schedules; together they give I1, `C03_I1_partial`), in which
    the environment is `Mirrored` whenever no application transaction is uncaptured (`uncap = []`
    — kept by every transaction, `C01_loop_fleet_refines_shadow_partial`): whenever the loop polls,
    the `lastSynced` it hands to `LoadOnce` is below `lastTxn` (the capture runs) or the
    environment is `Mirrored` (there is nothing to capture) — the honesty condition of `SStepOk`,
    the discipline finding D9 violates. (`SendOnce` always captures: nothing to show there.) -/
theorem C01_loop_honest (c : LoopCfg) (g : G) (h0 : Inv0 c g) (h1 : Inv1 c g)
    (hcap : g.gh.uncap = [] → Mirrored g.st.env) (s1 : St) (n : Nat)
    (hp : prePoll g.st = some (s1, n)) :
    s1.env = g.st.env ∧ (s1.lastSynced < s1.env.lastTxn ∨ Mirrored s1.env) := by
  exact ⟨(prePoll_eq hp).2.1, honest_of_inv h0 h1 hcap hp⟩

/-- The side conditions of a shadow-mode schedule contain race-freedom: if `LoopRunOkS` holds,
    every instance's local schedule is race-free (`RaceFreeFrom … Racy`, the hypothesis of
    `C03_I1_partial`). -/
theorem C01_loop_ok_racefree (cs : Nat → LoopCfg) (F : Fleet) (evs : List (Nat × Ev))
    (hok : LoopRunOkS cs F evs) (j : Nat) :
    RaceFreeFrom (cs j) Racy (F j) (localEvs cs F evs j) := by
  induction evs generalizing F with
  | nil => trivial
  | cons ke es ih =>
    obtain ⟨h1, h2⟩ := hok
    refine ⟨?_, ih _ h2⟩
    unfold localEv
    by_cases hj : j = ke.1
    · rw [if_pos hj, hj]
      obtain ⟨k, e⟩ := ke
      cases e with
      | app ops => exact h1.2
      | go i => trivial
      | list => trivial
      | others bs => trivial
    · rw [if_neg hj]; trivial

/-- **Every admissible schedule of a fleet of shadow-mode sync loops is a run of the abstract
    fleet.** Let all instances run shadow mode, no dupsort hack, not receive-only, with
    byte-ordered create-flag overrides (`CfgByte`). Let the loop fleet `F` and the abstract fleet `A`
    be related by `RelS`: `A.db j = absShadow (F j).st.env`; every environment `EnvInv` (well-formed,
    byte-ordered application DBIs, no empty live or application value — D7); every instance
    satisfies `Inv0`, `Inv1` and "nothing uncaptured ⇒ `Mirrored`"; every blob of the one bucket and
    every snapshot in flight satisfies `SnapInv` and has its logical content somewhere in the
    abstract bucket (`C01_loop_fleet_init_shadow`: the start). Let every global event satisfy its
    side condition in the state it is applied to (`LoopRunOkS` / `LoopOkS`, nothing about success):
    * a segment runs below transaction id 2^64 − 1 and reads a time `i.now` < 2^64 above every
      timestamp stored in its instance's shadows (shared monotone clock);
    * an application transaction is one put of a NON-EMPTY value or one delete in a non-private
      DBI, and no RECORDED application transaction commits inside the race window `Racy`
      (`C01_loop_ok_racefree`: the schedule is `RaceFree`, the hypothesis of `C03_I1_partial`);
    * no blob comes from outside the fleet;
    * [beyond race-freedom, clock, D7 and byte order: what makes this `_partial`] the start-up
      segment (`pc = boot`) finds its environment `Mirrored`: the start-up capture stamps with time
      1, so offline changes pending at start-up are not captured as the newest version.
    Then there is an abstract schedule `steps` — nothing for an application transaction; for a
    segment in which a `LoadOnce` / `SendOnce` transaction committed, the abstract writes of its
    capture (`C01_capture_writes`) followed by `load` / `send` — such that the loop fleet after the
    schedule is related (`RelS`) to `Abs.run A steps`; `StepsWF`, `MonotoneFrom` and `FleetWF` hold,
    so the theorems of LsProps/C01.lean apply. That every `LoadOnce` of the loop satisfies the
    honesty condition of `C01_shadow_run_refines` is `C01_loop_honest`, used segment by segment. -/
theorem C01_loop_fleet_refines_shadow_partial (cs : Nat → LoopCfg)
    (hn : ∀ j, (cs j).txn.native = false) (hh : ∀ j, (cs j).txn.hack = false)
    (hro : ∀ j, (cs j).txn.receiveOnly = false) (hcb : ∀ j, CfgByte (cs j).txn)
    (F : Fleet) (A : Abs.Fleet) (evs : List (Nat × Ev)) (hrel : RelS cs F A)
    (hok : LoopRunOkS cs F evs) :
    ∃ steps, RelS cs (fleetRun cs F evs) (Abs.run A steps) ∧
      (∀ j, (Abs.run A steps).db j = absShadow (fleetRun cs F evs j).st.env) ∧
      Abs.StepsWF steps ∧ Abs.MonotoneFrom A steps ∧ Abs.FleetWF A ∧
      Abs.FleetWF (Abs.run A steps) := by
  obtain ⟨steps, h1, h2, h3⟩ := loop_run_refines_shadow cs hn hh hro hcb evs F A hrel hok
  exact ⟨steps, h1, h1.db, h2, h3, relS_fleetWF hrel, relS_fleetWF h1⟩

/-- **The start.** `n` loops, each booting from its own environment satisfying `EnvInv` (decidable
    form: `C01_shadow_inv_decidable`) and `Mirrored` (decidable form: `C01_mirrored_decidable`),
    over an empty bucket, are related to the abstract fleet holding `absShadow` of these
    environments and an empty bucket. -/
theorem C01_loop_fleet_init_shadow (cs : Nat → LoopCfg) (n : Nat) (envs : Nat → Env)
    (hinv : ∀ j, EnvInv (envs j)) (hm : ∀ j, Mirrored (envs j)) :
    RelS cs (fun j => G.init (envs j) []) { n := n, db := fun j => absShadow (envs j), bucket := [] } :=
  ⟨fun _ => rfl, hinv, fun j => Inv0.init (cs j) (envs j) [], fun j => Inv1.init (cs j) (envs j) [],
   fun j _ => hm j, fun _ h => (by cases h), ⟨[], fun _ => rfl, fun _ h => (by cases h)⟩,
   fun j who t ts sn h => (by simp [G.init, SyncLoop.init] at h)⟩

/-- **Convergence of shadow-mode sync loops.** If a loop fleet is related (`RelS`) to a quiescent
    abstract fleet, all instances hold identical shadow content `absShadow`; and any two of them
    that are `Mirrored` (as every instance is after each of its Lightning Stream transactions)
    show their applications the same data. -/
theorem C01_loop_fleet_converges_shadow (cs : Nat → LoopCfg) (F : Fleet) (A : Abs.Fleet)
    (hrel : RelS cs F A) (hq : Abs.Quiescent A) :
    ∀ i j, i < A.n → j < A.n →
      absShadow (F i).st.env = absShadow (F j).st.env ∧
      (Mirrored (F i).st.env → Mirrored (F j).st.env → appView (F i).st.env = appView (F j).st.env) := by
  intro i j hi hj
  have heq : absShadow (F i).st.env = absShadow (F j).st.env := by
    rw [← hrel.db i, ← hrel.db j]
    exact C01_converged A (relS_fleetWF hrel) hq i j hi hj
  refine ⟨heq, fun hmi hmj => ?_⟩
  funext key
  rw [hmi.1 key, hmj.1 key, heq]

namespace LoopExample
open Ls.Loop.Witness (cfgS app)
open Ls.Loop.BoundWitness (cfgB cs2)

/-- an environment with an empty application DBI `app`, nothing ever written -/
def envA : Env := { dbis := [{ name := app, flags := 0, kvs := [] }], lastTxn := 0 }

def fleet0 : Fleet := fun _ => G.init envA []

def seg (next : Option (InstId × Nat)) (now : Nat) : Ev := .go { next := next, fails := 0, now := now }

/-- both instances start; "a" (instance 0) writes key 1 = "A", "b" (instance 1) writes key 1 = "B"
    (a conflict); "a" runs an iteration and uploads (capture at 30, blob `("a", 30)`), then "b" does
    (capture at 42, blob `("b", 42)`); "a" merges b's blob at 51, "b" merges a's blob at 61 -/
def evs : List (Nat × Ev) :=
  [(0, seg none 10), (1, seg none 11),
   (0, .app [.put app [1] [65]]), (1, .app [.put app [1] [66]]),
   (0, seg none 20), (0, seg none 21), (0, seg none 30), (0, seg none 31), (0, seg none 32),
   (1, seg none 40), (1, seg none 41), (1, seg none 42), (1, seg none 43), (1, seg none 44),
   (0, seg none 50), (0, seg (some ("b", 42)) 51),
   (1, seg none 60), (1, seg (some ("a", 30)) 61)]

/-- the configuration hypotheses of `C01_loop_fleet_refines_shadow_partial` -/
example : ∀ j, (cs2 j).txn.native = false ∧ (cs2 j).txn.hack = false ∧
    (cs2 j).txn.receiveOnly = false ∧ CfgByte (cs2 j).txn := by
  intro j
  unfold cs2
  split <;> decide +kernel

/-- the start environment satisfies the invariant and is mirrored (decidable forms) -/
theorem C01_example_envA : EnvInv envA ∧ Mirrored envA :=
  ⟨envInv_of_decidable (by decide +kernel) (by decide +kernel) (by decide +kernel) (by decide +kernel),
   mirrored_of_decidable (by decide +kernel) (by decide +kernel)⟩

example : RelS cs2 fleet0 { n := 2, db := fun _ => absShadow envA, bucket := [] } :=
  C01_loop_fleet_init_shadow cs2 2 (fun _ => envA) (fun _ => C01_example_envA.1) (fun _ => C01_example_envA.2)

/-- `app` is an application DBI name -/
theorem C01_example_app : isPrivate app = false := by decide +kernel

/-- the side conditions hold for the whole schedule -/
example : LoopRunOkS cs2 fleet0 evs :=
  loopRunOkS_of_check _ _ (by decide +kernel)

/-- the run: both blobs reach the bucket, both loops end at the yield point after their merge,
    and both instances hold the same content — key 1 = "B", the later detection (42) wins the
    conflict — which both applications see -/
example :
    ((fleetRun cs2 fleet0 evs 0).bucket.map fun x => (x.inst, x.ts)) = [("a", 30), ("b", 42)] ∧
    absShadow (fleetRun cs2 fleet0 evs 0).st.env (app, [1]) = some ⟨42, false, [66]⟩ ∧
    absShadow (fleetRun cs2 fleet0 evs 1).st.env (app, [1]) = some ⟨42, false, [66]⟩ ∧
    appView (fleetRun cs2 fleet0 evs 0).st.env (app, [1]) = some [66] ∧
    appView (fleetRun cs2 fleet0 evs 1).st.env (app, [1]) = some [66] ∧
    (fleetRun cs2 fleet0 evs 0).gh.uncap = [] ∧ (fleetRun cs2 fleet0 evs 1).gh.uncap = [] := by
  decide +kernel

end LoopExample

namespace LoopExampleN
open Ls.Loop.Witness (cfgN app)
open Ls.Loop.BoundWitness (hv)
open LoopExample (seg)

def cfgNb : LoopCfg := { cfgN with own := "b" }
def csN : Nat → LoopCfg := fun j => if j = 0 then cfgN else cfgNb

def envN : Env := { dbis := [{ name := app, flags := 0, kvs := [] }], lastTxn := 0 }
def fleetN : Fleet := fun _ => G.init envN []

/-- "a" writes key 1 (a stored value with header, timestamp 7) before it starts; its start-up
    `SendOnce` dumps and stores blob `("a", 100)`; "b" starts and merges it -/
def evsN : List (Nat × Ev) :=
  [(0, .app [.put app [1] (hv 65)]),
   (0, seg none 100), (0, seg none 101), (0, seg none 102),
   (1, seg none 110), (1, seg (some ("a", 100)) 111)]

example : (∀ j, (csN j).txn.native = true) ∧ EnvWF envN := by
  refine ⟨fun j => ?_, by decide +kernel⟩
  unfold csN; split <;> decide +kernel

/-- the side conditions of `C01_loop_fleet_refines_native` hold for the whole schedule -/
example : LoopRunOkN csN fleetN evsN :=
  loopRunOkN_of_check _ _ (by decide +kernel)

/-- afterwards both instances hold the same logical content -/
example :
    ((fleetRun csN fleetN evsN 0).bucket.map fun x => (x.inst, x.ts)) = [("a", 100)] ∧
    absEnv (fleetRun csN fleetN evsN 0).st.env (app, [1]) = some ⟨7, false, [65]⟩ ∧
    absEnv (fleetRun csN fleetN evsN 1).st.env (app, [1]) = some ⟨7, false, [65]⟩ := by
  decide +kernel

end LoopExampleN

end Ls.C01
