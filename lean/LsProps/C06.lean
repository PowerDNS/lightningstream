import LsLemmas.TxnSend
/-
  C06 — Every snapshot is the complete image of one committed LMDB transaction.
  Model: LsModel/Txn.lean (`sendOnce`, `readDBI`, `mainToShadow`, `commit`), LsModel/Header.lean.
  Helper lemmas: LsLemmas/TxnSend.lean (`sendOnce_ok`: what a successful `sendOnce` returns, of which
  the theorems below are readings), LsLemmas/TxnDbis.lean.

  Vocabulary (definitions in LsLemmas/TxnSend.lean):
  * `dumpState c e now cutoff` — the state of `SendOnce`'s LMDB transaction when the DBIs are
    dumped: `⟨e.dbis, false⟩` for a native schema, the result of `mainToShadow` otherwise;
  * `appNames w` — the non-private names of `dbiNames w`, in that order;
  * `dumpName c name` — the DBI that is read for `name`: itself (native) or `shadowName name`;
  * `sendEnv c e w` — the environment after the transaction: `e` (native) or `commit e w`;
  * `EntryImage kv x` — `Header.parse kv.2 = .ok (h, app)` and
    `x = ⟨kv.1, app, h.ts, (Header.masked h.flags).toNat⟩`;
  * `Pointwise R l r` — `l` and `r` have the same length and are related position by position.

  Not covered here (DESIGN.md §7 C06): that the Go code runs the dump inside one LMDB
  transaction is what the model's `sendOnce : Env → …` *is*; snapshot naming / metadata
  belongs to the Name model.
-/
namespace Ls.C06
open Ls Ls.Lmdb Ls.Txn
open Ls.Merge (KV)

/-- **Completeness and exactness of the snapshot.** If `sendOnce` succeeds (not receive-only),
    then the dump-time state `w` exists and the snapshot consists of exactly one DBI message per
    non-private DBI name of `w`, in `dbiNames` order, and nothing else. The message for `name`
    carries that name, the flags of the ORIGINAL DBI `name` (in shadow mode not those of the
    shadow DBI), the transform `dupsort_hack_v1` if and only if the original DBI has the
    duplicate-keys flag (else no transform), and as entries exactly the stored pairs of the dumped
    DBI (`name` itself for a native schema, `shadowName name` otherwise), in LMDB order, each as
    (key, application value, header timestamp, header flags ∧ sync mask) — whatever the entry is:
    live, empty-valued or a deletion marker. The format version written is
    `Gen.currentFormatVersion`, the compat version `Gen.writeCompatFormatVersion`. -/
theorem C06_complete (c : Cfg) (e : Env) (now cutoff : Nat) (r : SendRes)
    (h : sendOnce c e now cutoff = .ok r) (hro : c.receiveOnly = false) :
    ∃ w, dumpState c e now cutoff = .ok w ∧
      r.snap.fv = Gen.currentFormatVersion ∧ r.snap.cv = Gen.writeCompatFormatVersion ∧
      Pointwise (fun name m =>
          m.name = name ∧
          (∃ o, findDbi w.dbis name = some o ∧ m.flags = o.flags ∧
                (m.transform = strBytes Gen.transformDupSortHackV1 ↔ isDupSort o.flags = true) ∧
                (isDupSort o.flags = false → m.transform = [])) ∧
          (∃ d, findDbi w.dbis (dumpName c name) = some d ∧ Pointwise EntryImage d.kvs m.entries))
        (appNames w) r.snap.dbs := by
  obtain ⟨w, dbs, hw, hp, rfl⟩ := sendOnce_ok.mp h
  rw [hro] at hp
  refine ⟨w, hw, rfl, rfl, (if_neg Bool.false_ne_true ▸ hp).imp ?_⟩
  rintro name m ⟨hn, hd, ⟨o, ho, hf, ht, _⟩⟩
  refine ⟨hn, ⟨o, ho, hf, ?_, ?_⟩, hd⟩
  · rw [ht]
    cases hdup : isDupSort o.flags
    · simp only [Bool.false_eq_true, if_false, iff_false]
      exact fun h0 => dupsortTransform_ne_nil h0.symm
    · simp
  · intro hdup; rw [ht, hdup]; rfl

/-- **The application value is the stored value after the header and all extension blocks**,
    the timestamp the header's first eight bytes (big-endian), the flags the header's flag byte
    restricted to `Gen.flagSyncMask`: what `EntryImage` means in bytes. -/
theorem C06_entry_bytes (kv : Bytes × Bytes) (x : KV) (h : EntryImage kv x) :
    x.key = kv.1 ∧
    Gen.minHeaderSize + Gen.blockSize * Header.getNumExtra kv.2 ≤ kv.2.length ∧
    x.val = kv.2.drop (Gen.minHeaderSize + Gen.blockSize * Header.getNumExtra kv.2) ∧
    x.ts = beNat (slice kv.2 0 8) ∧
    x.flags = (kv.2.getD Gen.flagsOffset 0 &&& UInt8.ofNat Gen.flagSyncMask).toNat := by
  obtain ⟨h1, _, rfl⟩ := entryImage_iff.mp h
  exact ⟨rfl, h1, rfl, rfl, rfl⟩

/-- **Converse of `C06_complete`:** whenever the dump-time state exists and every stored value of
    every dumped DBI has a parsable header (and no duplicate-keys DBI lacks the `dupsort_hack`
    option), `sendOnce` succeeds with exactly that image — so `C06_complete` characterises the
    result completely, and the snapshot is uniquely determined by the dump-time state. -/
theorem C06_complete_conv (c : Cfg) (e : Env) (now cutoff : Nat) (w : W) (dbs : List DbiMsg)
    (hro : c.receiveOnly = false) (hw : dumpState c e now cutoff = .ok w)
    (himg : Pointwise (fun name m => DbiImage c w (dumpName c name) name m) (appNames w) dbs) :
    sendOnce c e now cutoff =
      .ok { env := sendEnv c e w, txnID := (sendEnv c e w).lastTxn,
            snap := { fv := Gen.currentFormatVersion, cv := Gen.writeCompatFormatVersion, dbs := dbs } } :=
  sendOnce_ok.mpr ⟨w, dbs, hw, by rwa [hro, if_neg Bool.false_ne_true], rfl⟩

/-- **With a well-formed environment** (DBI names strictly increasing, as in LMDB's root DBI —
    `SortedNames`, decidable; preserved by application transactions, `mainToShadow`, `loadDbi`,
    `shadowToMain`: `C06_wf_app`, `mainToShadow_sorted`, `loadFold_sorted`,
    `shadowToMain_sorted`) the messages correspond one-to-one, in order, to the non-private DBIs of
    the dump-time state themselves: message and DBI agree in name and flags, and the entries are
    the images of the pairs of the dumped DBI. -/
theorem C06_complete_wf (c : Cfg) (e : Env) (now cutoff : Nat) (r : SendRes)
    (h : sendOnce c e now cutoff = .ok r) (hro : c.receiveOnly = false) (hwf : SortedNames e.dbis) :
    ∃ w, dumpState c e now cutoff = .ok w ∧ SortedNames w.dbis ∧
      Pointwise (fun (o : Dbi) m =>
          m.name = o.name ∧ m.flags = o.flags ∧
          (m.transform = if isDupSort o.flags then strBytes Gen.transformDupSortHackV1 else []) ∧
          (∃ d, findDbi w.dbis (dumpName c o.name) = some d ∧ Pointwise EntryImage d.kvs m.entries) ∧
          (c.native = true → Pointwise EntryImage o.kvs m.entries))
        (w.dbis.filter (fun d => !isPrivate d.name)) r.snap.dbs := by
  obtain ⟨w, dbs, hw, hp, rfl⟩ := sendOnce_ok.mp h
  rw [hro, if_neg Bool.false_ne_true] at hp
  have hws := dumpState_sorted hwf hw
  refine ⟨w, hw, hws, ?_⟩
  have hnames : appNames w = (w.dbis.filter (fun d => !isPrivate d.name)).map (·.name) := by
    unfold appNames dbiNames
    rw [List.filter_map]; rfl
  rw [hnames, pointwise_map_left] at hp
  refine hp.imp_mem ?_
  rintro o ho m ⟨hn, ⟨d, hd, hents⟩, ⟨o', ho', hf, ht, _⟩⟩
  have hfo := findDbi_of_mem hws (List.mem_filter.mp ho).1
  cases hfo.symm.trans ho'
  refine ⟨hn, hf, ht, ⟨d, hd, hents⟩, fun hnat => ?_⟩
  rw [dumpName, if_pos hnat, hfo] at hd
  cases hd
  exact hents

/-- **No private DBI in a snapshot.** No message carries a name with the private prefix
    `Gen.syncDBIPrefix` — in particular no shadow DBI (`isPrivate_shadowName`) appears under its
    own name. That no per-entry local transaction id is in the snapshot holds by the type: a
    snapshot entry `KV` has the fields key, val, ts, flags only, and `EntryImage` does not read the
    header's `txn` field. -/
theorem C06_no_private (c : Cfg) (e : Env) (now cutoff : Nat) (r : SendRes)
    (h : sendOnce c e now cutoff = .ok r) :
    (∀ m ∈ r.snap.dbs, isPrivate m.name = false) ∧ ∀ name, isPrivate (shadowName name) = true := by
  refine ⟨?_, isPrivate_shadowName⟩
  obtain ⟨w, dbs, _, hp, rfl⟩ := sendOnce_ok.mp h
  intro m hm
  split at hp
  · cases hp; cases hm
  · obtain ⟨name, hname, himg⟩ := hp.exists_left m hm
    rw [himg.name]
    simpa using (List.mem_filter.mp hname).2

/-- **The header's transaction id does not influence the snapshot:** two stored values that
    differ only in bytes 8..15 (the local transaction id) have the same image. -/
theorem C06_txn_field_ignored (k ts txn txn' rest : Bytes) (x : KV)
    (h1 : ts.length = 8) (h2 : txn.length = 8) (h3 : txn'.length = 8)
    (h : EntryImage (k, ts ++ txn ++ rest) x) : EntryImage (k, ts ++ txn' ++ rest) x := by
  have hd : ∀ N, 16 ≤ N → (ts ++ txn' ++ rest).drop N = (ts ++ txn ++ rest).drop N := fun N hN => by
    simp only [List.drop_append, List.length_append, h1, h2, h3]
    rw [List.drop_of_length_le (l := ts) (by omega), List.drop_of_length_le (l := txn) (by omega),
      List.drop_of_length_le (l := txn') (by omega)]
  have hg : ∀ i, 16 ≤ i → (ts ++ txn' ++ rest).getD i 0 = (ts ++ txn ++ rest).getD i 0 := fun i hi => by
    simp only [List.getD_eq_getElem?_getD, ← List.head?_drop, hd i hi]
  have hn : Header.getNumExtra (ts ++ txn' ++ rest) = Header.getNumExtra (ts ++ txn ++ rest) := by
    unfold Header.getNumExtra slice
    rw [hd _ (by decide)]
  have ht : slice (ts ++ txn' ++ rest) 0 8 = slice (ts ++ txn ++ rest) 0 8 := by
    simp [slice, h1]
  have hl : (ts ++ txn' ++ rest).length = (ts ++ txn ++ rest).length := by
    simp only [List.length_append, h2, h3]
  rw [entryImage_iff] at h ⊢
  dsimp only at h ⊢
  rwa [hn, hd _ (Nat.le_add_right_of_le (by decide)), hg _ (by decide), hg _ (by decide), ht, hl]

/-- **Native schema: the dump is read-only and a function of the environment alone.** The
    environment after `sendOnce` is the one before it, and the whole result (snapshot, id, or
    error) does not depend on the clock or the deletion cut-off. -/
theorem C06_single_state_native (c : Cfg) (e : Env) (now cutoff : Nat) (hn : c.native = true) :
    (∀ r, sendOnce c e now cutoff = .ok r → r.env = e) ∧
    (∀ now' cutoff', sendOnce c e now' cutoff' = sendOnce c e now cutoff) ∧
    (∀ e' : Env, e'.dbis = e.dbis →
      (sendOnce c e' now cutoff).map (·.snap) = (sendOnce c e now cutoff).map (·.snap)) := by
  refine ⟨?_, ?_, ?_⟩
  · intro r h
    obtain ⟨w, dbs, _, _, rfl⟩ := sendOnce_ok.mp h
    exact if_pos hn
  · intro now' cutoff'
    rw [sendOnce_eq, sendOnce_eq]
    simp only [dumpState, hn, if_true]
  · intro e' he
    rw [sendOnce_eq, sendOnce_eq]
    simp only [dumpState, hn, if_true, he, sendEnv, bind, Except.bind]
    split <;> rfl

/-- **Shadow mode: snapshot and committed state are the same state.** The environment after
    `sendOnce` is the commit of the very transaction state `w` (after `mainToShadow`) whose image
    the snapshot is (`C06_complete` speaks about the same `w`: `dumpState` is a function). -/
theorem C06_single_state (c : Cfg) (e : Env) (now cutoff : Nat) (r : SendRes)
    (h : sendOnce c e now cutoff = .ok r) :
    ∃ w, dumpState c e now cutoff = .ok w ∧
      (c.native = true → w = { dbis := e.dbis, dirty := false } ∧ r.env = e) ∧
      (c.native = false →
        mainToShadow c { dbis := e.dbis, dirty := false } (e.lastTxn + 1) now cutoff = .ok w ∧
        r.env = commit e w) := by
  obtain ⟨w, dbs, hw, _, rfl⟩ := sendOnce_ok.mp h
  refine ⟨w, hw, fun hn => ?_, fun hn => ?_⟩
  · rw [dumpState, if_pos hn] at hw
    cases hw
    exact ⟨rfl, if_pos hn⟩
  · rw [dumpState, hn] at hw
    exact ⟨hw, by rw [sendEnv, hn]; rfl⟩

/-- **The reported transaction id is LMDB's last transaction id after the transaction**, in both
    modes: for a native schema the id of the state that was read; in shadow mode the id of the
    write transaction if it changed anything, else (LMDB does not record it) the previous one. -/
theorem C06_txnid (c : Cfg) (e : Env) (now cutoff : Nat) (r : SendRes)
    (h : sendOnce c e now cutoff = .ok r) : r.txnID = r.env.lastTxn := by
  obtain ⟨w, dbs, _, _, rfl⟩ := sendOnce_ok.mp h
  rfl

/-- **Receive-only instances dump nothing:** the snapshot has no DBI message (nothing is stored),
    while the transaction (including `mainToShadow` in shadow mode) still takes place. -/
theorem C06_receive_only (c : Cfg) (e : Env) (now cutoff : Nat) (r : SendRes)
    (h : sendOnce c e now cutoff = .ok r) (hro : c.receiveOnly = true) :
    r.snap.dbs = [] ∧ ∃ w, dumpState c e now cutoff = .ok w ∧ r.env = sendEnv c e w := by
  obtain ⟨w, dbs, hw, hd, rfl⟩ := sendOnce_ok.mp h
  exact ⟨(if_pos hro ▸ hd :), w, hw, rfl⟩

/-- **`sendOnce` keeps the environment well-formed** (the hypothesis of `C06_complete_wf`), as do
    application transactions (`C06_wf_app`) and `loadOnce` (`C18_wf_preserved`). -/
theorem C06_wf_preserved (c : Cfg) (e : Env) (now cutoff : Nat) (r : SendRes)
    (hwf : SortedNames e.dbis) (h : sendOnce c e now cutoff = .ok r) : SortedNames r.env.dbis := by
  obtain ⟨w, dbs, hw, _, rfl⟩ := sendOnce_ok.mp h
  show SortedNames (sendEnv c e w).dbis
  unfold sendEnv
  split
  · exact hwf
  · exact dumpState_sorted hwf hw

/-- a committed application transaction keeps the environment well-formed -/
theorem C06_wf_app (e e' : Env) (ops : List AppOp) (hwf : SortedNames e.dbis)
    (h : appTxn e ops = some e') : SortedNames e'.dbis := by
  obtain ⟨w, hw, rfl⟩ := Option.map_eq_some_iff.mp h
  -- invariant of the fold inside `appTxn`: a transaction state that has not been refused is well-formed
  refine List.foldlRecOn ops _ (motive := fun acc : Option W => ∀ a ∈ acc, SortedNames a.dbis)
    (fun a ha => ?_) (fun acc ih op _ a ha => ?_) w hw
  · cases ha; exact hwf
  · cases acc with
    | none => cases ha
    | some w0 =>
      dsimp only at ha
      split at ha
      · cases ha
      · cases ha; exact appStep_sorted op (ih w0 rfl)

namespace Example

/-- a 24-byte header (plus the announcement of `n` extension blocks): timestamp `ts`, local
    transaction id 42, flags `fl` -/
def hdr (ts fl n : UInt8) : Bytes :=
  [0, 0, 0, 0, 0, 0, 0, ts] ++ [0, 0, 0, 0, 0, 0, 0, 42] ++ [0, fl, 0, 0, 0, 0, 0, n]

/-- a native-schema environment with a private DBI (whose content has no header at all) and an
    application DBI holding a live entry with one extension block, a live entry with an empty
    value, a deletion marker, and an entry with a flag bit outside the sync mask -/
def env : Env :=
  { dbis := [
      { name := strBytes "_sync_meta", flags := 0, kvs := [([1], [9, 9, 9])] },
      { name := strBytes "app", flags := 0, kvs := [
          ([1], hdr 5 0 1 ++ [1, 2, 3, 4, 5, 6, 7, 8] ++ [65, 66]),
          ([2], hdr 6 0 0),
          ([3], hdr 7 1 0),
          ([4], hdr 8 3 0 ++ [67]) ] } ],
    lastTxn := 17 }

def cfg : Cfg := { native := true, hack := false, pad := false, receiveOnly := false, override := [] }

example : SortedNames env.dbis := by decide +kernel

/-- the private DBI is absent, the extension block and the transaction id 42 are gone, the empty
    value and the deletion marker are present, the flags are masked; the LMDB is unchanged -/
example : (sendOnce cfg env 0 0).toOption = some
    { env := env, txnID := 17,
      snap := { fv := 3, cv := 1, dbs := [
        { name := strBytes "app", flags := 0, transform := [], entries := [
            { key := [1], val := [65, 66], ts := 5, flags := 0 },
            { key := [2], val := [], ts := 6, flags := 0 },
            { key := [3], val := [], ts := 7, flags := 1 },
            { key := [4], val := [67], ts := 8, flags := 1 } ] } ] } } := by decide +kernel

/-- shadow mode on a plain application DBI (integer-key flag 8 plus an application flag 0x10000
    that a shadow DBI must not get): the message carries the ORIGINAL flags, the entries are those
    of the shadow DBI written by `mainToShadow` in the same transaction (timestamp = `now`), and
    the reported id is the id of that write transaction -/
def envS : Env :=
  { dbis := [{ name := strBytes "app", flags := 65544, kvs := [([1, 0, 0, 0], [65]), ([2, 0, 0, 0], [66, 67])] }],
    lastTxn := 17 }

def cfgS : Cfg := { native := false, hack := false, pad := false, receiveOnly := false, override := [] }

example :
    ((sendOnce cfgS envS 1000 0).toOption.map fun r => (r.txnID, r.env.lastTxn)) = some (18, 18) ∧
    ((sendOnce cfgS envS 1000 0).toOption.map fun r => r.env.dbis.map (fun d => (d.name, d.flags))) =
      some [(strBytes "_sync_shadow_app", 8), (strBytes "app", 65544)] ∧
    ((sendOnce cfgS envS 1000 0).toOption.map (·.snap.dbs)) = some
     [{ name := strBytes "app", flags := 65544, transform := [], entries := [
          { key := [1, 0, 0, 0], val := [65], ts := 1000, flags := 0 },
          { key := [2, 0, 0, 0], val := [66, 67], ts := 1000, flags := 0 } ] }] := by decide +kernel

/-- receive-only: nothing to store -/
example : ((sendOnce { cfg with receiveOnly := true } env 0 0).toOption.map (·.snap.dbs)) = some [] := by
  decide +kernel

end Example

end Ls.C06
