import LsLemmas.TxnLoad
/-
  C18 — A snapshot is merged all-or-nothing, for every supported format version.
  Model: LsModel/Txn.lean (`loadOnce`, `loadDbi`, `validateTransform`, `versionOk`, `commit`),
  LsModel/Merge.lean (`addHeader`, `merge`). Helper lemmas: LsLemmas/TxnLoad.lean (`loadOnce_ok`: a
  successful `loadOnce` is its three phases, committed; `loadDbi_eq`: the phases of one message),
  LsLemmas/TxnDbis.lean.

  Vocabulary (definitions in LsLemmas/TxnLoad.lean):
  * `preLoad c e lastSynced now cutoff` — the transaction state the snapshot is merged into
    (`mainToShadow` first when the schema is not native and the application wrote since the last
    sync); `postLoad c w` — `shadowToMain` when the schema is not native;
  * `ovrOf c m` — `dbi_options.override_create_flags` for the message's DBI;
    `createFlags c m = (override, else the message's flags) mod 2^16`;
    `shadowCreateFlags c m = createFlags c m &&& Gen.allowedShadowDBIFlagsMask`;
  * `targetName c m` — the DBI merged into: `m.name` (native) or `shadowName m.name`;
  * `createDbis`, `mergeDbi` — the two phases of `loadDbi` (`loadDbi_eq`).

  Trusted, not proved (DESIGN.md §5): that LMDB's `txn.Abort` leaves the environment unchanged
  and that readers never see an uncommitted transaction. The model expresses this by
  construction (`loadOnce : … → Except Err LoadRes` yields no environment in the error case).
-/
namespace Ls.C18
open Ls Ls.Lmdb Ls.Strategy Ls.Txn
open Ls.Merge (KV norm entryDeleted maskedFlags addHeader decodeS Bounded stale)

/-- the environment a caller holds after a `LoadOnce` attempt -/
def applyLoad (e : Env) (r : Except Err LoadRes) : Env :=
  match r with
  | .ok x => x.env
  | .error _ => e

/-- **All or nothing.** After a failing `loadOnce` the caller's environment is the one it had:
    no environment is produced in the error case, whatever was created or written in the
    transaction state before the failure. In the success case the new environment is the commit
    of one transaction state, the reported id is LMDB's last transaction id afterwards, and that
    id is the old one or the old one plus one. The atomicity of the abort itself — that LMDB
    discards the partial writes and that concurrent readers never observe them — is LMDB's
    (trusted, DESIGN.md §5); the model expresses it by construction. -/
theorem C18_all_or_nothing (c : Cfg) (e : Env) (snap : Snap) (lastSynced now cutoff : Nat) :
    (∀ err, loadOnce c e snap lastSynced now cutoff = .error err →
      applyLoad e (loadOnce c e snap lastSynced now cutoff) = e) ∧
    (∀ r, loadOnce c e snap lastSynced now cutoff = .ok r →
      applyLoad e (loadOnce c e snap lastSynced now cutoff) = r.env ∧
      (∃ w, r.env = commit e w) ∧ r.txnID = r.env.lastTxn ∧
      (r.env.lastTxn = e.lastTxn ∨ r.env.lastTxn = e.lastTxn + 1)) := by
  refine ⟨fun err h => by rw [h]; rfl, fun r h => ⟨by rw [h]; rfl, ?_⟩⟩
  obtain ⟨w0, w1, w2, _, _, _, rfl⟩ := loadOnce_ok.mp h
  refine ⟨⟨w2, rfl⟩, rfl, ?_⟩
  simp only [commit]
  cases w2.dirty <;> simp

/-- **A failure in any DBI message, at any position, fails the whole load** — even when all
    earlier messages were merged successfully into the transaction state: with `snap.dbs = pre ++
    m :: post`, if the messages of `pre` merge and `m` fails with `err`, then `loadOnce` fails with
    `err` and (by `C18_all_or_nothing`) the environment stays `e`. -/
theorem C18_failure_anywhere (c : Cfg) (e : Env) (snap : Snap) (lastSynced now cutoff : Nat)
    (pre post : List DbiMsg) (m : DbiMsg) (w0 w1 : W) (err : Err)
    (hsnap : snap.dbs = pre ++ m :: post)
    (h0 : preLoad c e lastSynced now cutoff = .ok w0)
    (hpre : pre.foldlM (loadDbi c snap (e.lastTxn + 1) cutoff) w0 = .ok w1)
    (hm : loadDbi c snap (e.lastTxn + 1) cutoff w1 m = .error err) :
    loadOnce c e snap lastSynced now cutoff = .error err ∧
    applyLoad e (loadOnce c e snap lastSynced now cutoff) = e := by
  have h : loadOnce c e snap lastSynced now cutoff = .error err := by
    rw [loadOnce_eq, h0, hsnap]
    simp only [List.foldlM_append, hpre, List.foldlM_cons, hm, bind, Except.bind]
  exact ⟨h, by rw [h]; rfl⟩

/-- **The version gate of `NewNativeIterator`, for all 32-bit (indeed all natural) values:** a
    format / compat version pair is refused exactly when the format version is 0, or the compat
    version is newer than this build's format version, or the format version is older than the
    oldest one still supported. -/
theorem C18_version_gate (fv cv : Nat) :
    (versionOk fv cv = false ↔
      fv = 0 ∨ cv > Gen.currentFormatVersion ∨ fv < Gen.compatFormatVersion) ∧
    (versionOk fv cv = true ↔
      fv ≠ 0 ∧ cv ≤ Gen.currentFormatVersion ∧ Gen.compatFormatVersion ≤ fv) := by
  unfold versionOk
  constructor
  · simp only [Bool.and_eq_false_iff, decide_eq_false_iff_not, ne_eq, Decidable.not_not]
    omega
  · simp only [Bool.and_eq_true, decide_eq_true_eq, and_assoc]

/-- the supported range with this build's constants: format versions 1, 2, 3, … with a compat
    version of at most 3 -/
theorem C18_version_gate_consts :
    Gen.currentFormatVersion = 3 ∧ Gen.compatFormatVersion = 1 ∧
    ∀ fv cv, versionOk fv cv = true ↔ 1 ≤ fv ∧ cv ≤ 3 := by
  refine ⟨rfl, rfl, fun fv cv => ?_⟩
  rw [(C18_version_gate fv cv).2]
  simp only [Gen.currentFormatVersion, Gen.compatFormatVersion]
  omega

/-- **Both gates guard every successful load.** If `loadOnce` succeeds, every non-private
    message of the snapshot passed `validateTransform`, and if there is at least one non-private
    message the snapshot's versions passed the version gate. Conversely, a snapshot with at least
    one non-private message whose versions are refused (or one of whose non-private messages
    fails `validateTransform`) makes `loadOnce` fail — with some error: an earlier message or
    `mainToShadow` may have failed first with a different one. -/
theorem C18_gates (c : Cfg) (e : Env) (snap : Snap) (lastSynced now cutoff : Nat) :
    (∀ r, loadOnce c e snap lastSynced now cutoff = .ok r →
      (∀ m ∈ snap.dbs, isPrivate m.name = false → validateTransform m snap.fv c.native = true) ∧
      ((∃ m ∈ snap.dbs, isPrivate m.name = false) → versionOk snap.fv snap.cv = true)) ∧
    ((∃ m ∈ snap.dbs, isPrivate m.name = false) → versionOk snap.fv snap.cv = false →
      ∃ err, loadOnce c e snap lastSynced now cutoff = .error err) ∧
    ((∃ m ∈ snap.dbs, isPrivate m.name = false ∧ validateTransform m snap.fv c.native = false) →
      ∃ err, loadOnce c e snap lastSynced now cutoff = .error err) := by
  have main : ∀ r, loadOnce c e snap lastSynced now cutoff = .ok r →
      ∀ m ∈ snap.dbs, isPrivate m.name = false →
        validateTransform m snap.fv c.native = true ∧ versionOk snap.fv snap.cv = true := by
    intro r h
    obtain ⟨w0, w1, _, _, h1, _, _⟩ := loadOnce_ok.mp h
    intro m hm hp
    obtain ⟨_, _, hx⟩ := foldlM_ok_mem h1 m hm
    obtain ⟨hv, _, _, h2⟩ := loadDbi_ok hp hx
    exact ⟨hv, (mergeDbi_ok h2).1⟩
  have fails : (∀ r, loadOnce c e snap lastSynced now cutoff ≠ .ok r) →
      ∃ err, loadOnce c e snap lastSynced now cutoff = .error err := by
    intro h
    cases hl : loadOnce c e snap lastSynced now cutoff with
    | error err => exact ⟨err, rfl⟩
    | ok r => exact absurd hl (h r)
  refine ⟨fun r h => ⟨fun m hm hp => (main r h m hm hp).1, fun ⟨m, hm, hp⟩ => (main r h m hm hp).2⟩,
    fun ⟨m, hm, hp⟩ hv => fails fun r hl => ?_, fun ⟨m, hm, hp, hv⟩ => fails fun r hl => ?_⟩
  · have := (main r hl m hm hp).2
    rw [hv] at this; cases this
  · have := (main r hl m hm hp).1
    rw [hv] at this; cases this

/-- **Which error:** when the first non-private message is reached with a refused version pair
    (all earlier messages private, `preLoad` fine, the message's transform valid and its DBIs
    creatable), the error is the version error — raised after the DBIs were created in the
    transaction state, so the refusal relies on the abort. -/
theorem C18_gate_after_create (c : Cfg) (e : Env) (snap : Snap) (lastSynced now cutoff : Nat)
    (pre post : List DbiMsg) (m : DbiMsg) (w0 w1 : W)
    (hsnap : snap.dbs = pre ++ m :: post) (hpre : ∀ x ∈ pre, isPrivate x.name = true)
    (h0 : preLoad c e lastSynced now cutoff = .ok w0)
    (hp : isPrivate m.name = false) (hv : validateTransform m snap.fv c.native = true)
    (hc : createDbis c snap w0 m = .ok w1) (hver : versionOk snap.fv snap.cv = false) :
    loadOnce c e snap lastSynced now cutoff = .error .version := by
  refine (C18_failure_anywhere c e snap lastSynced now cutoff pre post m w0 w0 .version hsnap h0
    (loadFold_private pre w0 hpre) ?_).1
  rw [loadDbi_eq]
  simp only [hp, hv, hc, Bool.false_eq_true, if_false, Bool.true_eq_false]
  obtain ⟨td, htd⟩ := createDbis_target hc
  exact mergeDbi_version_refused htd hver

/-- **A snapshot all of whose messages are private (or that has none) is a no-op, whatever its
    version fields say** — the gates sit inside the per-DBI loop. Precisely: such a load equals the
    load of the empty snapshot (any version fields); for a native schema it succeeds with the
    environment unchanged and the id `e.lastTxn`; for a shadow schema without local changes
    (`lastSynced ≥ e.lastTxn`) it is `shadowToMain` alone. -/
theorem C18_empty_snapshot_noop (c : Cfg) (e : Env) (snap : Snap) (lastSynced now cutoff : Nat)
    (hall : ∀ m ∈ snap.dbs, isPrivate m.name = true) :
    (∀ fv cv, loadOnce c e snap lastSynced now cutoff =
      loadOnce c e { fv := fv, cv := cv, dbs := [] } lastSynced now cutoff) ∧
    (c.native = true →
      loadOnce c e snap lastSynced now cutoff =
        .ok { env := e, txnID := e.lastTxn, localChanged := decide (lastSynced < e.lastTxn) }) ∧
    (c.native = false → e.lastTxn ≤ lastSynced →
      loadOnce c e snap lastSynced now cutoff =
        match shadowToMain c { dbis := e.dbis, dirty := false } with
        | .error err => .error err
        | .ok w => .ok { env := commit e w, txnID := (commit e w).lastTxn, localChanged := false }) := by
  have hfold : ∀ w0, snap.dbs.foldlM (loadDbi c snap (e.lastTxn + 1) cutoff) w0 = .ok w0 :=
    fun w0 => loadFold_private snap.dbs w0 hall
  refine ⟨?_, ?_, ?_⟩
  · intro fv cv
    rw [loadOnce_eq, loadOnce_eq]
    cases preLoad c e lastSynced now cutoff with
    | error err => rfl
    | ok w0 => simp only [hfold]; rfl
  · intro hn
    rw [loadOnce_eq]
    simp only [preLoad, hn, Bool.true_eq_false, false_and, if_false, hfold, postLoad, if_true]
    rfl
  · intro hn hl
    rw [loadOnce_eq]
    have hl' : ¬ lastSynced < e.lastTxn := by omega
    simp only [preLoad, hn, hl', and_false, if_false, hfold, postLoad, Bool.false_eq_true,
      decide_false, bind, Except.bind]
    cases shadowToMain c { dbis := e.dbis, dirty := false } <;> rfl

/-- **Decision table of `ValidateTransform`, for all transform strings, flags and format
    versions.** A message passes iff (1) its transform is one of the supported ones (none, or
    `dupsort_hack_v1`), (2) a native schema gets no transform at all, and (3) from format version 3
    on the duplicate-keys flag is set exactly when the transform is `dupsort_hack_v1`; before
    version 3 there is no such consistency check. The flag test is on `uint(flags)`, which does
    not affect the duplicate-keys bit (`isDupSort_mod`). -/
theorem C18_transform_table (m : DbiMsg) (fv : Nat) (native : Bool) :
    (validateTransform m fv native = true ↔
      (m.transform = [] ∨ m.transform = strBytes Gen.transformDupSortHackV1) ∧
      (native = true → m.transform = []) ∧
      (fv ≥ 3 → (isDupSort m.flags = true ↔ m.transform = strBytes Gen.transformDupSortHackV1))) ∧
    -- the rows of the table, one by one
    (m.transform ≠ [] → m.transform ≠ strBytes Gen.transformDupSortHackV1 →
      validateTransform m fv native = false) ∧
    (native = true → m.transform ≠ [] → validateTransform m fv native = false) ∧
    (fv ≥ 3 → isDupSort m.flags = true → m.transform = [] → validateTransform m fv native = false) ∧
    (fv ≥ 3 → isDupSort m.flags = false → m.transform = strBytes Gen.transformDupSortHackV1 →
      validateTransform m fv native = false) ∧
    (fv < 3 → m.transform = [] → validateTransform m fv native = true) ∧
    (fv < 3 → native = false → m.transform = strBytes Gen.transformDupSortHackV1 →
      validateTransform m fv native = true) ∧
    (fv ≥ 3 → isDupSort m.flags = false → m.transform = [] → validateTransform m fv native = true) ∧
    (fv ≥ 3 → native = false → isDupSort m.flags = true →
      m.transform = strBytes Gen.transformDupSortHackV1 → validateTransform m fv native = true) := by
  have key := validateTransform_iff m fv native
  have hne := dupsortTransform_ne_nil
  refine ⟨key, ?_, ?_, ?_, ?_, ?_, ?_, ?_, ?_⟩
  · exact fun h1 h2 => Bool.eq_false_iff.mpr fun h => (key.mp h).1.elim h1 h2
  · exact fun h1 h2 => Bool.eq_false_iff.mpr fun h => h2 ((key.mp h).2.1 h1)
  · exact fun h1 h2 h3 => Bool.eq_false_iff.mpr fun h =>
      hne ((((key.mp h).2.2 h1).mp h2).symm.trans h3)
  · exact fun h1 h2 h3 => Bool.eq_false_iff.mpr fun h =>
      Bool.false_ne_true (h2.symm.trans (((key.mp h).2.2 h1).mpr h3))
  · exact fun h1 h2 => key.mpr ⟨.inl h2, fun _ => h2, fun h3 => absurd h3 (Nat.not_le.mpr h1)⟩
  · exact fun h1 h2 h3 => key.mpr ⟨.inr h3, fun hn => absurd (h2.symm.trans hn) Bool.false_ne_true,
      fun h4 => absurd h4 (Nat.not_le.mpr h1)⟩
  · exact fun h1 h2 h3 => key.mpr ⟨.inl h3, fun _ => h3, fun _ =>
      ⟨fun h => absurd (h2.symm.trans h) Bool.false_ne_true, fun h => absurd (h.symm.trans h3) hne⟩⟩
  · exact fun h1 h2 h3 h4 => key.mpr ⟨.inr h4, fun hn => absurd (h2.symm.trans hn) Bool.false_ne_true,
      fun _ => ⟨fun _ => h4, fun _ => h3⟩⟩

/-- **A private DBI message is ignored:** the transaction state is returned unchanged, before
    any check — whatever the message's transform, flags, entries, and whatever the snapshot's
    versions. -/
theorem C18_private_skipped (c : Cfg) (snap : Snap) (txnID cutoff : Nat) (w : W) (m : DbiMsg)
    (hp : isPrivate m.name = true) : loadDbi c snap txnID cutoff w m = .ok w :=
  loadDbi_private hp

/-- **When and with which flags DBIs are created from a snapshot message** (non-private, transform
    valid). `loadDbi` is DBI creation followed by the merge (`loadDbi_eq`), and:

    * shadow mode, application DBI missing, snapshot older than v3 and no override: refused with
      `createUnsafe` (a pre-v3 snapshot carries the shadow DBI's flags, not the application
      DBI's);
    * otherwise, after a successful `loadDbi`, in shadow mode a previously missing application DBI
      exists, is empty, and has the flags `createFlags` (override if any, else the message's
      flags, mod 2^16) — which can only happen for `fv ≥ 3` or with an override; a previously
      missing shadow DBI exists with `createFlags` restricted to `Gen.allowedShadowDBIFlagsMask`;
    * native: a previously missing DBI exists with the flags `createFlags`;
    * framing: a DBI that existed keeps its name and flags, and every DBI other than the merge
      target keeps its content too. -/
theorem C18_create_rules (c : Cfg) (snap : Snap) (txnID cutoff : Nat) (w : W) (m : DbiMsg)
    (hp : isPrivate m.name = false) (hv : validateTransform m snap.fv c.native = true) :
    -- refusal
    (c.native = false → findDbi w.dbis m.name = none → snap.fv < 3 → ovrOf c m = none →
      loadDbi c snap txnID cutoff w m = .error .createUnsafe) ∧
    (∀ w', loadDbi c snap txnID cutoff w m = .ok w' →
      -- shadow mode: the application DBI
      (c.native = false → findDbi w.dbis m.name = none →
        (snap.fv ≥ 3 ∨ (ovrOf c m).isSome = true) ∧
        findDbi w'.dbis m.name = some { name := m.name, flags := createFlags c m, kvs := [] }) ∧
      -- shadow mode: the shadow DBI
      (c.native = false → findDbi w.dbis (shadowName m.name) = none →
        ∃ kvs, findDbi w'.dbis (shadowName m.name) =
          some { name := shadowName m.name,
                 flags := createFlags c m &&& Gen.allowedShadowDBIFlagsMask, kvs := kvs }) ∧
      -- native schema
      (c.native = true → findDbi w.dbis m.name = none →
        ∃ kvs, findDbi w'.dbis m.name =
          some { name := m.name, flags := createFlags c m, kvs := kvs }) ∧
      -- framing
      (∀ n d, findDbi w.dbis n = some d →
        (∃ kvs, findDbi w'.dbis n = some { d with kvs := kvs }) ∧
        (n ≠ targetName c m → findDbi w'.dbis n = some d))) := by
  have refusal : c.native = false → findDbi w.dbis m.name = none → snap.fv < 3 → ovrOf c m = none →
      loadDbi c snap txnID cutoff w m = .error .createUnsafe := by
    intro hn hf hfv hov
    rw [loadDbi_eq, createDbis_eq]
    simp only [hp, hv, Bool.false_eq_true, if_false, Bool.true_eq_false]
    simp [hn, hf, hfv, hov]
  refine ⟨refusal, fun w' h => ?_⟩
  · obtain ⟨_, w1, h1, h2⟩ := loadDbi_ok hp h
    obtain ⟨_, td, s, _, _, rfl⟩ := mergeDbi_ok h2
    have hlook := findDbi_setKvs w1.dbis (targetName c m) s.db
    have hl1 := createDbis_lookup h1
    refine ⟨?_, ?_, ?_, ?_⟩
    · intro hn hf
      constructor
      · rcases Nat.lt_or_ge snap.fv 3 with hfv | hfv
        · cases hov : ovrOf c m with
          | some x => exact .inr rfl
          | none => rw [refusal hn hf hfv hov] at h; cases h
        · exact .inl hfv
      · rw [hlook, hl1]
        have hne : ¬ m.name = shadowName m.name := fun h' => shadowName_ne m.name h'.symm
        simp only [hn, Bool.false_eq_true, if_false, hne, if_true, hf, Option.getD_none,
          Option.map_some, newDbi, targetName]
    · intro hn hf
      refine ⟨s.db, ?_⟩
      rw [hlook, hl1]
      simp only [hn, Bool.false_eq_true, if_false, if_true, hf, Option.getD_none, Option.map_some,
        newDbi, targetName, shadowCreateFlags]
    · intro hn hf
      refine ⟨s.db, ?_⟩
      rw [hlook, hl1]
      simp only [hn, if_true, hf, Option.getD_none, Option.map_some, newDbi, targetName]
    · intro n d hd
      obtain rfl := findDbi_name hd
      rw [hlook, createDbis_mono h1 hd, Option.map_some]
      constructor
      · split
        · exact ⟨s.db, rfl⟩
        · exact ⟨d.kvs, rfl⟩
      · intro ht; rw [if_neg ht]

/-- **Meaning of an empty value by format version.** With the iterator configuration `mc` of a
    load (`mc.fv` = the snapshot's format version): in version 1 (any version below 2) an entry
    with an empty value denotes a deletion — its normal form `Merge.norm` is deleted with no value,
    whatever its flags; from version 2 on the normal form is deleted exactly when the entry is
    flagged deleted, so an unflagged empty value is a live entry with the empty value. -/
theorem C18_v1_empty_is_deletion (mc : Merge.Cfg) (e : KV) :
    (mc.fv < 2 → e.val = [] → (norm mc e).del = true ∧ (norm mc e).val = []) ∧
    (2 ≤ mc.fv → (norm mc e).del = Header.isDeleted (maskedFlags e)) ∧
    (2 ≤ mc.fv → Header.isDeleted (maskedFlags e) = false →
      (norm mc e).del = false ∧ (norm mc e).val = e.val) ∧
    (mc.fv < 2 → e.val ≠ [] → (norm mc e).del = Header.isDeleted (maskedFlags e)) := by
  refine ⟨?_, ?_, ?_, ?_⟩
  · intro hfv hval
    simp [norm, entryDeleted, hval, hfv]
  · intro hfv
    have : ¬ mc.fv < 2 := by omega
    simp [norm, entryDeleted, this]
  · intro hfv hd
    have : ¬ mc.fv < 2 := by omega
    simp [norm, entryDeleted, this, hd]
  · intro hfv hval
    have : ¬ e.val.length = 0 := fun h => hval (List.length_eq_zero_iff.mp h)
    simp [norm, entryDeleted, this]

/-- **What the merge loop writes for a key that is not stored.** `loadDbi`'s merge is a left fold
    of `updStep` over the message's entries (`update_eq_fold`, `mergeDbi`); a step for an entry
    whose key is absent (and acceptable to LMDB), and which is not a deletion marker older than the
    cut-off, stores `addHeader mc e.val e.ts (maskedFlags e)` under the key and marks the
    transaction as having written; the logical content of the stored bytes is the entry's normal
    form. So (with `C18_v1_empty_is_deletion`) a version-1 entry with an empty value is stored as a
    deletion marker, a version-2+ entry with an empty value and no deleted flag as a live empty
    value. A stale deletion marker for an absent key writes nothing. -/
theorem C18_absent_key_written (ik : Bool) (mc : Merge.Cfg) (s : S) (e : KV)
    (hk : badKey e.key = false) (habs : get ik s.db e.key = none) (hb : Bounded mc e) :
    (¬ stale mc e →
      updStep ik (nativeIter mc) s e =
        .ok { db := put ik s.db e.key (addHeader mc e.val e.ts (maskedFlags e)), dirty := true } ∧
      decodeS (addHeader mc e.val e.ts (maskedFlags e)) = .ok (some (norm mc e)) ∧
      (mc.fv < 2 → e.val = [] →
        decodeS (addHeader mc e.val e.ts (maskedFlags e)) =
          .ok (some { ts := if e.ts = 0 then mc.defTs else e.ts, del := true, val := [] }))) ∧
    (stale mc e → updStep ik (nativeIter mc) s e = .ok s) := by
  have hk0 : ¬ e.key.length = 0 := by
    intro h0; simp [badKey, h0] at hk
  have hstep : updStep ik (nativeIter mc) s e =
      liftIter (Merge.merge mc e []) >>= setNewVal ik s e.key [] := by
    unfold updStep
    simp only [nativeIter, hk0, if_false, habs, Option.getD_none]
  rw [hstep, Merge.merge_absent]
  unfold stale
  constructor
  · intro hst
    refine ⟨?_, Merge.decodeS_addHeader mc e hb, fun hfv hval => ?_⟩
    · have hne : ¬ addHeader mc e.val e.ts (maskedFlags e) = [] := fun h0 =>
        Merge.addHeader_length_pos mc e.val e.ts (maskedFlags e) (by rw [h0]; rfl)
      simp only [hst, if_false, liftIter, bind, Except.bind, setNewVal, hne, putS, hk,
        Merge.addHeader_length_pos]
      rfl
    · rw [Merge.decodeS_addHeader mc e hb]
      simp [norm, entryDeleted, hval, hfv]
  · intro hst
    simp only [hst, liftIter, bind, Except.bind, setNewVal]
    rw [delS_eq]
    simp [del_of_get_none habs, del_snd, habs]

/-- the merge phase of `loadDbi` (`mergeDbi`) is the left fold of `updStep` over the message's
    entries, with the snapshot's format version in the iterator
    configuration, `defTs = 0`, the transaction's id, the cut-off and the padding option -/
theorem C18_merge_is_fold (c : Cfg) (snap : Snap) (txnID cutoff : Nat) (w w' : W) (m : DbiMsg)
    (h : mergeDbi c snap txnID cutoff w m = .ok w') :
    versionOk snap.fv snap.cv = true ∧
    ∃ td s, findDbi w.dbis (targetName c m) = some td ∧
      mapStratErr (m.entries.foldlM (updStep (isIntKey td.flags)
        (nativeIter { fv := snap.fv, defTs := 0, txn := txnID, cutoff := cutoff, pad := c.pad }))
        { db := td.kvs, dirty := w.dirty }) = .ok s ∧
      w' = { dbis := setKvs w.dbis (targetName c m) s.db, dirty := s.dirty } :=
  mergeDbi_ok h

/-- **`loadOnce` keeps the environment well-formed** (DBI names strictly increasing, the
    hypothesis of `C06_complete_wf`): DBIs are only ever inserted at their place in the root
    DBI's order. -/
theorem C18_wf_preserved (c : Cfg) (e : Env) (snap : Snap) (lastSynced now cutoff : Nat) (r : LoadRes)
    (hwf : SortedNames e.dbis) (h : loadOnce c e snap lastSynced now cutoff = .ok r) :
    SortedNames r.env.dbis := by
  obtain ⟨w0, w1, w2, h0, h1, h2, rfl⟩ := loadOnce_ok.mp h
  have hs0 : SortedNames w0.dbis := by
    unfold preLoad at h0
    split at h0
    · exact mainToShadow_sorted hwf h0
    · cases h0; exact hwf
  have hs1 := loadFold_sorted hs0 h1
  unfold postLoad at h2
  split at h2
  · cases h2; exact hs1
  · exact shadowToMain_sorted hs1 h2

-- concrete instances: the hypotheses of the theorems above are satisfiable

namespace Example

def errOf {α} : Except Err α → Option Err
  | .error e => some e
  | .ok _ => none

def cfgN : Cfg := { native := true, hack := false, pad := false, receiveOnly := false, override := [] }
def cfgS : Cfg := { native := false, hack := false, pad := false, receiveOnly := false, override := [] }

/-- a native environment with one application DBI holding key `[1]` (timestamp 5, value "A") -/
def env : Env :=
  { dbis := [{ name := strBytes "app", flags := 0,
               kvs := [([1], [0, 0, 0, 0, 0, 0, 0, 5] ++ [0, 0, 0, 0, 0, 0, 0, 3] ++ [0, 0, 0, 0, 0, 0, 0, 0] ++ [65])] }],
    lastTxn := 7 }

/-- a snapshot for `app` with an empty value for the absent key `[2]` at timestamp 9 -/
def snapV (fv cv : Nat) : Snap :=
  { fv := fv, cv := cv,
    dbs := [{ name := strBytes "app", flags := 0, transform := [],
              entries := [{ key := [2], val := [], ts := 9, flags := 0 }] }] }

example : SortedNames env.dbis := by decide +kernel

/-- version 1: the empty value is stored as a deletion marker (flag byte 1) in transaction 8 -/
example : ((loadOnce cfgN env (snapV 1 1) 7 0 0).toOption.map fun r => (r.txnID, r.env.dbis.map fun d => d.kvs)) =
    some (8, [[([1], [0, 0, 0, 0, 0, 0, 0, 5, 0, 0, 0, 0, 0, 0, 0, 3, 0, 0, 0, 0, 0, 0, 0, 0, 65]),
               ([2], [0, 0, 0, 0, 0, 0, 0, 9, 0, 0, 0, 0, 0, 0, 0, 8, 0, 1, 0, 0, 0, 0, 0, 0])]]) := by
  decide +kernel

/-- versions 2 and 3: the same entry is stored as a live empty value (flag byte 0) -/
example : ((loadOnce cfgN env (snapV 2 1) 7 0 0).toOption.map fun r => (r.txnID, r.env.dbis.map fun d => d.kvs)) =
    some (8, [[([1], [0, 0, 0, 0, 0, 0, 0, 5, 0, 0, 0, 0, 0, 0, 0, 3, 0, 0, 0, 0, 0, 0, 0, 0, 65]),
               ([2], [0, 0, 0, 0, 0, 0, 0, 9, 0, 0, 0, 0, 0, 0, 0, 8, 0, 0, 0, 0, 0, 0, 0, 0])]]) := by
  decide +kernel

/-- refused versions: format version 0, compat version 4, and (all naturals) a huge compat version;
    the caller keeps its environment -/
example : errOf (loadOnce cfgN env (snapV 0 0) 7 0 0) = some .version ∧
    errOf (loadOnce cfgN env (snapV 3 4) 7 0 0) = some .version ∧
    errOf (loadOnce cfgN env (snapV 4 4294967295) 7 0 0) = some .version ∧
    applyLoad env (loadOnce cfgN env (snapV 0 0) 7 0 0) = env := by decide +kernel

/-- a future format version with an acceptable compat version is accepted -/
example : errOf (loadOnce cfgN env (snapV 4 3) 7 0 0) = none := by decide +kernel

/-- only private messages, nonsensical versions -/
def snapPriv : Snap :=
  { fv := 0, cv := 99,
    dbs := [{ name := strBytes "_sync_x", flags := 4, transform := [1],
              entries := [{ key := [], val := [], ts := 0, flags := 0 }] }] }

/-- … is a no-op -/
example : (loadOnce cfgN env snapPriv 7 0 0).toOption =
    some { env := env, txnID := 7, localChanged := false } := by decide +kernel

def snapT (flags : Nat) (transform : Bytes) : Snap :=
  { fv := 3, cv := 1, dbs := [{ name := strBytes "app", flags := flags, transform := transform, entries := [] }] }

/-- a native schema refuses a transform; flags and transform must agree from version 3 on -/
example :
    errOf (loadOnce cfgN env (snapT 4 (strBytes "dupsort_hack_v1")) 7 0 0) = some .transform ∧
    errOf (loadOnce cfgS env (snapT 4 []) 7 0 0) = some .transform ∧
    errOf (loadOnce cfgS env (snapT 0 (strBytes "dupsort_hack_v1")) 7 0 0) = some .transform ∧
    errOf (loadOnce cfgS env (snapT 0 (strBytes "other")) 7 0 0) = some .transform := by
  decide +kernel

/-- a shadow-mode environment (plain application values) with a local change not yet mirrored -/
def envS : Env := { dbis := [{ name := strBytes "app", flags := 0, kvs := [([1], [65])] }], lastTxn := 7 }

def snapNew (fv : Nat) : Snap :=
  { fv := fv, cv := 1,
    dbs := [{ name := strBytes "new", flags := 65536 + 8 + 2, transform := [], entries := [] }] }

def cfgO : Cfg :=
  { native := false, hack := false, pad := false, receiveOnly := false, override := [(strBytes "new", 8)] }

/-- shadow mode, DBI `new` missing: a version-2 snapshot cannot create it, a version-3 snapshot
    creates it with its flags (mod 2^16) and the shadow DBI with the integer-key bit only; an
    override makes the version-2 snapshot acceptable -/
example :
    errOf (loadOnce cfgS envS (snapNew 2) 0 1000 0) = some .createUnsafe ∧
    ((loadOnce cfgS envS (snapNew 3) 0 1000 0).toOption.map fun r => r.env.dbis.map fun d => (d.name, d.flags)) =
      some [(strBytes "_sync_shadow_app", 0), (strBytes "_sync_shadow_new", 8), (strBytes "app", 0),
            (strBytes "new", 10)] ∧
    ((loadOnce cfgO envS (snapNew 2) 0 1000 0).toOption.map fun r => r.env.dbis.map fun d => (d.name, d.flags)) =
      some [(strBytes "_sync_shadow_app", 0), (strBytes "_sync_shadow_new", 8), (strBytes "app", 0),
            (strBytes "new", 8)] := by decide +kernel

def snapTwo : Snap :=
  { fv := 3, cv := 1, dbs := [
      { name := strBytes "app", flags := 0, transform := [],
        entries := [{ key := [2], val := [66], ts := 9, flags := 0 }] },
      { name := strBytes "zzz", flags := 0, transform := [],
        entries := [{ key := [], val := [66], ts := 9, flags := 0 }] }] }

/-- the first DBI merges, the second one fails (entry with an empty key): the whole load fails and
    the caller keeps its environment -/
example : errOf (loadOnce cfgN env snapTwo 7 0 0) = some .badKey ∧
    applyLoad env (loadOnce cfgN env snapTwo 7 0 0) = env := by decide +kernel

end Example

end Ls.C18
