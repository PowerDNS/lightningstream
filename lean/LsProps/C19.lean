import LsLemmas.StrategyIter
/-
  C19 — Update strategies apply exactly the iterator's decisions, in the DBI's key order.
  Model: LsModel/Lmdb.lean (abstract DBI), LsModel/Strategy.lean (strategy.Update, IterUpdate with
  iterBoth, EmptyPut). Specification: LsModel/StrategySpec.lean.
-/
namespace Ls.C19
open Ls Ls.Lmdb Ls.Strategy

variable {E ε : Type}

/-! ## 1. the DBI's key order -/

/-- The comparison of a DBI (byte-wise, or MDB_INTEGERKEY) is a strict total preorder on keys:
    a key is equivalent to itself, the sign is antisymmetric, `<` and equivalence are transitive,
    any two keys are comparable, and equivalent keys compare identically with every other key. -/
theorem C19_cmp_preorder (ik : Bool) :
    (∀ a, kcmp ik a a = 0) ∧
    (∀ a b, kcmp ik a b < 0 ↔ 0 < kcmp ik b a) ∧
    (∀ a b, kcmp ik a b = 0 ↔ kcmp ik b a = 0) ∧
    (∀ a b c, kcmp ik a b < 0 → kcmp ik b c < 0 → kcmp ik a c < 0) ∧
    (∀ a b c, kcmp ik a b = 0 → kcmp ik b c = 0 → kcmp ik a c = 0) ∧
    (∀ a b, kcmp ik a b < 0 ∨ kcmp ik a b = 0 ∨ 0 < kcmp ik a b) ∧
    (∀ a b c, kcmp ik a b = 0 → kcmp ik a c = kcmp ik b c ∧ kcmp ik c a = kcmp ik c b) :=
  ⟨kcmp_refl ik, kcmp_lt_iff_gt ik, kcmp_eq_comm ik, fun _ _ _ => kcmp_lt_trans ik,
   fun _ _ _ => kcmp_eq_trans ik, fun _ _ => by omega,
   fun _ _ c h => ⟨kcmp_congr_left ik c h, kcmp_congr_right ik c h⟩⟩

/-- On a byte-wise DBI the order is the lexicographic order of the key bytes and equivalence is
    equality. -/
theorem C19_cmp_bytes (a b : Bytes) :
    (kcmp false a b < 0 ↔ a < b) ∧ (kcmp false a b = 0 ↔ a = b) ∧ (0 < kcmp false a b ↔ b < a) :=
  bcmp_spec a b

/-- On an integer-key DBI with uniform 4-byte (likewise 8-byte) keys the order is the unsigned
    little-endian numeric order, and equivalence is equality of keys (injective). -/
theorem C19_cmp_int (a b : Bytes) (h : (a.length = 4 ∧ b.length = 4) ∨ (a.length = 8 ∧ b.length = 8)) :
    (kcmp true a b < 0 ↔ leNat a < leNat b) ∧ (kcmp true a b = 0 ↔ a = b) ∧
    (0 < kcmp true a b ↔ leNat b < leNat a) := by
  rcases h with ⟨ha, hb⟩ | ⟨ha, hb⟩
  · exact kcmp_int_spec (Or.inl ha) (by omega)
  · exact kcmp_int_spec (Or.inr (Or.inl ha)) (by omega)

/-! ## 2. map algebra of a sorted DBI -/

/-- `put` and `del` keep the DBI strictly sorted. -/
theorem C19_sorted_preserved (ik : Bool) (db : KVs) (k v : Bytes) (hs : Sorted ik db) :
    Sorted ik (put ik db k v) ∧ Sorted ik (del ik db k).1 :=
  ⟨sorted_put hs k v, sorted_del hs k⟩

/-- Read-after-write: after `put k v` the key (and every key equivalent to it) reads `v`, every
    other key reads what it read before. Holds for any list. -/
theorem C19_get_put (ik : Bool) (db : KVs) (k v k' : Bytes) :
    get ik (put ik db k v) k' = if kcmp ik k k' = 0 then some v else get ik db k' :=
  get_put ik db k v k'

/-- Read-after-delete on a sorted DBI; the flag `del` returns says whether the key was stored. -/
theorem C19_get_del (ik : Bool) (db : KVs) (k k' : Bytes) (hs : Sorted ik db) :
    get ik (del ik db k).1 k' = (if kcmp ik k k' = 0 then none else get ik db k') ∧
    (del ik db k).2 = (get ik db k).isSome :=
  ⟨get_del hs k k', del_snd ik db k⟩

/-- Writing what is stored changes nothing: an identical put leaves the (sorted) list unchanged, and
    so does deleting an absent key. -/
theorem C19_put_del_noop (ik : Bool) (db : KVs) (k : Bytes) (hs : Sorted ik db) :
    (∀ v, get ik db k = some v → put ik db k v = db) ∧
    (get ik db k = none → (del ik db k).1 = db ∧ (del ik db k).2 = false) :=
  ⟨fun _ h => put_of_get_some hs h,
   fun h => ⟨del_of_get_none h, by rw [del_snd, h]; rfl⟩⟩

/-- The map update the specifications use (`applyOpt`: put a value / delete on `none`) on a sorted
    DBI: sortedness is kept, the key reads the decision, other keys are untouched, and the content
    is unchanged iff the decision is what was stored. -/
theorem C19_applyOpt (ik : Bool) (db : KVs) (k : Bytes) (ov : Option Bytes) (hs : Sorted ik db) :
    Sorted ik (applyOpt ik db k ov) ∧
    (∀ k', get ik (applyOpt ik db k ov) k' = if kcmp ik k k' = 0 then ov else get ik db k') ∧
    (applyOpt ik db k ov = db ↔ ov = get ik db k) :=
  ⟨sorted_applyOpt hs k ov, get_applyOpt hs k ov, applyOpt_eq_iff hs k ov⟩

/-! ## 3. strategy.Update -/

/-- `strategy.Update`, exactly: for every iterator, every sorted stored content and every input
    (any order, duplicate keys allowed) whose keys are non-empty, `Update` is the left fold of the
    specification step `specUpdStep`: look up the key, ask the iterator, apply the decision
    (`applyOpt … (setNew …)`, i.e. the equality-skip of `setNewVal` never changes the content);
    fail with the iterator's error, or with `badKey` when a decision that changes the content has
    to put a key longer than 511 bytes; the dirty bit is set exactly by the steps that change the
    content. -/
theorem C19_update_exact (ik : Bool) (it : Iter E ε) (db : KVs) (d : Bool) (input : List E)
    (hs : Sorted ik db) (hk : ∀ e ∈ input, (it.key e).length ≠ 0) :
    update ik it ⟨db, d⟩ input = input.foldlM (specUpdStep ik it) ⟨db, d⟩ :=
  update_eq_spec it input (s := ⟨db, d⟩) hs hk

/-- `strategy.Update` against the pure specification `specUpdate`, non-empty keys of any length:
    a successful run returns exactly the content `specUpdate` computes; a failure is the
    iterator's error at which `specUpdate` fails too, or LMDB's refusal (`badKey`) of an input key
    longer than 511 bytes. No other error (not sorted, hang, panic) is possible. -/
theorem C19_update_sound (ik : Bool) (it : Iter E ε) (db : KVs) (d : Bool) (input : List E)
    (hs : Sorted ik db) (hk : ∀ e ∈ input, (it.key e).length ≠ 0) :
    (∀ s', update ik it ⟨db, d⟩ input = .ok s' → specUpdate ik it db input = .ok s'.db) ∧
    (∀ err, update ik it ⟨db, d⟩ input = .error err →
      (∃ x, err = .iter x ∧ specUpdate ik it db input = .error x) ∨
      (err = .badKey ∧ ∃ e ∈ input, (it.key e).length > 511)) := by
  rw [update_eq_spec it input (s := ⟨db, d⟩) hs hk]
  exact ⟨fun s' h => specUpdateS_ok it input h, fun err h => specUpdateS_err it input h⟩

/-- `strategy.Update` with keys of 1..511 bytes fails iff `specUpdate` fails (with the same
    iterator error) and otherwise returns exactly `specUpdate`'s content. -/
theorem C19_update (ik : Bool) (it : Iter E ε) (db : KVs) (d : Bool) (input : List E)
    (hs : Sorted ik db) (hk : ∀ e ∈ input, (it.key e).length ≠ 0 ∧ (it.key e).length ≤ 511) :
    match specUpdate ik it db input with
    | .ok db' => ∃ d', update ik it ⟨db, d⟩ input = .ok ⟨db', d'⟩
    | .error x => update ik it ⟨db, d⟩ input = .error (.iter x) := by
  rw [update_eq_spec it input (s := ⟨db, d⟩) hs (fun e he => (hk e he).1)]
  exact specUpdateS_short it input ⟨db, d⟩ (fun e he => (hk e he).2)

/-- Pointwise reading of the result of `Update` (`specUpdate`): the result is sorted, and for every
    key `k` its value is the left fold, over the input entries whose key is `k` (in input order),
    of "ask the iterator with the current value, empty/nil decision removes the key", starting
    from the stored value. In particular keys that do not occur in the input keep their value. -/
theorem C19_update_pointwise (ik : Bool) (it : Iter E ε) (db db' : KVs) (input : List E)
    (hs : Sorted ik db) (h : specUpdate ik it db input = .ok db') :
    Sorted ik db' ∧
    (∀ k, (input.filter (fun e => kcmp ik (it.key e) k = 0)).foldlM
        (fun cur e => do let v ← it.merge e (cur.getD []); pure (setNew v)) (get ik db k)
        = .ok (get ik db' k)) ∧
    (∀ k, (∀ e ∈ input, kcmp ik (it.key e) k ≠ 0) → get ik db' k = get ik db k) := by
  refine ⟨specUpdate_sorted it input hs h, fun k => specUpdate_get it input k hs h, ?_⟩
  intro k hk
  have := specUpdate_get it input k hs h
  rw [List.filter_eq_nil_iff.mpr (fun e he => by simpa using hk e he)] at this
  exact (Except.ok.inj this).symm

/-- A no-op merge writes nothing: if every decision is the stored value (or removes an absent
    key) — `setNew decision = get db key` — then `Update` returns the content and the dirty bit
    unchanged, so no LMDB write happened in the transaction. -/
theorem C19_update_noop (ik : Bool) (it : Iter E ε) (db : KVs) (d : Bool) (input : List E)
    (hs : Sorted ik db) (hk : ∀ e ∈ input, (it.key e).length ≠ 0)
    (h : ∀ e ∈ input, ∃ r, it.merge e ((get ik db (it.key e)).getD []) = .ok r ∧
      setNew r = get ik db (it.key e)) :
    update ik it ⟨db, d⟩ input = .ok ⟨db, d⟩ := by
  rw [update_eq_spec it input (s := ⟨db, d⟩) hs hk]
  exact specUpdateS_noop it input ⟨db, d⟩ hs h

/-- The dirty bit of `Update` is sound, for any input and any content: a successful `Update`
    either changed nothing at all (same content, same dirty bit) or left the dirty bit set. So a
    transaction whose dirty bit is still clear has not changed the DBI, and skipping its commit
    is safe. -/
theorem C19_update_dirty (ik : Bool) (it : Iter E ε) (s s' : S) (input : List E)
    (h : update ik it s input = .ok s') : s' = s ∨ s'.dirty = true :=
  update_same_or_dirty input s s' h

/-! ## 4. strategy.IterUpdate -/

/-- `strategy.IterUpdate` for ANY iterator (its decisions may fail): with input keys of 1..511
    bytes strictly increasing in the DBI's order, `iterBoth` never reports `notSorted`, never
    panics and never hangs (the fuel `|input| + |stored| + 1` suffices); it is exactly the left
    fold of the IterUpdate callbacks along the merge-join `plan` of the input with the stored
    entries, so the first failing decision in key order wins. -/
theorem C19_iterupdate_plan (ik : Bool) (it : Iter E ε) (s : S) (input : List E)
    (hs : sortedKeys ik (input.map it.key) = true)
    (hk : ∀ e ∈ input, (it.key e).length ≠ 0 ∧ (it.key e).length ≤ 511) :
    iterUpdate ik it s input = (plan ik it input s.db).foldlM (runAct ik it) s :=
  iterUpdate_plan ik it s input ((isorted_iff ik it input).mpr hs) hk

/-- The callbacks of the merge-join are exactly about: a stored entry whose key is not in the
    input (`clean`), an input entry whose key is not stored (`insert`), an input entry together
    with the stored entry of the same key (`both`). -/
theorem C19_iterupdate_plan_sound (ik : Bool) (it : Iter E ε) (db : KVs) (input : List E)
    (hs : sortedKeys ik (input.map it.key) = true) (hD : Sorted ik db) :
    ∀ a ∈ plan ik it input db,
      match a with
      | .clean dk dv => (dk, dv) ∈ db ∧ inInput ik it input dk = false
      | .insert e => e ∈ input ∧ get ik db (it.key e) = none
      | .both e dk dv => e ∈ input ∧ (dk, dv) ∈ db ∧ kcmp ik (it.key e) dk = 0 := by
  intro a ha
  have := plan_mem input db ((isorted_iff ik it input).mpr hs) hD a ha
  cases a <;> exact this

/-- Every input entry and every stored entry is handled by one of the callbacks of the merge-join. -/
theorem C19_iterupdate_plan_complete (ik : Bool) (it : Iter E ε) (db : KVs) (input : List E) :
    (∀ e ∈ input, Act.insert e ∈ plan ik it input db ∨ ∃ dk dv, Act.both e dk dv ∈ plan ik it input db) ∧
    (∀ p ∈ db, Act.clean p.1 p.2 ∈ plan ik it input db ∨ ∃ e, Act.both e p.1 p.2 ∈ plan ik it input db) :=
  plan_complete ik it input db

/-- With failing decisions allowed: for sorted input, valid input keys and a sorted DBI with valid
    stored keys, the only possible failure of `IterUpdate` is an error returned by the iterator. -/
theorem C19_iterupdate_errors (ik : Bool) (it : Iter E ε) (db : KVs) (d : Bool) (input : List E)
    (hs : sortedKeys ik (input.map it.key) = true)
    (hk : ∀ e ∈ input, (it.key e).length ≠ 0 ∧ (it.key e).length ≤ 511)
    (hD : Sorted ik db) (hDK : ∀ p ∈ db, badKey p.1 = false) :
    (∃ s', iterUpdate ik it ⟨db, d⟩ input = .ok s') ∨ (∃ x, iterUpdate ik it ⟨db, d⟩ input = .error (.iter x)) := by
  cases h : iterUpdate ik it ⟨db, d⟩ input with
  | ok s' => exact Or.inl ⟨s', rfl⟩
  | error err =>
    obtain ⟨y, hy⟩ := iterUpdate_err (ik := ik) (it := it) ⟨db, d⟩ input ((isorted_iff ik it input).mpr hs) hk hDK err h
    exact Or.inr ⟨y, by rw [hy]⟩

/-- `strategy.IterUpdate`, main statement. If the decisions IterUpdate consults for this input and
    content do not fail (`LocalTotal`: `Merge(nil)` for every input entry, `Merge(stored)` for every
    input entry whose key is stored, `Clean(stored)` for every stored entry whose key is not in the
    input; the iterator may fail anywhere else), the DBI is sorted with stored keys of 1..511 bytes,
    and the input keys have 1..511 bytes and are strictly increasing in the DBI's order, then
    `IterUpdate` succeeds (no `hang`, `panic`, `notSorted`, `badKey`) with exactly the content
    `specIterUpdate` computes (both key orders), which is sorted and reads pointwise:
    an input entry's key holds its merge decision on the stored value (empty/nil = removed);
    a stored key not in the input holds its clean decision (`none` = removed, `some []` = stored
    empty); every other key is absent. -/
theorem C19_iterupdate (ik : Bool) (it : Iter E ε) (mg : E → Bytes → Option Bytes) (cl : Bytes → Option Bytes)
    (db : KVs) (d : Bool) (input : List E)
    (hL : LocalTotal ik it mg cl input db)
    (hs : sortedKeys ik (input.map it.key) = true)
    (hk : ∀ e ∈ input, (it.key e).length ≠ 0 ∧ (it.key e).length ≤ 511)
    (hD : Sorted ik db) (hDK : ∀ p ∈ db, badKey p.1 = false) :
    ∃ db' d', iterUpdate ik it ⟨db, d⟩ input = .ok ⟨db', d'⟩ ∧
      specIterUpdate ik it db input = .ok db' ∧
      Sorted ik db' ∧
      (∀ e ∈ input, get ik db' (it.key e) = setNew (mg e ((get ik db (it.key e)).getD []))) ∧
      (∀ k v, inInput ik it input k = false → get ik db k = some v → get ik db' k = cl v) ∧
      (∀ k, inInput ik it input k = false → get ik db k = none → get ik db' k = none) := by
  have hS := (isorted_iff ik it input).mpr hs
  obtain ⟨d', h1, h2⟩ := iterUpdate_main db d input hL hS hk hD hDK
  refine ⟨_, d', h1, h2, sorted_joinOut mg cl input db hS hD, ?_, ?_, ?_⟩
  · intro e he
    rw [get_joinOut mg cl (it.key e) input db hS hD, lookupI_of_mem hS he]
  · intro k v hin hg
    rw [get_joinOut mg cl k input db hS hD, lookupI_none_of_inInput hin, hg]; rfl
  · intro k hin hg
    rw [get_joinOut mg cl k input db hS hD, lookupI_none_of_inInput hin, hg]; rfl

/-- For ANY iterator (decisions may fail): whenever `IterUpdate` succeeds (sorted input, valid
    keys, sorted DBI with valid stored keys), every decision it consulted succeeded and its result
    is exactly the content `specIterUpdate` computes. Together with `C19_iterupdate_errors`:
    IterUpdate returns an iterator error, or exactly the specified content. -/
theorem C19_iterupdate_ok (ik : Bool) (it : Iter E ε) (db : KVs) (d : Bool) (input : List E) (s' : S)
    (hs : sortedKeys ik (input.map it.key) = true)
    (hk : ∀ e ∈ input, (it.key e).length ≠ 0 ∧ (it.key e).length ≤ 511)
    (hD : Sorted ik db) (hDK : ∀ p ∈ db, badKey p.1 = false)
    (h : iterUpdate ik it ⟨db, d⟩ input = .ok s') :
    specIterUpdate ik it db input = .ok s'.db ∧ Sorted ik s'.db ∧
    LocalTotal ik it (mgOf it) (clOf it) input db := by
  have hS := (isorted_iff ik it input).mpr hs
  have hL := localTotal_of_ok db d input s' hS hk hD h
  obtain ⟨d', h1, h2⟩ := iterUpdate_main db d input hL hS hk hD hDK
  rw [h1] at h
  cases h
  exact ⟨h2, sorted_joinOut _ _ input db hS hD, hL⟩

/-- The dirty bit of `IterUpdate` is sound: a successful run either changed nothing at all (same
    content, same dirty bit) or left the dirty bit set. -/
theorem C19_iterupdate_dirty (ik : Bool) (it : Iter E ε) (s s' : S) (input : List E)
    (hs : sortedKeys ik (input.map it.key) = true)
    (hk : ∀ e ∈ input, (it.key e).length ≠ 0 ∧ (it.key e).length ≤ 511)
    (h : iterUpdate ik it s input = .ok s') : s' = s ∨ s'.dirty = true := by
  rw [iterUpdate_plan ik it s input ((isorted_iff ik it input).mpr hs) hk] at h
  exact runPlan_same_or_dirty _ s s' h

/-- The same for an iterator whose decisions never fail, in terms of the iterator itself:
    for `e` in the input, `get db' (key e) = setNew r` where `Merge(e, stored or nil) = r`; for a
    stored `(k, v)` with `k` not in the input, `get db' k = r` where `Clean(v) = r`. -/
theorem C19_iterupdate_total (ik : Bool) (it : Iter E ε) (db : KVs) (d : Bool) (input : List E)
    (hm : ∀ e o, ∃ r, it.merge e o = .ok r) (hc : ∀ v, ∃ r, it.clean v = .ok r)
    (hs : sortedKeys ik (input.map it.key) = true)
    (hk : ∀ e ∈ input, (it.key e).length ≠ 0 ∧ (it.key e).length ≤ 511)
    (hD : Sorted ik db) (hDK : ∀ p ∈ db, badKey p.1 = false) :
    ∃ db' d', iterUpdate ik it ⟨db, d⟩ input = .ok ⟨db', d'⟩ ∧
      specIterUpdate ik it db input = .ok db' ∧
      Sorted ik db' ∧
      (∀ e ∈ input, ∃ r, it.merge e ((get ik db (it.key e)).getD []) = .ok r ∧
        get ik db' (it.key e) = setNew r) ∧
      (∀ k v, inInput ik it input k = false → get ik db k = some v →
        ∃ r, it.clean v = .ok r ∧ get ik db' k = r) ∧
      (∀ k, inInput ik it input k = false → get ik db k = none → get ik db' k = none) := by
  have T := total_of_nofail it hm hc
  obtain ⟨db', d', h1, h2, h3, h4, h5, h6⟩ :=
    C19_iterupdate ik it (mgOf it) (clOf it) db d input (T.local input db) hs hk hD hDK
  exact ⟨db', d', h1, h2, h3, fun e he => ⟨_, T.merge e _, h4 e he⟩,
    fun k v hin hg => ⟨_, T.clean v, h5 k v hin hg⟩, h6⟩

/-- Unsorted input is refused: if the input keys (1..511 bytes) are NOT strictly increasing in the
    DBI's order, the decisions do not fail and the stored keys are valid, `IterUpdate` returns
    `ErrNotSorted` (whatever was applied before the offending key is discarded with the
    transaction). -/
theorem C19_iterupdate_unsorted (ik : Bool) (it : Iter E ε) (db : KVs) (d : Bool) (input : List E)
    (hm : ∀ e o, ∃ r, it.merge e o = .ok r) (hc : ∀ v, ∃ r, it.clean v = .ok r)
    (hs : sortedKeys ik (input.map it.key) = false)
    (hk : ∀ e ∈ input, (it.key e).length ≠ 0 ∧ (it.key e).length ≤ 511)
    (hDK : ∀ p ∈ db, badKey p.1 = false) :
    iterUpdate ik it ⟨db, d⟩ input = .error .notSorted :=
  iterUpdate_unsorted (total_of_nofail it hm hc) ⟨db, d⟩ input hk hDK
    (fun h => by rw [(isorted_iff ik it input).mp h] at hs; cases hs)

/-- A no-op IterUpdate writes nothing: if for every input entry whose key is stored (with a
    non-empty value `v`) the merge decision is `v` itself and the preliminary `Merge(nil)` call
    does not fail, for every input entry whose key is absent the decision is nil or empty, and
    every clean decision (stored keys not in the input) is the stored value, then the result is
    the same content with the dirty bit unchanged — no LMDB write happened. -/
theorem C19_iterupdate_noop (ik : Bool) (it : Iter E ε) (db : KVs) (d : Bool) (input : List E)
    (hs : sortedKeys ik (input.map it.key) = true)
    (hk : ∀ e ∈ input, (it.key e).length ≠ 0 ∧ (it.key e).length ≤ 511)
    (hD : Sorted ik db)
    (hM : ∀ e ∈ input,
      match get ik db (it.key e) with
      | some dv => dv ≠ [] ∧ it.merge e dv = .ok (some dv) ∧ ∃ r, it.merge e [] = .ok r
      | none => ∃ r, it.merge e [] = .ok r ∧ setNew r = none)
    (hC : ∀ p ∈ db, inInput ik it input p.1 = false → it.clean p.2 = .ok (some p.2)) :
    iterUpdate ik it ⟨db, d⟩ input = .ok ⟨db, d⟩ :=
  iterUpdate_noop db d input ((isorted_iff ik it input).mpr hs) hk hD hM hC

/-! ## 5. strategy.EmptyPut -/

/-- `strategy.EmptyPut` on an ordinary DBI: the result does not depend on the previous content,
    it is always dirty (the drop is recorded), and it is exactly the input's non-empty decisions
    on an empty DBI (`specEmptyPut`), or the iterator's first error; the only other outcome is
    LMDB's refusal of an empty or too long input key. -/
theorem C19_emptyput (ik : Bool) (it : Iter E ε) (s : S) (input : List E) :
    (emptyPut ik false it s input = .error .badKey ∧ ∃ e ∈ input, badKey (it.key e) = true) ∨
    emptyPut ik false it s input =
      match specEmptyPut ik it input with
      | .ok db' => .ok ⟨db', true⟩
      | .error x => .error (.iter x) := by
  rw [specEmptyPut_eq_fold]
  exact doPutEmpty_spec it input []

/-- `strategy.EmptyPut` with input keys of 1..511 bytes: LMDB's refusal cannot happen, the result is
    exactly `specEmptyPut` or the iterator's first error. -/
theorem C19_emptyput_valid (ik : Bool) (it : Iter E ε) (s : S) (input : List E)
    (hk : ∀ e ∈ input, badKey (it.key e) = false) :
    emptyPut ik false it s input =
      match specEmptyPut ik it input with
      | .ok db' => .ok ⟨db', true⟩
      | .error x => .error (.iter x) := by
  rcases C19_emptyput ik it s input with ⟨_, e, he, hb⟩ | h
  · rw [hk e he] at hb; cases hb
  · exact h

/-! ## 6. the hypotheses are satisfiable: a concrete instance -/

/-- entries are (key, value); the decision is the entry's value (empty = delete), except that a
    stored value starting with 0xff is kept; clean removes stored values starting with 0x00 -/
def exIt : Iter (Bytes × Bytes) Unit :=
  { key := Prod.fst
    merge := fun e old => if old.head? = some 0xff then .ok (some old) else .ok (some e.2)
    clean := fun v => if v.head? = some 0 then .ok none else .ok (some v) }

def exDb : KVs := [([1], [0x10]), ([3], [0]), ([4], [0xff, 1]), ([5, 0], [0x50])]
def exInput : List (Bytes × Bytes) := [([1], [0x11]), ([2], [0x22]), ([4], [0x44]), ([4, 0], [])]

example : Sorted false exDb := by decide
example : ∀ p ∈ exDb, badKey p.1 = false := by decide
example : sortedKeys false (exInput.map exIt.key) = true := by decide
example : ∀ e ∈ exInput, (exIt.key e).length ≠ 0 ∧ (exIt.key e).length ≤ 511 := by decide
example : ∀ e o, ∃ r, exIt.merge e o = .ok r := by
  intro e o; unfold exIt; dsimp only; split <;> exact ⟨_, rfl⟩
example : ∀ v, ∃ r, exIt.clean v = .ok r := by
  intro v; unfold exIt; dsimp only; split <;> exact ⟨_, rfl⟩

/-- IterUpdate on the instance: [1] overwritten, [2] inserted, [3] cleaned away, [4] kept (no write),
    [4,0] not inserted (empty decision), [5,0] kept by clean -/
example : iterUpdate false exIt ⟨exDb, false⟩ exInput
    = .ok ⟨[([1], [0x11]), ([2], [0x22]), ([4], [0xff, 1]), ([5, 0], [0x50])], true⟩ := rfl
example : specIterUpdate false exIt exDb exInput
    = .ok [([1], [0x11]), ([2], [0x22]), ([4], [0xff, 1]), ([5, 0], [0x50])] := rfl

/-- Update on the same instance (any order, here with a duplicate key) -/
example : update false exIt ⟨exDb, false⟩ (([2], [0x23]) :: exInput)
    = .ok ⟨[([1], [0x11]), ([2], [0x22]), ([3], [0]), ([4], [0xff, 1]), ([5, 0], [0x50])], true⟩ := rfl
example : specUpdate false exIt exDb (([2], [0x23]) :: exInput)
    = .ok [([1], [0x11]), ([2], [0x22]), ([3], [0]), ([4], [0xff, 1]), ([5, 0], [0x50])] := rfl

/-- an unsorted input is refused -/
example : iterUpdate false exIt ⟨exDb, false⟩ [([2], [1]), ([1], [1])] = .error .notSorted := rfl

/-- integer keys: 4-byte little-endian keys 256 < 1·2^24 although byte-wise [0,1,0,0] < [0,0,0,1] fails -/
example : Sorted true [([0, 1, 0, 0], [1]), ([0, 0, 0, 1], [2])] ∧ ¬ Sorted false [([0, 1, 0, 0], [1]), ([0, 0, 0, 1], [2])] := by
  decide

end Ls.C19
