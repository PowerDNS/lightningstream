import LsLemmas.TxnAbs
/-
  C01 (refinement) — the byte-level transactions of a NATIVE schema (`schema_tracks_changes`)
  refine the steps of the abstract fleet of LsLemmas/AbsFleet.lean, on which C01 (LsProps/C01.lean)
  is stated.
  Model: LsModel/Txn.lean (`sendOnce`, `loadOnce`, `appTxn`), following /repo/syncer/send.go
  SendOnce, /repo/syncer/sync.go LoadOnce, /repo/syncer/iterators.go NativeIterator.Merge,
  /repo/lmdbenv/strategy/update.go. The abstraction functions, the (decidable) well-formedness
  predicates, the byte-level fleet and the lemmas are in LsLemmas/TxnAbs.lean, which rests on the
  lemmas behind C02_merge_is_join (`mergeStore_join`), C19_update_pointwise (`specUpdate_get`),
  C06_complete (`sendOnce_ok_iff`) and C18 (`loadOnce_ok`, `mergeDbi_ok`, `loadFold_sorted`).

  Not needed as hypotheses, because the theorems about `loadOnce` assume that it succeeded: the
  version gate, `validateTransform`, sortedness of the entries of a message (`strategy.Update`
  does not need it; `C18_gates` states that the gates were passed).
  The stale-deletion cut-off is 0 throughout: with a cut-off, the refusal of stale markers on
  absent keys is the documented exception (finding D12, `C02_stale_order_dependent_witness`).
-/
namespace Ls.C01
open Ls Ls.Lmdb Ls.Txn
open Ls.Merge (KV norm maskedFlags decodeS EntryWF)

/-- **What `absEnv` is.** For a private DBI name, a name that is not a DBI of the environment, or
    a key LMDB does not find in the DBI (in the DBI's own key order), the logical content is
    `none`; if LMDB finds the stored value `b` and `b` parses (`decodeS b = .ok (some v)`: header
    timestamp, deleted flag, application value), the logical content is `some v`. In a well-formed
    environment every stored pair `(k, b)` of a non-private DBI is found under its key, so its
    content is the `some v` with `decodeS b = .ok (some v)`, and `v` is well-formed. -/
theorem C01_absEnv_spec (e : Env) (name k : Bytes) :
    (isPrivate name = true → absEnv e (name, k) = none) ∧
    (findDbi e.dbis name = none → absEnv e (name, k) = none) ∧
    (∀ d, isPrivate name = false → findDbi e.dbis name = some d →
      (get (isIntKey d.flags) d.kvs k = none → absEnv e (name, k) = none) ∧
      (∀ b v, get (isIntKey d.flags) d.kvs k = some b → decodeS b = .ok (some v) →
        absEnv e (name, k) = some v) ∧
      (EnvWF e → ∀ b, (k, b) ∈ d.kvs →
        ∃ v, decodeS b = .ok (some v) ∧ v.WF ∧ absEnv e (name, k) = some v)) := by
  refine ⟨fun hp => absDbis_private hp k, fun hf => absDbis_of_none hf k, fun d hp hf => ?_⟩
  have habs : absEnv e (name, k) = decodeO (get (isIntKey d.flags) d.kvs k) := absDbis_of_find hp hf k
  refine ⟨fun hg => by rw [habs, hg]; rfl, fun b v hg hd => by rw [habs, hg, decodeO_some hd],
    fun hwf b hmem => ?_⟩
  have hdw : DbiWF d := dbisOk_of_mem hwf.2 name d hf hp
  obtain ⟨v, hd, hw⟩ := storedWF_iff.mp (hdw.2 _ hmem).2
  exact ⟨v, hd, hw, by rw [habs, get_of_mem hdw.1 hmem, decodeO_some hd]⟩

/-- **What `absSnap` is.** For a private name or a name without message the content is `none`.
    For the (first) message `m` with the name, if its keys are strictly increasing in the order
    its flags announce (`MsgSorted`), the content at an entry's key is that entry's normal form, and
    the content at a key without entry is `none`. For a format version ≥ 2 the normal form of an
    entry is (its timestamp, its deleted flag, its value — or no value if deleted). -/
theorem C01_absSnap_spec (s : Snap) (name : Bytes) :
    (isPrivate name = true → ∀ k, absSnap s (name, k) = none) ∧
    ((∀ m ∈ s.dbs, m.name ≠ name) → ∀ k, absSnap s (name, k) = none) ∧
    (∀ m, isPrivate name = false → s.dbs.find? (fun m => m.name = name) = some m → MsgSorted m →
      (∀ x ∈ m.entries, absSnap s (name, x.key) = some (norm (normCfg s.fv) x)) ∧
      (∀ k, (∀ x ∈ m.entries, kcmp (isIntKey m.flags) x.key k ≠ 0) → absSnap s (name, k) = none)) ∧
    (2 ≤ s.fv → ∀ x : KV, norm (normCfg s.fv) x =
      { ts := x.ts, del := Header.isDeleted (maskedFlags x),
        val := if Header.isDeleted (maskedFlags x) then [] else x.val }) := by
  refine ⟨fun hp k => absMsgs_private hp k, fun hno k => absMsgs_none (key := (name, k)) hno,
    fun m hp hf hs => ?_, fun hfv x => ?_⟩
  · obtain ⟨h1, h2⟩ := absMsg_of_sorted s.fv m hs
    exact ⟨fun x hx => (absMsgs_of_find hp hf x.key).trans (h1 x hx),
      fun k hk => (absMsgs_of_find hp hf k).trans (h2 k hk)⟩
  · have hlt : ¬ s.fv < 2 := by omega
    have hts : (if x.ts = 0 then 0 else x.ts) = x.ts := by split <;> simp_all
    simp only [norm, Merge.entryDeleted, normCfg, hlt, decide_false, Bool.and_false, Bool.or_false, hts]

/-- **The logical content is well-formed** (deleted ⇒ no value) — the standing assumption
    `FleetWF` of the abstract fleet: for every well-formed environment, and for every snapshot. -/
theorem C01_abs_wf (e : Env) (s : Snap) (hwf : EnvWF e) : (absEnv e).WF ∧ (absSnap s).WF :=
  ⟨absEnv_wf hwf, absSnap_wf s⟩

/-- **A native `sendOnce` publishes exactly the logical content of the environment and changes
    nothing.** If `sendOnce` succeeds on a well-formed environment with a native schema (not
    receive-only), then the logical content of the snapshot is the logical content of the
    environment (as functions, for every DBI name and key), the environment afterwards is the
    environment before (so its content is unchanged), and the snapshot can be loaded: it is
    `SnapOk` (distinct names, none private, entries well-formed), every message carries the flags
    of the DBI it was dumped from, and so it is `SnapWF` for this very environment. -/
theorem C01_send_refines_native (c : Cfg) (e : Env) (now cutoff : Nat) (r : SendRes)
    (hn : c.native = true) (hro : c.receiveOnly = false) (hwf : EnvWF e)
    (h : sendOnce c e now cutoff = .ok r) :
    absSnap r.snap = absEnv e ∧ absEnv r.env = absEnv e ∧ r.env = e ∧
    SnapOk r.snap ∧
    (∀ m ∈ r.snap.dbs, isPrivate m.name = false ∧
      ∃ d, findDbi e.dbis m.name = some d ∧ m.flags = d.flags) ∧
    SnapWF c e r.snap := by
  obtain ⟨henv, habs, hnd, hms⟩ := sendOnce_abs c e now cutoff r hn hro hwf h
  have hok : SnapOk r.snap := ⟨hnd, fun m hm _ => (hms m hm).2.1⟩
  refine ⟨funext habs, by rw [henv], henv, hok, fun m hm => ⟨(hms m hm).1, (hms m hm).2.2⟩, hok,
    fun m hm _ => ?_⟩
  obtain ⟨_, _, d, hd, hf⟩ := hms m hm
  unfold FlagsOk
  rw [hd, hf]; rfl

/-- **A native `loadOnce` (stale-deletion cut-off 0) is the pointwise join.** If `loadOnce`
    succeeds on a well-formed environment `e` (`EnvWF`) whose next transaction id is a uint64
    (`e.lastTxn + 1 < 2^64`) with a snapshot that is well-formed relative to `e` (`SnapWF`: distinct
    message names; entries of non-private messages `EntryWF` with uint64 timestamps and keys of
    1..511 bytes; every target DBI — existing, or created by this very load with `createFlags` —
    has the integer-key flag the message announces), then for every DBI name and key the logical
    content afterwards is the last-writer-wins join of the content before with the snapshot's
    content — the `load` step of the abstract fleet — and the new environment is well-formed
    again, so the statement composes along a run. DBIs missing in `e` are created (this is the
    general statement, not only the one for existing DBIs); any format version the gate accepts
    (the normal form `Merge.norm` depends on it: below version 2 an empty value is a deletion);
    private messages in the snapshot are ignored on both sides; the entries of a message need not
    be sorted, and a key may occur several times. -/
theorem C01_load_refines_native (c : Cfg) (e : Env) (snap : Snap) (lastSynced now : Nat)
    (r : LoadRes) (hn : c.native = true) (hT : e.lastTxn + 1 < two64) (hwf : EnvWF e)
    (hsw : SnapWF c e snap) (h : loadOnce c e snap lastSynced now 0 = .ok r) :
    (∀ key, absEnv r.env key = (absEnv e).join (absSnap snap) key) ∧ EnvWF r.env := by
  obtain ⟨h1, h2⟩ := loadOnce_abs c e snap lastSynced now r hn hT hwf hsw h
  exact ⟨h2, h1⟩

/-- the same as an equation between abstract databases -/
theorem C01_load_refines_native_eq (c : Cfg) (e : Env) (snap : Snap) (lastSynced now : Nat)
    (r : LoadRes) (hn : c.native = true) (hT : e.lastTxn + 1 < two64) (hwf : EnvWF e)
    (hsw : SnapWF c e snap) (h : loadOnce c e snap lastSynced now 0 = .ok r) :
    absEnv r.env = (absEnv e).join (absSnap snap) :=
  funext (C01_load_refines_native c e snap lastSynced now r hn hT hwf hsw h).1

/-- **DBI creation.** In the situation of `C01_load_refines_native`, a DBI named in the snapshot
    that does not exist in `e` (it is created by the load, with `createFlags`, see
    `C18_create_rules`) — more generally any DBI name without logical content in `e` — holds
    afterwards exactly the snapshot's content for that name. -/
theorem C01_load_refines_native_create (c : Cfg) (e : Env) (snap : Snap) (lastSynced now : Nat)
    (r : LoadRes) (hn : c.native = true) (hT : e.lastTxn + 1 < two64) (hwf : EnvWF e)
    (hsw : SnapWF c e snap) (h : loadOnce c e snap lastSynced now 0 = .ok r)
    (name : Bytes) (hmiss : findDbi e.dbis name = none) :
    ∀ k, absEnv r.env (name, k) = absSnap snap (name, k) := by
  intro k
  rw [(C01_load_refines_native c e snap lastSynced now r hn hT hwf hsw h).1]
  have : absEnv e (name, k) = none := (C01_absEnv_spec e name k).2.1 hmiss
  simp only [Abs.DB.join, this, join_none_left]

/-- **Application write.** An application transaction that puts one stored value (header +
    application value, `StoredWF`: it parses, deleted ⇒ no value) under a key of 1..511 bytes into
    an existing, non-private DBI with byte-wise key order and without duplicate keys is committed,
    keeps the environment well-formed and overwrites exactly that key's logical content: the
    `write` step of the abstract fleet. (On an integer-key DBI a put affects every key that is
    equal as an integer, which the abstract `write` of one key does not express.) -/
theorem C01_write_refines_native (e : Env) (name k val : Bytes) (d : Dbi)
    (hwf : EnvWF e) (hd : findDbi e.dbis name = some d) (hp : isPrivate name = false)
    (hdup : isDupSort d.flags = false) (hik : isIntKey d.flags = false)
    (hk : badKey k = false) (hv : StoredWF val) :
    ∃ e', appTxn e [.put name k val] = some e' ∧ EnvWF e' ∧
      absEnv e' = Abs.upd (absEnv e) (name, k) (verOf val) ∧
      decodeS val = .ok (some (verOf val)) ∧ (verOf val).WF := by
  obtain ⟨e', h1, h2, h3⟩ := appPut_abs e name k val d hwf hd hp hdup hik hk hv
  exact ⟨e', h1, h2, h3, verOf_spec hv⟩

/-- **Every byte-level run of a native fleet is a run of the abstract fleet.** A byte-level fleet
    (`BFleet`) is `n` environments and a bucket of snapshots; a step (`BStep`) is an application
    transaction putting one stored value, a `sendOnce` whose snapshot is appended to the bucket,
    or a `loadOnce` (cut-off 0) of any snapshot of the bucket; a failing transaction leaves
    everything as it was (`bstep`). Let the configuration be native and not receive-only, all
    environments and all snapshots of the bucket well-formed at the start (`BInv`), and let every
    step satisfy its side condition in the state it is applied to (`RunOk`/`StepOk`: a write puts a
    well-formed stored value into an existing non-private, byte-ordered, non-duplicate DBI, and its
    version does not lose against what is stored; a load happens below transaction id 2^64 and
    the messages have the key order of their target DBIs; nothing is assumed about success).
    Then the abstraction (`absFleet`: `absEnv` of every environment, `absSnap` of every snapshot)
    of the final state is the state the abstract fleet reaches from the abstraction of the
    initial state by the abstract schedule `absRun` — the abstract steps of those byte-level steps
    that took place, in order —; the invariant holds again; and the abstract schedule is one the
    theorems of LsProps/C01.lean apply to: the written versions are well-formed (`StepsWF`) and no
    write loses against what its instance holds (`MonotoneFrom`), the abstract fleet is
    well-formed (`FleetWF`). -/
theorem C01_native_run_refines (c : Cfg) (hn : c.native = true) (hro : c.receiveOnly = false)
    (steps : List BStep) (f : BFleet) (hinv : BInv f) (hok : RunOk c f steps) :
    absFleet (brun c f steps) = Abs.run (absFleet f) (absRun c f steps) ∧
    BInv (brun c f steps) ∧
    Abs.StepsWF (absRun c f steps) ∧ Abs.MonotoneFrom (absFleet f) (absRun c f steps) ∧
    Abs.FleetWF (absFleet f) := by
  obtain ⟨h1, h2, h3, h4, _⟩ := Abs.run_refines (step := bstep c) (abs := absFleet)
    (one := fun f s => if (bstepD c f s).2 then [absStep s] else []) (Inv := BInv) (ok := StepOk c)
    (Q := fun _ _ => True)
    (hstep := fun f s hinv hs =>
      let ⟨a, b, c', d⟩ := bstep_refines c hn hro f s hinv hs; ⟨a, b, c', d, trivial⟩)
    (sched := absRun c) (hs0 := fun _ => rfl) (hs1 := fun _ _ _ => rfl)
    (Ok := RunOk c) (hok := fun _ _ _ h => h)
    (AllQ := fun _ _ => True) (hq0 := fun _ => trivial) (hq1 := fun _ _ _ _ _ => trivial)
    steps f hinv hok
  exact ⟨h1, h2, h3, h4, absFleet_wf hinv⟩

namespace Example

/-- a 24-byte header: timestamp `ts`, local transaction id 42, flags `fl`, no extension block -/
def hdr (ts fl : UInt8) : Bytes :=
  [0, 0, 0, 0, 0, 0, 0, ts] ++ [0, 0, 0, 0, 0, 0, 0, 42] ++ [0, fl, 0, 0, 0, 0, 0, 0]

def cfg : Cfg := { native := true, hack := false, pad := false, receiveOnly := false, override := [] }

def app : Bytes := strBytes "app"
def new : Bytes := strBytes "new"

/-- a native environment: DBI `app` with key `[1]` (timestamp 5, value "A") and key `[2]`
    (timestamp 6, value "B"), and a private DBI whose content has no header at all -/
def env : Env :=
  { dbis := [
      { name := strBytes "_sync_meta", flags := 0, kvs := [([1], [9, 9, 9])] },
      { name := app, flags := 0, kvs := [([1], hdr 5 0 ++ [65]), ([2], hdr 6 0 ++ [66])] } ],
    lastTxn := 7 }

/-- a version-3 snapshot: for `app` a newer version of `[1]` (timestamp 9, "X"), an older version
    of `[2]` (timestamp 4, "Y") and the new key `[3]` (a deletion marker, timestamp 8); and a
    message for the DBI `new`, which does not exist yet -/
def snap : Snap :=
  { fv := 3, cv := 1, dbs := [
      { name := app, flags := 0, transform := [], entries := [
          { key := [1], val := [88], ts := 9, flags := 0 },
          { key := [2], val := [89], ts := 4, flags := 0 },
          { key := [3], val := [], ts := 8, flags := 1 } ] },
      { name := new, flags := 0, transform := [], entries := [
          { key := [7], val := [90], ts := 3, flags := 0 } ] } ] }

def keys : List Abs.Key := [(app, [1]), (app, [2]), (app, [3]), (app, [4]), (new, [7])]

/-- the hypotheses of `C01_load_refines_native` hold -/
example : cfg.native = true ∧ env.lastTxn + 1 < two64 ∧ EnvWF env ∧ SnapWF cfg env snap := by
  decide +kernel

/-- the content before, and the snapshot's content -/
example :
    keys.map (absEnv env) =
      [some ⟨5, false, [65]⟩, some ⟨6, false, [66]⟩, none, none, none] ∧
    keys.map (absSnap snap) =
      [some ⟨9, false, [88]⟩, some ⟨4, false, [89]⟩, some ⟨8, true, []⟩, none, some ⟨3, false, [90]⟩] := by
  decide +kernel

/-- `loadOnce` succeeds, and both sides of `C01_load_refines_native` at those keys: the newer
    version replaces, the older one loses, the new key and the new DBI appear -/
example :
    ((loadOnce cfg env snap 7 0 0).toOption.map fun r => keys.map (absEnv r.env)) =
      some [some ⟨9, false, [88]⟩, some ⟨6, false, [66]⟩, some ⟨8, true, []⟩, none, some ⟨3, false, [90]⟩] ∧
    keys.map ((absEnv env).join (absSnap snap)) =
      [some ⟨9, false, [88]⟩, some ⟨6, false, [66]⟩, some ⟨8, true, []⟩, none, some ⟨3, false, [90]⟩] ∧
    ((loadOnce cfg env snap 7 0 0).toOption.map fun r => decide (EnvWF r.env)) = some true := by
  decide +kernel

/-- `sendOnce` on that environment: the hypotheses of `C01_send_refines_native` hold and the
    snapshot's content is the environment's -/
example :
    cfg.receiveOnly = false ∧
    ((sendOnce cfg env 0 0).toOption.map fun r => (keys.map (absSnap r.snap), decide (SnapOk r.snap))) =
      some (keys.map (absEnv env), true) := by
  decide +kernel

/-- a two-instance fleet: instance 0 holds `env`, instance 1 is empty -/
def fleet : BFleet :=
  { n := 2, env := fun i => if i = 0 then env else { dbis := [], lastTxn := 0 }, bucket := [] }

def steps : List BStep := [.send 0 0 0, .load 1 0 0 0]

/-- the hypotheses of `C01_native_run_refines` hold for: instance 0 sends, instance 1 loads -/
example : BInv fleet ∧ RunOk cfg fleet steps := by
  refine ⟨⟨?_, fun p hp => by cases hp⟩, trivial, ⟨by decide +kernel, ?_⟩, trivial⟩
  · intro i
    by_cases hi : i = 0
    · subst hi; exact (by decide +kernel : EnvWF env)
    · simp only [fleet, hi, if_false]; decide +kernel
  · change ∀ p ∈ (_ : Option (Nat × Snap)), _
    decide +kernel

/-- … and afterwards instance 1 holds what instance 0 holds -/
example : keys.map (absEnv ((brun cfg fleet steps).env 1)) = keys.map (absEnv env) := by
  decide +kernel

end Example

end Ls.C01
