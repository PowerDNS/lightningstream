import LsLemmas.LoopWitness
import LsProps.C11
import LsLemmas.TxnMirrorNoop
/-
  C03 — A committed local application write is never destroyed by syncing.

  Over the sync-loop model (`LsModel/SyncLoop.lean`) with application transactions at every yield
  point. The full-strength statement is FALSE of the model and of the code (finding D9,
  `C03_race_witness`, replayed on the real loop through the yield hooks); what is proved for ALL
  schedules, of any length, is the `_partial` form: the invariant I1 for every schedule in which
  no recorded application transaction commits inside the race window `Racy`:

    the loop is at the yield point directly after a `LoadOnce` transaction that saw no local
    change (`Pc.loadAfterTxn txnID false …`) or directly after `SendOnce`'s transaction
    (`Pc.sendAfterTxn _ txnID …`), and that transaction turned out empty
    (`env.lastTxn < txnID`: LMDB did not record it and hands its id to the next writer).

  Ghost bookkeeping (`LsLemmas/LoopGhost.lean`, never read by the model): `uncap` = ids of the
  recorded application transactions since the last capture (a `LoadOnce` with `localChanged`, or
  `SendOnce`'s transaction; in native mode the ids since the last of these events).
-/
namespace Ls.C03
open Ls Ls.Lmdb Ls.Strategy Ls.Txn Ls.SyncLoop Ls.Loop

/-- **I1 holds after every race-free schedule** — any instance configuration, any start
    environment, any bucket, any list of events (loop segments with arbitrary receiver answers,
    store failures and clock readings; application transactions; listings; other instances'
    stores), of any length, provided no recorded application transaction commits inside the
    window `Racy` (see the head of this file). The excluded window is exactly the one of finding
    D9; `C03_race_witness` shows that I1 — and the application's write — is lost inside it. -/
theorem C03_I1_partial (c : LoopCfg) (env : Env) (b : Bucket) (evs : List Ev)
    (hrf : RaceFree c env b evs) : I1 (run c env b evs) :=
  i1_of_inv (inv0_run c env b evs) (inv1_run hrf)

/-- The same for the window in the wording of finding D9 (the yield point after ANY empty `LoadOnce`
    or `SendOnce` transaction): avoiding the wider window avoids the exact one. The exact window is
    smaller: after a `LoadOnce` that did see a local change the loop leaves `lastSynced` alone, so
    an application transaction reusing the id does no harm. -/
theorem C03_I1_partial_wide (c : LoopCfg) (env : Env) (b : Bucket) (evs : List Ev)
    (hrf : RaceFreeWide c env b evs) : I1 (run c env b evs) :=
  C03_I1_partial c env b evs hrf.raceFree

/-- I1 is an invariant: it holds at every point of a race-free schedule, not only at its end. -/
theorem C03_I1_prefix (c : LoopCfg) (env : Env) (b : Bucket) (evs evs' : List Ev)
    (hrf : RaceFree c env b (evs ++ evs')) : I1 (run c env b evs) := by
  refine C03_I1_partial c env b evs ?_
  unfold RaceFree at hrf ⊢
  generalize G.init env b = g at hrf ⊢
  induction evs generalizing g with
  | nil => trivial
  | cons e es ih => exact ⟨hrf.1, ih _ hrf.2⟩

/-- **Capture before project.** After a race-free schedule, if an application transaction is
    uncaptured and the loop now polls (`prePoll`: from `top`, or from `loadAfterTxn` unless it
    breaks off), then it enters `LoadOnce` with `lastSynced < lastTxn`: every `loadOnce` it can run
    from here reports `localChanged = true` — so in shadow mode `mainToShadow` runs before the
    merge and before `shadowToMain` (`Txn.loadOnce`), and the yield point reached carries
    `localChanged = true`. -/
theorem C03_capture_before_project (c : LoopCfg) (env : Env) (b : Bucket) (evs : List Ev)
    (hrf : RaceFree c env b evs) (s1 : St) (n p : Nat)
    (hp : prePoll (run c env b evs).st = some (s1, n)) (hu : p ∈ (run c env b evs).gh.uncap) :
    s1.lastSynced < s1.env.lastTxn ∧
    (∀ i, goRaw c (run c env b evs).bucket (run c env b evs).st i =
      (poll c (run c env b evs).bucket s1 i n, (run c env b evs).bucket)) ∧
    (∀ snap now cutoff r, loadOnce c.txn s1.env snap s1.lastSynced now cutoff = .ok r →
      r.localChanged = true) := by
  obtain ⟨h1, h2⟩ := prePoll_local_change (inv0_run c env b evs) (inv1_run hrf) hp hu
  refine ⟨by omega, fun i => goRaw_prePoll hp, fun snap now cutoff r hl => ?_⟩
  rw [loadOnce_localChanged hl]
  simp; omega

/-- **The write survives the merge** (shadow mode; `C03_capture_before_project` discharging the
    local-change hypothesis of `C11_app_write_survives`). After a race-free schedule with an
    uncaptured application transaction, let the loop poll and load a snapshot `snap` at time
    `now`: if the application DBI `n` holds `k ↦ v` (`v ≠ []`; empty values are finding D7) and
    the shadow has no entry for `k` or an older, different one, then after the `LoadOnce` the
    application DBI still holds `k ↦ v` — unless the snapshot carries an entry for `k` that beats
    `(now, v)` last-writer-wins. The structural hypotheses are those of `C11_app_write_survives`
    (they are invariants of the transaction layer: `C11_step`, `C11_names_preserved`). -/
theorem C03_write_survives (c : LoopCfg) (env : Env) (b : Bucket) (evs : List Ev)
    (hrf : RaceFree c env b evs) (s1 : St) (n0 p : Nat)
    (hp : prePoll (run c env b evs).st = some (s1, n0)) (hu : p ∈ (run c env b evs).gh.uncap)
    (snap : Snap) (now cutoff : Nat) (r : LoadRes) (n : Bytes) (d : Dbi) (k v : Bytes)
    (hn : c.txn.native = false) (hdist : DistinctNames s1.env.dbis)
    (h : loadOnce c.txn s1.env snap s1.lastSynced now cutoff = .ok r)
    (hnow : now < two64) (htx : s1.env.lastTxn + 1 < two64)
    (hpn : isPrivate n = false) (hd : findDbi s1.env.dbis n = some d) (hnd : isDupSort d.flags = false)
    (hA : Sorted (isIntKey d.flags) d.kvs) (hAK : DKeysOK d.kvs)
    (hsh : ∀ sd, findDbi s1.env.dbis (shadowName n) = some sd →
      isIntKey sd.flags = isIntKey d.flags ∧ Sorted (isIntKey d.flags) sd.kvs ∧ DKeysOK sd.kvs)
    (hv : get (isIntKey d.flags) d.kvs k = some v) (hvne : v ≠ [])
    (hchg : (get (isIntKey d.flags) (shadowOf ⟨s1.env.dbis, false⟩ n d).kvs k).getD [] = [] ∨
      ∃ old hd a, get (isIntKey d.flags) (shadowOf ⟨s1.env.dbis, false⟩ n d).kvs k = some old ∧
        Header.parse old = .ok (hd, a) ∧ a ≠ v ∧ hd.ts < now)
    (hsnap : ∀ m ∈ snap.dbs, isPrivate m.name = false → m.name = n →
      ∀ en ∈ m.entries, kcmp (isIntKey d.flags) en.key k = 0 →
        Merge.keep (loadCfg c.txn snap (s1.env.lastTxn + 1) cutoff) en
          { ts := now, txn := s1.env.lastTxn + 1, version := 0, flags := 0, numExtra := 0, extra := [] } v) :
    ∃ d', findDbi r.env.dbis n = some d' ∧ get (isIntKey d.flags) d'.kvs k = some v :=
  have hloc := (C03_capture_before_project c env b evs hrf s1 n0 p hp hu).1
  let ⟨d', h1, h2, _⟩ := C11.C11_app_write_survives c.txn s1.env snap s1.lastSynced now cutoff r n d k v
    hn hdist h hloc hnow htx hpn hd hnd hA hAK hsh hv hvne hchg hsnap
  ⟨d', h1, h2⟩

/-! ## native schema -/

/-- the logical version behind a stored value with header `h` and application value `a` -/
def verOf (h : Header.Hdr) (a : Bytes) : Ver := { ts := h.ts, del := Header.isDeleted h.flags, val := a }

/-- **Native schema, one `LoadOnce`: never backwards, never lost.** If before a successful native
    `loadOnce` (cut-off 0, as the loop calls it) the DBI `name` stores for `key` a value that
    version `v` does not beat, then so it does afterwards: the key is still present, its value
    still parses, and `v` still does not beat it. (From `loadFold_native_mono`: the per-key fold of
    `Merge.merge` through `strategy.Update`.) -/
theorem C03_native_txn (c : Txn.Cfg) (e : Env) (snap : Snap) (ls now : Nat) (r : LoadRes)
    (hn : c.native = true) (hdist : DistinctNames e.dbis) (hts : TargetsSorted snap.dbs e.dbis)
    (hent : EntriesWF snap.dbs) (htx : e.lastTxn + 1 < two64)
    (h : loadOnce c e snap ls now 0 = .ok r)
    (name key : Bytes) (v : Ver) (hge : StoredGE e.dbis name key v) :
    StoredGE r.env.dbis name key v := by
  obtain ⟨w1, hf, henv, _, _⟩ := loadOnce_native_ok hn h
  obtain ⟨_, _, hmono, _, _⟩ :=
    loadFold_native_mono hn htx hent snap.dbs (fun _ hm => hm) hf hdist hts
  rw [henv]
  exact hmono name key v hge

/-- **Native schema: no segment of the loop destroys a committed write — irrespective of the
    transaction-id bookkeeping** (no hypothesis on `lastSynced`, on the schedule so far, or on the
    race window). For a native-schema instance in any state whose DBIs have distinct names, with
    every blob of the bucket well-formed (entries well-formed with 64-bit timestamps; the DBIs
    they name sorted): if DBI `name` stores `old` for `key`, with header `h` and value `a`, then
    after the segment — start-up, merge of any snapshot, `SendOnce`, anything — the key is still
    stored, with a parsable value whose version the old one does not beat: it is the same version
    or one that wins last-writer-wins against it (`C02_order_strict_total`). -/
theorem C03_native (c : LoopCfg) (hn : c.txn.native = true) (b : Bucket) (s : St) (i : In)
    (hdist : DistinctNames s.env.dbis) (htx : s.env.lastTxn + 1 < two64)
    (hb : ∀ blob ∈ b, TargetsSorted blob.snap.dbs s.env.dbis ∧ EntriesWF blob.snap.dbs)
    (name key : Bytes) (d : Dbi) (old : Bytes) (h : Header.Hdr) (a : Bytes)
    (hd : findDbi s.env.dbis name = some d) (hv : get (isIntKey d.flags) d.kvs key = some old)
    (hp : Header.parse old = .ok (h, a)) :
    ∃ d' old' h' a', findDbi (go c b s i).1.env.dbis name = some d' ∧
      get (isIntKey d'.flags) d'.kvs key = some old' ∧ Header.parse old' = .ok (h', a') ∧
      ¬ (verOf h a).beats (verOf h' a') := by
  have hge : StoredGE s.env.dbis name key (verOf h a) :=
    ⟨d, hd, old, h, a, hv, hp, Ver.beats_irrefl _⟩
  have hge' : StoredGE (go c b s i).1.env.dbis name key (verOf h a) := by
    rcases (go_seg c b s i Gh.init).env_native hn with he | ⟨blob, r, hmem, hl, he⟩
    · rw [he]; exact hge
    · rw [he]
      exact C03_native_txn c.txn s.env blob.snap (loadSynced s) i.now r hn hdist (hb blob hmem).1
        (hb blob hmem).2 htx hl name key _ hge
  obtain ⟨d', hd', old', h', a', hv', hp', hnb⟩ := hge'
  exact ⟨d', old', h', a', hd', hv', hp', hnb⟩

/-! ## the race (finding D9) -/

open Ls.Loop.Witness in
/-- **I1 is not inductive on the unchanged code: the race destroys a committed write.**
    Shadow-mode instance "a", empty LMDB, bucket with one snapshot of "b" (`schedC03`):
    after the application's transaction the DBI holds `[2] ↦ "B"`; the schedule is not race-free
    (the commit lands right after an empty `LoadOnce` transaction and is recorded with that
    transaction's id 2); the loop then has `lastSynced = 2 = lastTxn` with transaction 2
    uncaptured — I1 fails; and after the next merge of b's snapshot, which has no entry for `[2]`
    at all, the application DBI is `[1] ↦ "A"` only: the committed key is gone, beaten by nothing. -/
theorem C03_race_witness :
    appKvs (run cfgS env0 bkt (schedC03.take 4)) = some [([1], [65]), ([2], [66])] ∧
    RaceFree cfgS env0 bkt (schedC03.take 3) ∧ ¬ RaceFree cfgS env0 bkt (schedC03.take 4) ∧
    Racy (run cfgS env0 bkt (schedC03.take 3)).st ∧
    (run cfgS env0 bkt (schedC03.take 7)).st.pc = .top ∧
    (run cfgS env0 bkt (schedC03.take 7)).gh.uncap = [2] ∧
    (run cfgS env0 bkt (schedC03.take 7)).st.lastSynced = 2 ∧
    ¬ I1 (run cfgS env0 bkt (schedC03.take 7)) ∧
    appKvs (run cfgS env0 bkt schedC03) = some [([1], [65])] ∧
    snapB.dbs.all (fun m => m.entries.all (fun e => e.key != [2])) = true := by
  decide +kernel

open Ls.Loop.Witness in
/-- the same schedule on a native-schema instance destroys nothing (there is no projection from a
    shadow), see `C03_native`; what it loses is the upload (`C09_race_witness_native`) -/
theorem C03_race_native_harmless :
    (appKvs (run cfgN env0 bkt schedC03)).map (·.map (·.1)) = some [[1], [2]] := by decide +kernel

open Ls.Loop.Witness in
/-- the hypotheses of the `_partial` theorems are satisfiable: a race-free schedule with a recorded
    application transaction that is captured (`uncap` empty again) and survives -/
example : RaceFree cfgS env0 bkt schedOk ∧ (run cfgS env0 bkt schedOk).gh.allApp = [2] ∧
    (run cfgS env0 bkt schedOk).gh.uncap = [] ∧
    appKvs (run cfgS env0 bkt schedOk) = some [([1], [65]), ([2], [66])] := by
  decide +kernel

end Ls.C03
