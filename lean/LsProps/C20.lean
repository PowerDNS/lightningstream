import LsLemmas.DupSort
import LsLemmas.TxnMirrorDup
/-
  C20 — The dupsort hack maps duplicate-key data reversibly or refuses it.
  `C20_cycle` is about the transaction model LsModel/Txn.lean; its content is `dup_cycle_env` of
  LsLemmas/TxnMirrorDup.lean.
-/
namespace Ls.C20
open Ls Ls.Merge Ls.DupSort

/-- keys of 1..255 bytes: the pair is recovered exactly from its shadow key (the timestamp is
    not carried by the mapping; it is 0 on both sides of the mirror) -/
theorem C20_decode_encode (e : KV) (h1 : 1 ≤ e.key.length) (h2 : e.key.length ≤ 255) :
    ∃ r, encodeOne e = .ok r ∧
      decodeOne r = .ok { key := e.key, val := e.val, ts := 0, flags := e.flags } := by
  refine ⟨_, encodeOne_ok e h1 h2, ?_⟩
  exact decodeOne_encKey e.key e.val e.flags 0 h1 h2

/-- the shadow key always has a legal LMDB length -/
theorem C20_len (e r : KV) (h : encodeOne e = .ok r) : 6 ≤ r.key.length ∧ r.key.length ≤ 511 := by
  obtain ⟨hk, rfl⟩ := encodeOne_ok_inv h
  exact encKey_length e.key e.val hk.1 hk.2

/-- empty keys and keys longer than 255 bytes are refused -/
theorem C20_refuse (e : KV) (h : e.key.length = 0 ∨ 255 < e.key.length) :
    ∃ err, encodeOne e = .error err := encodeOne_refuse e h

/-- If the whole duplicate-keys content is accepted, every (key, value) pair got its own shadow
    key — the shadow keys are strictly increasing (hence pairwise distinct, and in the order of the
    original pairs) — and decoding gives back exactly the original list of pairs. Otherwise the
    content is refused with an error: never a silently altered list. -/
theorem C20_encode_all (l r : List KV) (h : encodeAll l = .ok r) :
    r.length = l.length ∧
    List.Pairwise (fun a b => bcmp a.key b.key < 0) r ∧
    decodeAll r = .ok (l.map fun e => { e with ts := 0 }) := by
  obtain ⟨h1, _, h3, h4, _⟩ := encodeAllAux_spec [] l r h
  exact ⟨h1, h3, h4⟩

/-- two pairs whose shadow keys would collide (values agreeing on the part that fits) are refused -/
theorem C20_collision_refused (a b : KV) (rest : List KV)
    (ha : 1 ≤ a.key.length ∧ a.key.length ≤ 255) (hb : 1 ≤ b.key.length ∧ b.key.length ≤ 255)
    (hcol : encKey a.key a.val = encKey b.key b.val) :
    ∃ err, encodeAll (a :: b :: rest) = .error err := by
  unfold encodeAll
  simp only [encodeAllAux, encodeOne_ok a ha.1 ha.2, encodeOne_ok b hb.1 hb.2]
  split
  · exact ⟨_, rfl⟩
  · split
    · exact ⟨_, rfl⟩
    · rw [hcol, if_pos (bcmp_eq.mpr rfl)]
      exact ⟨_, rfl⟩

/-- non-vacuity: two values under one key are accepted and mapped to increasing shadow keys -/
example : ∃ r, encodeAll
    [{ key := [1], val := [2], ts := 0, flags := 0 },
     { key := [1], val := [3], ts := 0, flags := 0 }] = .ok r ∧ r.length = 2 :=
  ⟨_, rfl, rfl⟩

/-! ## the mirror cycle on a duplicate-keys DBI -/

open Ls.Lmdb Ls.Strategy Ls.Txn in
/-- **Mirror cycle.** Shadow mode with the dupsort hack. `d` is a duplicate-keys application DBI
    named `n` (not an integer-key DBI) whose content is a strictly increasing list of (key, value)
    pairs (`PairSorted`) with non-empty values; its shadow `shadowOf w n d` (the existing one, or a
    new empty one) is a byte-wise ordered DBI, sorted, with valid keys and well-formed values
    (header parses, deleted ⇒ no value), and `now` is above every timestamp stored in it (shared
    clock). If `mainToShadow` and then `shadowToMain` succeed (in particular the content was accepted
    by `DupSort.encodeAll`) with no remote change merged in between, the application DBI is
    afterwards EXACTLY what it was: the same set of pairs — name, flags and content. Moreover what
    the projection computed — `EmptyPut … true plainIter` of `decodeAll` of the shadow entries —
    is that content, which is the invariant `DupMirrorOK` that `C10_dupsort_rewrites_same_content`
    assumes. Other DBIs: `C11_capture_frame`, `C11_project`.
    Restriction (finding D7, known): values are non-empty — a zero-length duplicate is dropped by
    the projection like a zero-length value of an ordinary DBI (`C11_empty_value_witness`). -/
theorem C20_cycle (c : Txn.Cfg) (w w1 w2 : W) (txnID now cutoff : Nat) (n : Bytes) (d : Dbi)
    (hdist : DistinctNames w.dbis) (hh : c.hack = true)
    (h1 : mainToShadow c w txnID now cutoff = .ok w1) (h2 : shadowToMain c w1 = .ok w2)
    (hp : isPrivate n = false) (hd : findDbi w.dbis n = some d)
    (hdup : isDupSort d.flags = true) (hik : isIntKey d.flags = false)
    (hiks : isIntKey (shadowOf w n d).flags = false)
    (hps : PairSorted d.kvs) (hne : ∀ p ∈ d.kvs, p.2 ≠ [])
    (hS : Sorted false (shadowOf w n d).kvs) (hSK : DKeysOK (shadowOf w n d).kvs)
    (hwf : ∀ p ∈ (shadowOf w n d).kvs, ValWF p.2)
    (hclock : ∀ p ∈ (shadowOf w n d).kvs, ∀ hd v, Header.parse p.2 = .ok (hd, v) → hd.ts < now)
    (hn : now < two64) (ht : txnID < two64) :
    findDbi w2.dbis n = some d ∧
    (∃ enc, encodeAll (rawEntries d.kvs) = .ok enc) ∧
    DupMirrorOK w2.dbis d := by
  -- `dup_cycle_env` names the shadow by `n`, `DupMirrorOK` by `d.name`
  obtain ⟨hfind, henc, sd, es, dec, hsd, hes, hdec, hput⟩ :=
    dup_cycle_env hdist hh h1 h2 hp hd hdup hik hiks hps hne hS hSK hwf hclock hn ht
  exact ⟨hfind, henc, sd, es, dec, by rw [findDbi_name hd]; exact hsd, hes, hdec, hput⟩

open Ls.Lmdb Ls.Strategy Ls.Txn in
/-- a missing shadow of a non-integer-key duplicate-keys DBI is created as an ordinary byte-wise
    DBI (neither MDB_DUPSORT nor MDB_INTEGERKEY), empty: the hypotheses of `C20_cycle` about the
    shadow then hold trivially -/
theorem C20_cycle_new_shadow (w : W) (n : Bytes) (d : Dbi) (hik : isIntKey d.flags = false)
    (hs : findDbi w.dbis (shadowName n) = none) :
    isIntKey (shadowOf w n d).flags = false ∧ isDupSort (shadowOf w n d).flags = false ∧
    (shadowOf w n d).kvs = [] := by
  unfold shadowOf; rw [hs]
  exact ⟨by rw [← hik]; exact isIntKey_mask d.flags, isDupSort_mask d.flags, rfl⟩

/-- a duplicate-keys DBI "d" with two values under key 01 and one under key 02 -/
def exDupW : Txn.W :=
  { dbis := [{ name := [0x64], flags := 4, kvs := [([1], [0x0a]), ([1], [0x0b]), ([2], [0x0a])] }],
    dirty := false }

def exHack : Txn.Cfg := { native := false, hack := true, pad := false, receiveOnly := false, override := [] }

/-- non-vacuity: the cycle succeeds on the instance and gives back the same pairs; the shadow holds
    three distinct encoded keys -/
example :
    ((Txn.mainToShadow exHack exDupW 1 100 0).bind (Txn.shadowToMain exHack)).map
      (fun w => ((Txn.findDbi w.dbis [0x64]).map (·.kvs),
                 (Txn.findDbi w.dbis (Txn.shadowName [0x64])).map (·.kvs.length)))
      = .ok (some [([1], [0x0a]), ([1], [0x0b]), ([2], [0x0a])], some 3) := by
  decide +kernel

end Ls.C20
