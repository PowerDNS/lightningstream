import LsLemmas.Config
import LsLemmas.MergeRefine
/-
  C04 — Deletions propagate and deleted keys are not resurrected.
  Lattice part (cut-off 0), retention arithmetic (sweeper part). The "markers travel in every
  snapshot" and "a missing application key becomes a marker" parts are C06_complete and
  C11_capture.
-/
namespace Ls.C04
open Ls Ls.Config Ls.Merge

/-- For every sweeper configuration with a non-negative retention (`rd = RetentionDuration()`,
    any int64 `retention_load_cutoff_duration`: zero, negative, positive, larger than the
    retention) the duration used for the load cut-off is between 0 and the retention: the load
    cut-off is never older than the sweeper's. (False before the D8 fix for retention·3 ≥ 2^63.) -/
theorem C04_cutoff_le (rd cutoff : Int) (h0 : 0 ≤ rd) (h1 : rd < 9223372036854775808) :
    0 ≤ rdmc rd cutoff ∧ rdmc rd cutoff ≤ rd := by
  unfold rdmc
  have hq : tdiv rd 4 = rd / 4 := tdiv_nonneg_eq rd 4 h0
  have hc : tdiv rd 100 = rd / 100 := tdiv_nonneg_eq rd 100 h0
  rw [hq, hc]
  have hmb : wrapInt64 (rd / 4 * 3) = rd / 4 * 3 := wrapInt64_id _ (by omega) (by omega)
  split
  · rw [hmb]
    simp only
    split
    · rw [wrapInt64_id _ (by omega) (by omega)]; omega
    · rw [wrapInt64_id _ (by omega) (by omega)]; omega
  · rw [wrapInt64_id _ (by omega) (by omega)]; omega

/-- Swept markers do not bounce, first half: for all times `tSweep ≤ tLoad`, a marker the sweeper
    could have removed at `tSweep` (timestamp below `tSweep − retention`) is below the load cut-off
    at `tLoad`. (`C04_stale_marker_refused` is the other half.) -/
theorem C04_no_bounce_cutoff (rd cutoff tSweep tLoad ts : Int) (h0 : 0 ≤ rd)
    (h1 : rd < 9223372036854775808) (ht : tSweep ≤ tLoad) (hs : ts < sweepCutoff tSweep rd) :
    ts < loadCutoff tLoad rd cutoff := by
  have := C04_cutoff_le rd cutoff h0 h1
  unfold sweepCutoff at hs; unfold loadCutoff; omega

/-- Swept markers do not bounce, second half: a marker below the load cut-off is refused by the
    merge on an instance that has no entry for the key (it is not re-created), whatever else the
    entry carries. -/
theorem C04_stale_marker_refused (c : Cfg) (e : KV)
    (hd : Header.isDeleted (maskedFlags e) = true) (hs : e.ts < c.cutoff) :
    merge c e [] = .ok none := by
  rw [merge_absent, if_pos ⟨by simp [entryDeleted, hd], hs⟩]

/-- A marker below the load cut-off is also refused when it comes from a format-1 snapshot, where
    a deletion is written as an empty value without a flag (the code before the D16 repair
    re-created these markers). -/
theorem C04_stale_marker_refused_v1 (c : Cfg) (e : KV)
    (hv : c.fv < 2) (he : e.val = []) (hs : e.ts < c.cutoff) :
    merge c e [] = .ok none := by
  rw [merge_absent, if_pos ⟨by simp [entryDeleted, he, hv], hs⟩]

/-- A deletion recorded at time T wins against every version older than T, whichever of the two
    arrives first. (Any version stamped T wins so; that `m` is a deletion is not used.) -/
theorem C04_delete_wins (m v : Ver) (_hm : m.del = true) (hlt : v.ts < m.ts) :
    join (some v) (some m) = some m ∧ join (some m) (some v) = some m := by
  have hb : m.beats v := Or.inl hlt
  have hnb : ¬ v.beats m := Ver.beats_asymm hb
  simp [join, Ver.max, hb, hnb]

/-- A stored marker `m` stays until a version that wins last-writer-wins against it arrives: any
    merge either keeps the marker or installs a version that beats it. -/
theorem C04_marker_stays (m v : Ver) :
    join (some m) (some v) = some m ∨ (join (some m) (some v) = some v ∧ v.beats m) := by
  by_cases h : v.beats m
  · right; simp [join, Ver.max, h]
  · left; simp [join, Ver.max, h]

/-- At byte level (cut-off 0, snapshot-load use): merging a marker stamped T into a stored live
    version older than T stores the marker: the key disappears from the application's view. -/
theorem C04_delete_propagates (c : Cfg) (e : KV) (old : Bytes) (o : Ver)
    (hw : EntryWF e) (hb : Bounded c e) (hd : c.defTs = 0)
    (hold : decodeS old = .ok (some o)) (hdel : entryDeleted c e = true) (hts : o.ts < (norm c e).ts) :
    ∃ r, mergeStore c e old = .ok r ∧ decodeS r = .ok (some (norm c e)) ∧ (norm c e).del = true := by
  obtain ⟨r, h1, h2⟩ := mergeStore_join c e old (some o) hw hb hd hold (by intro h; cases h)
  refine ⟨r, h1, ?_, hdel⟩
  have hbeats : (norm c e).beats o := Or.inl hts
  rw [h2]; simp [join, Ver.max, hbeats]

/-- non-vacuity: the configuration that overflowed before the fix (40000 days, 1 h cut-off) -/
example : rdmc 3456000066710405120 3600000000000 = 3455996466710405120 := by decide

end Ls.C04
