import LsLemmas.CodecRefine
/-
  C08 — Hostile or corrupt snapshot blobs cannot crash, hang or block an instance (decoder part).

  The model (LsModel/Codec.lean, following /repo with finding D3 fixed) bounds-checks every Go
  slice expression (`panic`), converts `uint64` lengths to `int` by two's complement, and runs
  every loop on fuel `len + 1` (`hang`).  The theorems quantify over ALL byte strings of length
  < 2^63 (every Go slice).  The gzip container, memory use and process survival are runtime
  behaviour (harness: prop.c08.total through LoadData with per-op recover and watchdog).
-/
namespace Ls.C08
open Ls Ls.Wire Ls.Codec Ls.CodecS

/-- Loading a blob — `Snapshot.Unmarshal`, then every DBI iterated with `Next` until io.EOF, each
    entry through `KV.Unmarshal` — returns a snapshot or an error for every byte string: no slice
    expression out of range (no panic), no loop runs out of its `len + 1` iterations (no hang). -/
theorem C08_total (b : Bytes) (h63 : b.length < two63) :
    (∃ s, decodeAll b = .ok s) ∨ (∃ e, decodeAll b = .err e) :=
  (safe_iff _).mp (decodeAll_post b h63).safe

/-- Each decoder taken alone is total on arbitrary bytes (this and the four theorems below). -/
theorem C08_total_kv (b : Bytes) (h63 : b.length < two63) : (kvUnmarshal b).Safe := by
  rw [kvUnmarshal_eq b h63]; exact (kvUnmarshalS_post b).safe

theorem C08_total_index (b : Bytes) (h63 : b.length < two63) : (indexData b).Safe := by
  rw [indexData_eq b h63]; exact indexDataS_safe b

/-- `Next` from any cursor position inside the data (also one that does not point at a field
    boundary) -/
theorem C08_total_next (b : Bytes) (h63 : b.length < two63) (cur : Nat) (hc : cur ≤ b.length) :
    (dbiNext b (cur : Int)).Safe := by
  rw [dbiNext_eq b h63 cur hc]
  exact safe_omap _ _ (nextS_post _ _ (by rw [List.length_drop]; omega)).safe

theorem C08_total_meta (b : Bytes) (m : Meta) : (metaUnmarshal b m).Safe := by
  rw [metaUnmarshal_eq]; exact metaUnmarshalS_safe b m

theorem C08_total_unmarshal (b : Bytes) (h63 : b.length < two63) : (snapshotUnmarshal b).Safe := by
  rw [snapshotUnmarshal_eq b h63]; exact (snapshotUnmarshalS_post b).safe

/-- Every loop iteration consumes at least one byte: the loops are structurally recursive on a
    fuel of `len + 1` (= the maximal number of iterations) and never exhaust it; `Next` leaves a
    strictly shorter remainder behind every entry it delivers. -/
theorem C08_linear_iterations (b : Bytes) (h63 : b.length < two63) :
    kvLoop b (b.length + 1) 0 kvZero ≠ .hang ∧ idxLoop b (b.length + 1) 0 hdrZero ≠ .hang ∧
    snapLoop b (b.length + 1) 0 snapZero ≠ .hang ∧ (∀ m, metaLoop b (b.length + 1) 0 m ≠ .hang) ∧
    (∀ (cur : Nat) kv cur', cur ≤ b.length → dbiNext b (cur : Int) = .ok (some (kv, cur')) →
      (cur : Int) < cur' ∧ cur' ≤ (b.length : Int)) := by
  refine ⟨(C08_total_kv b h63).ne_hang, (C08_total_index b h63).ne_hang, (C08_total_unmarshal b h63).ne_hang,
    fun m => (C08_total_meta b m).ne_hang, fun cur kv cur' hc h => dbiNext_cursor b h63 cur hc kv cur' h⟩

/-- Decoded keys and values alias the input: over all DBIs of a successfully loaded blob their
    total size is at most the size of the blob. -/
theorem C08_linear_size (b : Bytes) (h63 : b.length < two63) (s : Snapshot') (h : decodeAll b = .ok s) :
    allEntriesSize s.dbis ≤ b.length :=
  (decodeAll_post b h63).of_ok h

/-- Work and memory are proportional to the input. -/
theorem C08_linear (b : Bytes) (h63 : b.length < two63) :
    (kvLoop b (b.length + 1) 0 kvZero ≠ .hang ∧ idxLoop b (b.length + 1) 0 hdrZero ≠ .hang ∧
     snapLoop b (b.length + 1) 0 snapZero ≠ .hang ∧ (∀ m, metaLoop b (b.length + 1) 0 m ≠ .hang) ∧
     (∀ (cur : Nat) kv cur', cur ≤ b.length → dbiNext b (cur : Int) = .ok (some (kv, cur')) →
       (cur : Int) < cur' ∧ cur' ≤ (b.length : Int))) ∧
    (∀ s, decodeAll b = .ok s → allEntriesSize s.dbis ≤ b.length) :=
  ⟨C08_linear_iterations b h63, fun s h => C08_linear_size b h63 s h⟩

/-- The D3 witnesses are rejected with an error: the negative-skip entry `12 0b 2a f5ff…ff01`
    (without the `uint64` comparison of the length in `skipTag`: an endless loop in KV.Unmarshal) and
    a length of 2^63 (without the one in KV.Unmarshal: a slice-bounds panic). -/
theorem C08_d3_witnesses :
    dbiEntries [0x12, 0x0b, 0x2a, 0xf5, 0xff, 0xff, 0xff, 0xff, 0xff, 0xff, 0xff, 0xff, 0x01] = .err .eof ∧
    kvUnmarshal [0x0a, 0x80, 0x80, 0x80, 0x80, 0x80, 0x80, 0x80, 0x80, 0x80, 0x01] = .err .other := ⟨by rfl, by rfl⟩

/-- D10's basis at decoder level: corruption inside an entry is not seen by `Snapshot.Unmarshal`
    (all that `snapshot.LoadData` runs) but only by the lazy iteration:
    snapshot { databases { name:"d" entries:<ff> } } unmarshals fine and fails in `Next`.  This is why
    the downloader calls `msg.Validate()` — every DBI iterated with `Next` to io.EOF, the second half
    of `decodeAll` — behind `LoadData` before it hands a snapshot on (syncer/receiver/downloader.go). -/
theorem C08_lazy_corrupt_witness :
    (∃ s, snapshotUnmarshal [0x1a, 0x06, 0x0a, 0x01, 0x64, 0x12, 0x01, 0xff] = .ok s) ∧
    decodeAll [0x1a, 0x06, 0x0a, 0x01, 0x64, 0x12, 0x01, 0xff] = .err .eof := ⟨⟨_, by rfl⟩, by rfl⟩

/-- non-vacuity: the two outcomes both occur -/
example : decodeAll [0x08, 0x03] = .ok { formatVersion := 3, compatVersion := 0, info := metaZero, dbis := [] } := by rfl
example : decodeAll [0xff] = .err .eof := by rfl

end Ls.C08
