import LsLemmas.AbsBucketInv
/-
  C05 — Published data is never lost from the bucket.
  Stated on the abstract bucket system (LsLemmas/AbsBucket.lean): any number of instances;
  schedules of monotone application writes, uploads (only by an instance that is not waiting for
  its own newest snapshot), failed uploads, merges of any alive snapshot, restarts with the
  database kept or emptied, cleaner deletions of superseded snapshots and of snapshots that the
  cleaning instance merged before a successful upload of its own — by any instance, in any order.
  The inductive invariant is `Ls.Abs.Inv` (LsLemmas/AbsBucketInv.lean).
-/
namespace Ls.C05
open Ls Ls.Abs

/-- Witness invariant, with storage order. In every reachable state, every snapshot ever stored
    (position `p` of the bucket history, deleted or not) has a witness: a snapshot at a position
    `q ≥ p` (stored no earlier) that is alive, is the newest alive snapshot of its instance, and
    holds for every key a version at least as new as the stored snapshot's. -/
theorem C05_witness_invariant_ordered {f : BF} (h : Reach f) (p : Nat) (x : Blob)
    (hx : f.bucket[p]? = some x) :
    ∃ (q : Nat) (w : Blob), p ≤ q ∧ f.bucket[q]? = some w ∧ w.alive = true ∧
      newestIdx f.bucket w.inst = some q ∧ newestContent f w.inst = some w.content ∧
      x.content.le w.content := by
  obtain ⟨q, w, hn, hpq, hle⟩ := (inv_reach h).wit p x hx
  exact ⟨q, w, hpq, hn.1, hn.2.1, hn.toIdx, hn.content, hle⟩

/-- Witness invariant. In every reachable state — whatever the number of instances and whatever
    the schedule of monotone application writes, uploads, failed uploads, merges, restarts with
    the database kept or emptied, and cleaner deletions (superseded or stale) by any instance —
    for every snapshot ever stored in the bucket (alive or deleted) there is an instance whose
    newest alive snapshot holds, for every key, a version at least as new. -/
theorem C05_witness_invariant {f : BF} (h : Reach f) :
    ∀ x ∈ f.bucket, ∃ (j : Nat) (w : DB), newestContent f j = some w ∧ x.content.le w := by
  intro x hx
  obtain ⟨p, hp⟩ := List.mem_iff_getElem?.mp hx
  obtain ⟨q, w, _, _, _, _, hc, hle⟩ := C05_witness_invariant_ordered h p x hp
  exact ⟨w.inst, w.content, hc, hle⟩

/-- The same along a schedule: after any enabled schedule from any reachable state, every
    snapshot that was in the bucket (alive or not) before the schedule has a witness after it. -/
theorem C05_witness_after_run {f : BF} (h : Reach f) (steps : List BStep)
    (he : EnabledFrom f steps) (p : Nat) (x : Blob) (hx : f.bucket[p]? = some x) :
    ∃ (j : Nat) (w : DB), newestContent (brun f steps) j = some w ∧ x.content.le w := by
  induction steps generalizing f x with
  | nil => exact C05_witness_invariant h x (List.mem_of_getElem? hx)
  | cons s rest ih =>
    obtain ⟨x', hx', _, hc⟩ := bstep_keeps s hx
    exact hc ▸ ih (Reach.step s h he.1) he.2 x' hx'

/-- The newest snapshots never jointly lose a version. For every reachable state, every enabled
    step and every instance `j` with a newest alive snapshot `w` before the step, some instance
    has after the step a newest alive snapshot holding, for every key, a version at least as new
    as `w`'s: per key, the join over the newest snapshots of all instances never decreases. -/
theorem C05_join_monotone {f : BF} (h : Reach f) (s : BStep) (he : enabled f s) (j : Nat) (w : DB)
    (hw : newestContent f j = some w) :
    ∃ (j' : Nat) (w' : DB), newestContent (bstep f s) j' = some w' ∧ w.le w' := by
  obtain ⟨q, x, hn, _, hc⟩ := newestContent_some hw
  have := C05_witness_after_run h [s] ⟨he, trivial⟩ q x hn.1
  rw [hc] at this; exact this

/-! ### no upload while waiting for the own snapshot -/

/-- The guard of `send`, by definition of `enabled`: an instance waiting for its own newest snapshot does
    not upload. That the sync loop obeys this guard is `C05_no_upload_before_own` (C05Loop.lean). -/
theorem C05_no_upload_while_waiting (f : BF) (i : Nat) :
    enabled f (.send i) ↔ f.waitingOwn i = false := Iff.rfl

/-- A restart (database kept or emptied) of an instance that has an alive snapshot in the bucket
    puts it into the waiting state; and a restart with `wipe` leaves it with an empty database. -/
theorem C05_restart_sets_waiting (f : BF) (i : Nat) (wipe : Bool) (w : DB)
    (hw : newestContent f i = some w) :
    (bstep f (.restart i wipe)).waitingOwn i = true ∧
      (wipe = true → (bstep f (.restart i wipe)).db i = DB.empty) := by
  obtain ⟨q, x, hn, hi, _⟩ := newestContent_some hw
  subst hi
  constructor
  · simp [bstep, hn.toIdx]
  · intro hwp; simp [bstep, hwp]

/-- A waiting instance stays waiting across every step other than a merge, by that instance, of
    its own newest alive snapshot, or another restart of that instance. -/
theorem C05_waiting_until_own_load (f : BF) (i : Nat) (s : BStep) (hw : f.waitingOwn i = true)
    (hl : ∀ idx, s = .load i idx → newestIdx f.bucket i ≠ some idx)
    (hr : ∀ wipe, s ≠ .restart i wipe) : (bstep f s).waitingOwn i = true := by
  cases s with
  | write j k v => exact hw
  | send j => exact hw
  | sendFails j => exact hw
  | load j idx =>
    cases hb : f.bucket[idx]? with
    | none => rw [bstep_load_none hb]; exact hw
    | some y =>
      rw [bstep_load_some hb]
      simp only
      rw [if_neg]
      · exact hw
      · rintro ⟨hji, _, hnew⟩
        subst hji
        exact hl idx rfl hnew
  | restart j wipe =>
    have hji : i ≠ j := fun e => hr wipe (by rw [e])
    simp only [bstep, if_neg hji]; exact hw
  | cleanSuperseded idx => exact hw
  | cleanStale a idx => exact hw

/-- no step of the schedule is a merge by `i` of its own newest alive snapshot or a restart of `i` -/
def NoOwnLoad (i : Nat) (f : BF) : List BStep → Prop
  | [] => True
  | s :: rest =>
    (∀ idx, s = .load i idx → newestIdx f.bucket i ≠ some idx) ∧ (∀ wipe, s ≠ .restart i wipe) ∧
      NoOwnLoad i (bstep f s) rest

/-- Along any enabled schedule that starts with instance `i` waiting and in which `i` neither
    merges its own newest alive snapshot nor restarts again, `i` uploads nothing and is still
    waiting at the end. -/
theorem C05_no_upload_before_own_load (f : BF) (i : Nat) (steps : List BStep)
    (hw : f.waitingOwn i = true) (he : EnabledFrom f steps) (hn : NoOwnLoad i f steps) :
    BStep.send i ∉ steps ∧ (brun f steps).waitingOwn i = true := by
  induction steps generalizing f with
  | nil => exact ⟨by simp, hw⟩
  | cons s rest ih =>
    have hw' := C05_waiting_until_own_load f i s hw hn.1 hn.2.1
    obtain ⟨h1, h2⟩ := ih (bstep f s) hw' he.2 hn.2.2
    refine ⟨?_, h2⟩
    intro hm
    rcases List.mem_cons.mp hm with rfl | hm
    · cases hw.symm.trans (he.1 : f.waitingOwn i = false)
    · exact h1 hm

/-- Merging its own newest alive snapshot ends the waiting state, and from then on the instance's
    database holds every alive snapshot of its own (so its next upload supersedes them). -/
theorem C05_own_load_releases {f : BF} (h : Reach f) (i idx : Nat)
    (hn : newestIdx f.bucket i = some idx) :
    (bstep f (.load i idx)).waitingOwn i = false ∧
      ∀ (p : Nat) (x : Blob), f.bucket[p]? = some x → x.inst = i → x.alive = true →
        x.content.le ((bstep f (.load i idx)).db i) := by
  obtain ⟨w, hw, hi⟩ := newestIdx_some_iff.mp hn
  have hrel : (bstep f (.load i idx)).waitingOwn i = false := by
    rw [bstep_load_some hw.1]; simp [hi, hn]
  refine ⟨hrel, fun p x hx hxi hxa => ?_⟩
  exact (inv_load (inv_reach h) i idx).own i hrel p x (by rw [bstep_load_bucket]; exact hx) hxi hxa

/-! ### the scenario the property names -/

/-- Restart with an emptied database. An instance `i` that has a newest alive snapshot `w` in the
    bucket restarts with its database emptied. Its database is then empty and it is waiting;
    whatever happens afterwards (any enabled schedule: its own writes and uploads once it may
    upload, merges, cleaners of every instance, further restarts), some instance's newest alive
    snapshot still holds, for every key, a version at least as new as `w`'s. -/
theorem C05_restart_wiped_witness {f : BF} (h : Reach f) (i : Nat) (w : DB)
    (hw : newestContent f i = some w) (steps : List BStep)
    (he : EnabledFrom (bstep f (.restart i true)) steps) :
    (bstep f (.restart i true)).db i = DB.empty ∧
    (bstep f (.restart i true)).waitingOwn i = true ∧
    ∃ (j : Nat) (w' : DB),
      newestContent (brun (bstep f (.restart i true)) steps) j = some w' ∧ w.le w' := by
  obtain ⟨h1, h2⟩ := C05_restart_sets_waiting f i true w hw
  refine ⟨h2 rfl, h1, ?_⟩
  obtain ⟨q, x, hn, _, hc⟩ := newestContent_some hw
  have := C05_witness_after_run h (.restart i true :: steps) ⟨trivial, he⟩ q x hn.1
  rw [hc] at this; exact this

/-! ### the guard is necessary -/

/-- the step function without looking at the guards (the same function; `Reach` is what imposes
    `enabled`) -/
def bstepUnguarded : BF → BStep → BF := bstep

def k0 : Key := ([1], [2])
def k1 : Key := ([1], [3])
def v0 : Ver := ⟨5, false, [7]⟩
def v1 : Ver := ⟨6, false, [8]⟩

/-- instance 0 publishes `k0`, restarts with an emptied database, writes `k1` … -/
def badPrefix : List BStep := [.write 0 k0 v0, .send 0, .restart 0 true, .write 0 k1 v1]
/-- … and uploads although it is still waiting for its own snapshot -/
def badRun : List BStep := badPrefix ++ [.send 0]

/-- the bucket after `badRun`: two alive snapshots of instance 0, the second without `k0` -/
theorem C05_badRun_bucket : (badRun.foldl bstepUnguarded binit).bucket =
    [⟨0, upd DB.empty k0 v0, true⟩, ⟨0, upd DB.empty k1 v1, true⟩] := rfl

/-- Negative witness. Every step of `badPrefix` is enabled; after it instance 0 is waiting, so
    the final `send 0` of `badRun` is NOT enabled. If it is taken nevertheless, the first stored
    snapshot holds a version for key `k0` while no instance's newest alive snapshot holds any
    version for `k0`: the witness invariant fails, published data is lost. -/
theorem C05_unguarded_send_loses_data :
    EnabledFrom binit badPrefix ∧
    (brun binit badPrefix).waitingOwn 0 = true ∧
    ¬ enabled (brun binit badPrefix) (.send 0) ∧
    ∃ x, (badRun.foldl bstepUnguarded binit).bucket[0]? = some x ∧ x.content k0 = some v0 ∧
      (∀ (j : Nat) (w : DB), newestContent (badRun.foldl bstepUnguarded binit) j = some w →
        w k0 = none) ∧
      ¬ ∃ (j : Nat) (w : DB), newestContent (badRun.foldl bstepUnguarded binit) j = some w ∧
          x.content.le w := by
  have hwait : (brun binit badPrefix).waitingOwn 0 = true := by decide
  have hnone : ∀ (j : Nat) (w : DB),
      newestContent (badRun.foldl bstepUnguarded binit) j = some w → w k0 = none := by
    intro j w hw
    obtain ⟨q, y, hn, _, hc⟩ := newestContent_some hw
    subst hc
    rw [C05_badRun_bucket] at hn
    have hq : q < 2 := (List.getElem?_eq_some_iff.mp hn.1).1
    obtain rfl | rfl : q = 0 ∨ q = 1 := by omega
    · -- the first blob is not a newest one: the second is alive and of the same instance
      cases Option.some.inj hn.1
      cases hn.2.2 1 ⟨0, upd DB.empty k1 v1, true⟩ (by omega) rfl rfl
    · cases Option.some.inj hn.1
      simp [upd, DB.empty, k0, k1]
  refine ⟨⟨⟨by decide, rfl⟩, rfl, trivial, ⟨by decide, rfl⟩, trivial⟩, hwait, ?_, ?_⟩
  · intro he
    cases hwait.symm.trans (he : (brun binit badPrefix).waitingOwn 0 = false)
  · refine ⟨⟨0, upd DB.empty k0 v0, true⟩, rfl, upd_same DB.empty k0 v0, hnone, ?_⟩
    rintro ⟨j, w, hw, hle⟩
    have h0 := hnone j w hw
    have := hle k0
    rw [h0, join_none_right] at this
    simp only [upd_same] at this
    cases this

/-! ### non-vacuity -/

/-- two instances; instance 0 publishes, instance 1 merges and re-publishes; instance 0 restarts
    with an emptied database, merges its own newest snapshot, writes another key; instance 1's
    cleaner deletes instance 0's (stale) snapshot; instance 0 uploads -/
def goodRun : List BStep :=
  [.write 0 k0 v0, .send 0, .load 1 0, .send 1, .restart 0 true, .load 0 0, .write 0 k1 v1,
   .cleanStale 1 0, .send 0]

/-- every step of `goodRun` is enabled in the state it is taken in -/
theorem C05_goodRun_enabled : EnabledFrom binit goodRun := by
  refine ⟨⟨by decide, rfl⟩, rfl, ⟨_, rfl, rfl⟩, rfl, trivial, ⟨_, rfl, rfl⟩, ⟨by decide, ?_⟩,
    ?_, ?_, trivial⟩
  · show join ((DB.empty.join (upd DB.empty k0 v0)) k1) (some v1) = some v1
    simp [DB.join, DB.empty, upd, k0, k1, join]
  · show 0 ∈ [0]; simp
  · show (_ : Bool) = false; rfl

/-- the snapshot of instance 0 before its restart, and what instance 1 holds after merging it -/
def c0 : DB := upd DB.empty k0 v0
def c1 : DB := DB.empty.join c0
/-- what instance 0 publishes after the wiped restart, the merge of its own snapshot and a write -/
def c2 : DB := upd (DB.empty.join c0) k1 v1

/-- the bucket after `goodRun`: the first snapshot deleted, one newest snapshot per instance -/
theorem C05_goodRun_bucket : (brun binit goodRun).bucket =
    [⟨0, c0, false⟩, ⟨1, c1, true⟩, ⟨0, c2, true⟩] := rfl

/-- A reachable state with a wiped restart and a stale cleaning: every step of `goodRun` is
    enabled, the state is reachable (so all theorems above apply to it), the first snapshot has
    been deleted, and the newest snapshot of instance 0 holds both written versions, the newest
    of instance 1 the first one. -/
example :
    Reach (brun binit goodRun) ∧
    (∃ x, (brun binit goodRun).bucket[0]? = some x ∧ x.alive = false ∧ x.content k0 = some v0) ∧
    (∃ w, newestContent (brun binit goodRun) 0 = some w ∧ w k0 = some v0 ∧ w k1 = some v1) ∧
    (∃ w, newestContent (brun binit goodRun) 1 = some w ∧ w k0 = some v0) ∧
    ∀ x ∈ (brun binit goodRun).bucket,
      ∃ (j : Nat) (w : DB), newestContent (brun binit goodRun) j = some w ∧ x.content.le w := by
  have hr : Reach (brun binit goodRun) := reach_run Reach.init goodRun C05_goodRun_enabled
  refine ⟨hr, ⟨⟨0, c0, false⟩, rfl, rfl, ?_⟩, ⟨c2, rfl, ?_, ?_⟩, ⟨c1, rfl, ?_⟩,
    C05_witness_invariant hr⟩
  · simp [c0, upd]
  · simp [c2, c0, DB.join, DB.empty, upd, k0, k1, join]
  · simp [c2, upd]
  · simp [c1, c0, DB.join, DB.empty, upd, join]

/-- instance 0 publishes twice; instance 1 merges the second snapshot, re-publishes and deletes it
    as stale while the first one is still there; instance 0 restarts with an emptied database and
    merges its own newest ALIVE snapshot (the first one) -/
def staleRun : List BStep :=
  [.write 0 k0 v0, .send 0, .write 0 k1 v1, .send 0, .load 1 1, .send 1, .cleanStale 1 1,
   .restart 0 true, .load 0 0]

/-- every step of `staleRun` is enabled in the state it is taken in -/
theorem C05_staleRun_enabled : EnabledFrom binit staleRun := by
  refine ⟨⟨by decide, rfl⟩, rfl, ⟨by decide, ?_⟩, rfl, ⟨_, rfl, rfl⟩, rfl, ?_, trivial,
    ⟨_, rfl, rfl⟩, trivial⟩
  · show join ((upd DB.empty k0 v0) k1) (some v1) = some v1
    simp [DB.empty, upd, k0, k1, join]
  · show 1 ∈ [1]; simp

/-- Why the invariant speaks about ALIVE own snapshots only: in this reachable state instance 0 is
    not waiting, yet a deleted snapshot of its own holds a version for `k1` that its database does
    not hold (the version is in instance 1's newest snapshot, which is the witness). -/
example :
    Reach (brun binit staleRun) ∧ (brun binit staleRun).waitingOwn 0 = false ∧
    (∃ x, (brun binit staleRun).bucket[1]? = some x ∧ x.inst = 0 ∧ x.alive = false ∧
      x.content k1 = some v1 ∧ ¬ x.content.le ((brun binit staleRun).db 0)) ∧
    ∃ w, newestContent (brun binit staleRun) 1 = some w ∧ w k1 = some v1 := by
  refine ⟨reach_run Reach.init staleRun C05_staleRun_enabled, by decide,
    ⟨⟨0, upd (upd DB.empty k0 v0) k1 v1, false⟩, rfl, rfl, rfl, upd_same (upd DB.empty k0 v0) k1 v1, ?_⟩,
    ⟨DB.empty.join (upd (upd DB.empty k0 v0) k1 v1), rfl, ?_⟩⟩
  · intro hle
    have h := hle k1
    have hdb : (brun binit staleRun).db 0 k1 = none := by
      show (DB.empty.join (upd DB.empty k0 v0)) k1 = none
      simp [DB.join, DB.empty, upd, k0, k1, join]
    rw [hdb, join_none_right] at h
    simp only [upd_same] at h
    cases h
  · simp [DB.join, DB.empty, upd, join]

end Ls.C05
