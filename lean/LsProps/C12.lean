import LsLemmas.CleanerHist
import LsLemmas.CleanerWitness
import LsLemmas.Bytes
/-
  C12 — The snapshot cleaner never deletes what is still needed.
  Model: LsModel/Cleaner.lean (`Worker.RunOnce` / `SetCommitted` of syncer/cleaner/cleaner.go as they are in
  /repo). Vocabulary of the statements: LsModel/CleanerSpec.lean.

  Histories are arbitrary lists of events (`Ev.run now listing deleteFails`, `Ev.commit m`) folded from
  `cleaner.New`; nothing bounds the number of runs, instances or snapshots; `ParseName` is an arbitrary
  function; the interval configuration is arbitrary (also zero and negative); `now` is arbitrary in every
  theorem except `C12_newest_protected_partial`, which needs a clock that does not go backwards — and
  `C12_newest_deleted_when_clock_goes_back` shows that this hypothesis cannot be dropped.
-/
namespace Ls.C12
open Ls Ls.Cleaner

variable (parse : Parse) (cfg : Cfg)

/-- The cleaner only ever passes to `Delete` names of the listing it was just given that `ParseName`
    accepts as snapshots; if the store's `List(prefix)` only returns names with the prefix (`db__`), they
    carry the prefix. Holds in every state (hence after every history). -/
theorem C12_only_listed_snapshots (st : St) (now : Int) (l : Option (List String))
    (df : String → Bool) (n : String)
    (h : n ∈ (runOnce parse cfg st now l df).2.delCalls) :
    ∃ names, l = some names ∧ n ∈ names ∧ (∃ i, IsSnap parse n i) ∧
      (HasPrefix cfg.pfx names → cfg.pfx.isPrefixOf n = true) := by
  obtain ⟨_, names, rfl, c, hc, rfl⟩ := mem_delCalls h
  have hs := candidates_isSnap (toDelete_sub hc)
  exact ⟨names, rfl, hs.1, ⟨_, hs.2⟩, fun hp => hp _ hs.1⟩

/-- What the `since` observer of the statements below is: `none` at the start; a run with a listing
    keeps the recorded time of every name that stays listed, records `now` for every newly listed name and
    forgets every name not listed; a run whose List fails and a SetCommitted change nothing. -/
theorem C12_since_characterisation (h : List Ev) (now : Int) (l : List String) (df : String → Bool)
    (m : List (String × Int)) (n : String) :
    since [] n = none ∧
    since (h ++ [Ev.run now (some l) df]) n =
      (if n ∈ l then (match since h n with | some t => some t | none => some now) else none) ∧
    since (h ++ [Ev.run now none df]) n = since h n ∧
    since (h ++ [Ev.commit m]) n = since h n :=
  ⟨rfl, since_run h now l df n, by rw [since_listFails], by rw [since_commit]⟩

/-- Keep interval. After any history, a run never passes to `Delete` a name that the cleaner sees for the
    first time in this run (`since h n = none`: it was not in the previous listing it was given), nor one it
    first saw `mustKeep` or less ago. (`l.Nodup`: a store listing names every blob once.) -/
theorem C12_keep_interval (h : List Ev) (now : Int) (l : List String) (df : String → Bool) (n : String)
    (hnd : l.Nodup)
    (hdel : n ∈ (runOnce parse cfg (exec parse cfg h) now (some l) df).2.delCalls) :
    ∃ t, since h n = some t ∧ now - t > cfg.mustKeep := by
  obtain ⟨he, names, hl, c, hc, rfl⟩ := mem_delCalls hdel
  cases hl
  obtain ⟨t, ht, hgt⟩ := (toDelete_cases (candidates_nodup_of_nodup hnd) hc).1
  have hs := candidates_isSnap (toDelete_sub hc)
  rw [(inv_of_enabled he h).seen _ _ hs.2] at ht
  exact ⟨t, ht, hgt⟩

/-- Newest snapshot. Assume the clock handed to the runs never went backwards, snapshots appeared in
    timestamp order per instance, and the snapshots of one instance in the current listing have distinct
    timestamps. Then the newest listed snapshot of an instance is passed to `Delete` only if it is older
    than `removeOld` and not newer than the time recorded by SetCommitted for its instance.
    `_partial`: the property quantifies over all clock schedules, the monotone clock is an extra
    hypothesis; see `C12_newest_deleted_when_clock_goes_back`. -/
theorem C12_newest_protected_partial (h : List Ev) (now : Int) (l : List String) (df : String → Bool)
    (n : String) (i : Info)
    (hclock : MonotoneClock (h ++ [Ev.run now (some l) df]))
    (horder : AppearInOrder parse (h ++ [Ev.run now (some l) df]))
    (hdist : DistinctTimes parse l)
    (hnew : Newest parse l n i)
    (hdel : n ∈ (runOnce parse cfg (exec parse cfg h) now (some l) df).2.delCalls) :
    now - i.ts > cfg.removeOld ∧
      ∃ t, getCommitted (exec parse cfg h) i.inst = some t ∧ i.ts ≤ t := by
  obtain ⟨he, names, hl, c, hc, rfl⟩ := mem_delCalls hdel
  cases hl
  have hcs := candidates_isSnap (toDelete_sub hc)
  obtain ⟨hci, hct⟩ : c.inst = i.inst ∧ c.ts = i.ts := by
    have := hcs.2.1
    rw [hnew.1.1] at this
    cases this
    exact ⟨rfl, rfl⟩
  have hI := inv_of_enabled (parse := parse) he h
  have hres := toDelete_newest (candidates_nodup hdist) hc
    (fun e he' hne hinst => by
      have hes := candidates_isSnap he'
      rw [hct]
      exact hnew.2 e.name ⟨Gen.kindSnapshot, e.inst, e.ts⟩ hes.1 hne hes.2 (hinst.trans hci))
    (fun e he' hinst hlt t u ht hu => by
      have hes := candidates_isSnap he'
      rw [hI.seen _ _ hes.2] at ht
      rw [hI.seen _ _ hcs.2] at hu
      exact since_ordered h hclock.prefix horder.prefix e.name c.name _ _ t u hes.2 hcs.2 hinst hlt ht hu)
  rw [provenMerged_iff, hci, hct] at hres
  exact hres

/-- What GetCommitted returns was passed to SetCommitted for that instance earlier in the history. -/
theorem C12_committed_provenance (h : List Ev) (inst : String) (t : Int)
    (hc : getCommitted (exec parse cfg h) inst = some t) :
    ∃ m, Ev.commit m ∈ h ∧ (inst, t) ∈ m := by
  unfold getCommitted at hc
  induction h using rev_induction generalizing t with
  | nil => simp [exec, St.init] at hc
  | snoc h e ih =>
    have old : look inst (exec parse cfg h).committed = some t →
        ∃ m, Ev.commit m ∈ h ++ [e] ∧ (inst, t) ∈ m := fun hc =>
      (ih t hc).imp fun m hm => ⟨List.mem_append_left _ hm.1, hm.2⟩
    rw [exec_snoc, step_committed] at hc
    cases e with
    | commit m =>
      rw [look_append] at hc
      rcases Option.or_eq_some_iff.mp hc with hm | ⟨_, hc⟩
      · exact ⟨m, by simp, List.mem_reverse.mp (look_mem hm)⟩
      · exact old hc
    | run now l df => exact old hc

/-- Entries of `lastByInstance` are never removed (`maps.Copy`), and a SetCommitted that mentions the
    instance (once) overwrites it. -/
theorem C12_committed_update (h h' : List Ev) (inst : String) (m : List (String × Int)) (t : Int) :
    ((getCommitted (exec parse cfg h) inst).isSome = true →
      (getCommitted (exec parse cfg (h ++ h')) inst).isSome = true) ∧
    ((inst, t) ∈ m → (∀ u, (inst, u) ∈ m → u = t) →
      getCommitted (exec parse cfg (h ++ [Ev.commit m])) inst = some t) := by
  constructor
  · intro hs
    unfold getCommitted at hs ⊢
    rw [exec_append]
    generalize exec parse cfg h = st at hs
    induction h' generalizing st with
    | nil => exact hs
    | cons e es ih =>
      refine ih _ ?_
      rw [step_committed]
      cases e with
      | commit m => simp [look_append, hs]
      | run now l df => exact hs
  · intro hm hu
    unfold getCommitted
    rw [exec_snoc, step_committed, look_append,
      look_of_mem_unique (List.mem_reverse.mpr hm) fun u h => hu u (List.mem_reverse.mp h)]
    rfl

/-- Superseded snapshots are removed. In a run of an enabled cleaner whose List succeeds: a listed snapshot
    `a` for which a newer snapshot `b` of the same instance is listed, both first seen more than `mustKeep`
    ago, is passed to `Delete` (and deleted unless that `Delete` fails) — whatever the clock did before,
    whatever else is listed. "Eventually": this is the first such run after `since + mustKeep` has passed
    for both; that runs keep happening and the clock advances is the environment's part. -/
theorem C12_superseded_removed (h : List Ev) (now : Int) (l : List String) (df : String → Bool)
    (a b : String) (i j : Info) (ta tb : Int) (he : cfg.enabled = true)
    (ha : a ∈ l) (hb : b ∈ l) (hsa : IsSnap parse a i) (hsb : IsSnap parse b j)
    (hinst : j.inst = i.inst) (hts : i.ts < j.ts)
    (hta : since h a = some ta) (hga : now - ta > cfg.mustKeep)
    (htb : since h b = some tb) (hgb : now - tb > cfg.mustKeep) :
    a ∈ (runOnce parse cfg (exec parse cfg h) now (some l) df).2.delCalls ∧
      (df a = false → a ∈ (runOnce parse cfg (exec parse cfg h) now (some l) df).2.deleted) := by
  have hI := inv_of_enabled (parse := parse) he h
  have hnig : ∀ n k, IsSnap parse n k → n ∉ (exec parse cfg h).ignored := fun n k hs hin => by
    cases hs.1.symm.trans (hI.ignored n hin)
  have hca := candidate_of_isSnap (st := exec parse cfg h) ha hsa (hnig _ _ hsa)
  have hcb := candidate_of_isSnap (st := exec parse cfg h) hb hsb (hnig _ _ hsb)
  have hdel := toDelete_superseded (cfg := cfg) (now := now) hca hcb hinst hts
    (by rw [hI.seen _ _ hsa]; exact hta) hga (by rw [hI.seen _ _ hsb]; exact htb) hgb
  have hmem := List.mem_map_of_mem (f := (·.name)) hdel
  rw [runOnce_some he]
  exact ⟨hmem, fun hdf => List.mem_filter.mpr ⟨hmem, by simp [hdf]⟩⟩

/-- Bounded. After a run of an enabled cleaner in which List and every Delete succeed, at most one listed
    snapshot per instance that the cleaner has been seeing for longer than `mustKeep` is left — besides it
    only snapshots inside the keep window or first seen in this run remain. (With a bounded upload rate
    per instance the number of files per instance is therefore bounded; the rate is the environment's.) -/
theorem C12_bounded (h : List Ev) (now : Int) (l : List String) (df : String → Bool)
    (a b : String) (i j : Info) (ta tb : Int) (he : cfg.enabled = true)
    (hdist : DistinctTimes parse l) (hdf : ∀ n, df n = false)
    (ha : a ∈ l) (hb : b ∈ l) (hsa : IsSnap parse a i) (hsb : IsSnap parse b j)
    (hinst : i.inst = j.inst)
    (hta : since h a = some ta) (hga : now - ta > cfg.mustKeep)
    (htb : since h b = some tb) (hgb : now - tb > cfg.mustKeep)
    (hla : a ∉ (runOnce parse cfg (exec parse cfg h) now (some l) df).2.deleted)
    (hlb : b ∉ (runOnce parse cfg (exec parse cfg h) now (some l) df).2.deleted) :
    a = b := by
  refine Classical.byContradiction fun hne => ?_
  have hts : i.ts ≠ j.ts := by
    rcases pairwise_or hdist ha hb hne with hr | hr
    · exact hr i j hsa hsb hinst
    · exact fun e => hr j i hsb hsa hinst.symm e.symm
  rcases Int.lt_or_gt_of_ne hts with hlt | hgt
  · exact hla ((C12_superseded_removed parse cfg h now l df a b i j ta tb he ha hb hsa hsb
      hinst.symm hlt hta hga htb hgb).2 (hdf a))
  · exact hlb ((C12_superseded_removed parse cfg h now l df b a j i tb ta he hb ha hsb hsa
      hinst hgt htb hgb hta hga).2 (hdf b))

/-- Storage errors. A failing List: nothing is deleted and the Worker's state is unchanged. Failing
    Deletes: which names `Delete` is called on and the Worker's new state do not depend on which Deletes
    fail, and exactly the calls that do not fail delete. -/
theorem C12_errors_safe (st : St) (now : Int) (l : Option (List String)) (df df' : String → Bool) :
    ((runOnce parse cfg st now none df).1 = st ∧
      (runOnce parse cfg st now none df).2.delCalls = [] ∧
      (runOnce parse cfg st now none df).2.deleted = []) ∧
    ((runOnce parse cfg st now l df).1 = (runOnce parse cfg st now l df').1 ∧
      (runOnce parse cfg st now l df).2.delCalls = (runOnce parse cfg st now l df').2.delCalls) ∧
    (∀ n, n ∈ (runOnce parse cfg st now l df).2.deleted ↔
      n ∈ (runOnce parse cfg st now l df).2.delCalls ∧ df n = false) := by
  cases he : cfg.enabled with
  | false => simp [runOnce_disabled he, Out.none]
  | true =>
    refine ⟨by simp [runOnce_listFails he, Out.none], ?_, ?_⟩
    · cases l with
      | none => simp [runOnce_listFails he]
      | some names => simp [runOnce_some he]
    · intro n
      cases l with
      | none => simp [runOnce_listFails he, Out.none]
      | some names => simp [runOnce_some he, List.mem_filter]

/-- Disabled (the configuration a receive-only syncer creates its cleaner with): RunOnce neither lists nor
    deletes nor changes anything, in any state, and after any history the Worker has recorded nothing. -/
theorem C12_disabled (he : cfg.enabled = false) (st : St) (now : Int) (l : Option (List String))
    (df : String → Bool) (h : List Ev) :
    runOnce parse cfg st now l df = (st, { listCalls := 0, err := false, delCalls := [], deleted := [] }) ∧
    (exec parse cfg h).firstSeen = [] ∧ (exec parse cfg h).ignored = [] :=
  ⟨runOnce_disabled he l df, (exec_disabled he h).2, (exec_disabled he h).1⟩

/-- Receive-only: the configuration `syncer.New` hands to the cleaner in receive-only mode is disabled,
    whatever the configured cleanup settings, so that Worker never lists or deletes. (That `SendOnce`
    returns before `Store` in receive-only mode belongs to the sync-loop model, not to the cleaner's.) -/
theorem C12_receive_only (cc : Cfg) (st : St) (now : Int) (l : Option (List String))
    (df : String → Bool) :
    (syncerCleanerCfg true cc).enabled = false ∧
    runOnce parse (syncerCleanerCfg true cc) st now l df
      = (st, { listCalls := 0, err := false, delCalls := [], deleted := [] }) ∧
    syncerCleanerCfg false cc = cc :=
  ⟨rfl, runOnce_disabled rfl l df, rfl⟩

/-! ### witnesses (the concrete history lives in LsLemmas/CleanerWitness.lean) -/

/-- The monotone-clock hypothesis of `C12_newest_protected_partial` cannot be dropped (behaviour of the
    unchanged code, replayed on the real Worker by the harness): "S" is first listed at clock 100, the newer
    "N" appears and is first listed at clock 50 (the clock went back), at clock 120 with `mustKeep = 30` the
    older "S" counts as recent and marks the instance, "N" does not — and `Delete` is called on "N", the
    newest snapshot of its instance, although nothing was ever committed and it is not older than
    `removeOld`. Everything else the theorem assumes holds. -/
theorem C12_newest_deleted_when_clock_goes_back :
    let h : List Ev := [Ev.run 100 (some ["S"]) (fun _ => false), Ev.run 50 (some ["N", "S"]) (fun _ => false)]
    AppearInOrder wparse (h ++ [Ev.run 120 (some ["N", "S"]) (fun _ => false)]) ∧
    DistinctTimes wparse ["N", "S"] ∧
    Newest wparse ["N", "S"] "N" ⟨"snapshot", "a", 20⟩ ∧
    ¬ MonotoneClock (h ++ [Ev.run 120 (some ["N", "S"]) (fun _ => false)]) ∧
    (runOnce wparse wcfg (exec wparse wcfg h) 120 (some ["N", "S"]) (fun _ => false)).2.delCalls = ["N"] ∧
    getCommitted (exec wparse wcfg h) "a" = none ∧ ¬ ((120 : Int) - 20 > wcfg.removeOld) := by
  refine ⟨worder 100 50 120, wdistinct, wnewest, ?_, ?_, ?_, ?_⟩
  · simp [MonotoneClock, nows]
  · exact wrun_clock_back
  · exact wrun_nothing_committed 100 50
  · simp [wcfg]

/-- The hypotheses of the theorems above are satisfiable together, and non-vacuously: with the clock
    100, 110, 200 the same listings satisfy every assumption of `C12_newest_protected_partial`, and the
    run at 200 deletes exactly the superseded "S" (first seen 100 ago, newer "N" first seen 90 ago, keep
    interval 30) and keeps the newest "N". -/
example :
    let h : List Ev := [Ev.run 100 (some ["S"]) (fun _ => false), Ev.run 110 (some ["N", "S"]) (fun _ => false)]
    MonotoneClock (h ++ [Ev.run 200 (some ["N", "S"]) (fun _ => false)]) ∧
    AppearInOrder wparse (h ++ [Ev.run 200 (some ["N", "S"]) (fun _ => false)]) ∧
    DistinctTimes wparse ["N", "S"] ∧ ["N", "S"].Nodup ∧
    Newest wparse ["N", "S"] "N" ⟨"snapshot", "a", 20⟩ ∧
    since h "S" = some 100 ∧ since h "N" = some 110 ∧
    (runOnce wparse wcfg (exec wparse wcfg h) 200 (some ["N", "S"]) (fun _ => false)).2.deleted = ["S"] := by
  refine ⟨?_, worder 100 110 200, wdistinct, by simp, wnewest, ?_, ?_, ?_⟩
  · simp [MonotoneClock, nows]
  · simp [since, sinceStep]
  · simp [since, sinceStep]
  · exact wrun_monotone

end Ls.C12
