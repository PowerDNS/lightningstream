import LsLemmas.MergeRefine
/-
  C02 — Merging is an order-insensitive join that never moves a key backwards.
  Model: LsModel/Merge.lean (NativeIterator.Merge as it is in /repo, byte level).
  Abstract order: LsModel/Ver.lean.
-/
namespace Ls.C02
open Ls Ls.Header Ls.Merge

/-- The last-writer-wins relation is a strict total order: irreflexive, asymmetric, transitive,
    and any two distinct versions are comparable — the fixed, order-independent tie-break.
    Comparability is stated here for well-formed versions (deleted ⇒ no value), the ones Lightning
    Stream writes; it holds for all versions (`Ver.beats_total`). -/
theorem C02_order_strict_total :
    (∀ a : Ver, ¬ a.beats a) ∧
    (∀ a b : Ver, a.beats b → ¬ b.beats a) ∧
    (∀ a b c : Ver, a.beats b → b.beats c → a.beats c) ∧
    (∀ a b : Ver, a.WF → b.WF → a = b ∨ a.beats b ∨ b.beats a) :=
  ⟨Ver.beats_irrefl, fun _ _ => Ver.beats_asymm, fun _ _ _ => Ver.beats_trans,
   fun a b _ _ => Ver.beats_total a b⟩

/-- join (the winner of two optional versions) is idempotent, commutative and associative.
    Stated for well-formed versions; the three laws hold for all (`join_idem`, `join_comm`,
    `join_assoc`). -/
theorem C02_join_laws (a b c : Option Ver) (ha : OWF a) (hb : OWF b) (hc : OWF c) :
    join a a = a ∧ join a b = join b a ∧ join (join a b) c = join a (join b c) :=
  ⟨join_idem a, join_comm a b, join_assoc a b c⟩

/-- One byte-level merge step is the join at the level of logical content: for every stored
    value (absent, live, deleted, any timestamp incl. 0, any value incl. empty, any number of
    extension blocks — anything `Parse` accepts), every well-formed entry, format versions 1..3
    (any `fv`), any cut-off, provided the entry is not a stale marker refused on an absent key
    (always true for cut-off 0). Snapshot-load use (no default timestamp). -/
theorem C02_merge_is_join (c : Cfg) (e : KV) (old : Bytes) (ov : Option Ver)
    (hw : EntryWF e) (hb : Bounded c e) (hd : c.defTs = 0)
    (hold : decodeS old = .ok ov) (hst : ov = none → ¬ stale c e) :
    ∃ r, mergeStore c e old = .ok r ∧ decodeS r = .ok (join ov (some (norm c e))) :=
  mergeStore_join c e old ov hw hb hd hold hst

/-- Merging any list of entries, in list order, yields the join of the stored version with all
    of them (cut-off 0). -/
theorem C02_fold_is_joinAll (c : Cfg) (es : List KV) (old : Bytes) (ov : Option Ver)
    (hc : c.cutoff = 0) (hd : c.defTs = 0)
    (hes : ∀ e ∈ es, EntryWF e ∧ Bounded c e) (hold : decodeS old = .ok ov) :
    ∃ r, foldMerge c es old = .ok r ∧ decodeS r = .ok (joinAll ov (es.map (norm c))) := by
  induction es generalizing old ov with
  | nil => exact ⟨old, rfl, hold⟩
  | cons e es ih =>
    obtain ⟨hw, hb⟩ := hes e (by simp)
    obtain ⟨r1, h1, h1d⟩ := mergeStore_join c e old ov hw hb hd hold
      (fun _ hs => Nat.not_lt_zero _ (hc ▸ hs.2))
    obtain ⟨r, h2, h2d⟩ := ih r1 _ (fun e' he' => hes e' (by simp [he'])) h1d
    refine ⟨r, ?_, ?_⟩
    · simp only [foldMerge, List.foldlM_cons, h1] at h2 ⊢
      exact h2
    · simpa [joinAll] using h2d

/-- Merging a list of entries (cut-off 0) gives a result that depends only on the multiset of
    versions merged, not on their order: any permutation of the entries gives the same logical
    content. (The well-formedness of the stored version is not needed for this.) -/
theorem C02_any_order (c : Cfg) (es es' : List KV) (old : Bytes) (ov : Option Ver)
    (hp : es.Perm es') (hc : c.cutoff = 0) (hd : c.defTs = 0)
    (hes : ∀ e ∈ es, EntryWF e ∧ Bounded c e) (hold : decodeS old = .ok ov) (hov : OWF ov) :
    ∃ r r', foldMerge c es old = .ok r ∧ foldMerge c es' old = .ok r' ∧ decodeS r = decodeS r' := by
  obtain ⟨r, h1, h1d⟩ := C02_fold_is_joinAll c es old ov hc hd hes hold
  obtain ⟨r', h2, h2d⟩ := C02_fold_is_joinAll c es' old ov hc hd
    (fun e he => hes e (hp.mem_iff.mpr he)) hold
  refine ⟨r, r', h1, h2, ?_⟩
  rw [h1d, h2d, joinAll_eq_of_perm ov (hp.map (norm c))]

/-- The result of a merge (cut-off 0) does not depend on multiplicity either: merging an entry a
    second time changes nothing. (The well-formedness of the stored version is not needed.) -/
theorem C02_idempotent (c : Cfg) (e : KV) (old : Bytes) (ov : Option Ver)
    (hc : c.cutoff = 0) (hd : c.defTs = 0) (hw : EntryWF e) (hb : Bounded c e)
    (hold : decodeS old = .ok ov) (hov : OWF ov) :
    ∃ r r', foldMerge c [e] old = .ok r ∧ foldMerge c [e, e] old = .ok r' ∧ decodeS r = decodeS r' := by
  obtain ⟨r, h1, h1d⟩ := C02_fold_is_joinAll c [e] old ov hc hd (by simp [hw, hb]) hold
  obtain ⟨r', h2, h2d⟩ := C02_fold_is_joinAll c [e, e] old ov hc hd (by simp [hw, hb]) hold
  refine ⟨r, r', h1, h2, ?_⟩
  rw [h1d, h2d]
  exact congrArg _ (join_absorb ov (some (norm c e))).symm

/-- A merge never moves a stored key backwards — for every cut-off, format version, default
    timestamp (so also the shadow-capture use) and padding option: the result is the stored
    bytes themselves, or the entry, and then the entry strictly wins last-writer-wins. -/
theorem C02_never_backwards (c : Cfg) (e : KV) (old : Bytes) (o : Ver)
    (hw : EntryWF e) (hb : Bounded c e) (hold : decodeS old = .ok (some o)) :
    ∃ r, merge c e old = .ok (some r) ∧
      (r = old ∨ (decodeS r = .ok (some (norm c e)) ∧ (norm c e).beats o)) := by
  obtain ⟨hl, hdr, appVal, hp, ho⟩ := decodeS_some hold
  obtain ⟨hk1, hk2⟩ := merge_present c e old hdr appVal hl hp
  by_cases hk : keep c e hdr appVal
  · exact ⟨old, hk1 hk, Or.inl rfl⟩
  · refine ⟨_, hk2 hk, Or.inr ⟨decodeS_addHeader c e hb, ?_⟩⟩
    rw [ho]; exact not_keep_beats hw hk

/-- When the incoming version does not win, the stored bytes are left untouched: if the
    logical content after the merge equals the content before, the bytes are identical (so
    `setNewVal` writes nothing). -/
theorem C02_untouched (c : Cfg) (e : KV) (old r : Bytes) (o : Ver)
    (hw : EntryWF e) (hb : Bounded c e) (hold : decodeS old = .ok (some o))
    (hm : merge c e old = .ok (some r)) (hsame : decodeS r = .ok (some o)) : r = old := by
  obtain ⟨r', hm', h⟩ := C02_never_backwards c e old o hw hb hold
  rw [hm] at hm'; injection hm' with hm'; injection hm' with hm'; subst hm'
  rcases h with h | ⟨hd, hbeats⟩
  · exact h
  · rw [hsame] at hd; injection hd with hd; injection hd with hd
    rw [← hd] at hbeats; exact absurd hbeats (Ver.beats_irrefl o)

/-- Absent key: the entry is added with its header, unless it is a deletion marker older than
    the cut-off, which is refused (never for cut-off 0). -/
theorem C02_absent (c : Cfg) (e : KV) (hb : Bounded c e) :
    (stale c e → merge c e [] = .ok none) ∧
    (¬ stale c e → ∃ r, merge c e [] = .ok (some r) ∧ decodeS r = .ok (some (norm c e))) := by
  rw [merge_absent]
  constructor
  · intro h; unfold stale at h; rw [if_pos h]
  · intro h; unfold stale at h; rw [if_neg h]; exact ⟨_, rfl, decodeS_addHeader c e hb⟩

/-- A stored value that `Parse` rejects is never overwritten: the merge reports an error. -/
theorem C02_corrupt_old_is_error (c : Cfg) (e : KV) (old : Bytes) (err : Header.Err)
    (hl : old.length ≠ 0) (hp : parse old = .error err) : merge c e old = .error err :=
  merge_corrupt c e old err hl hp

/-- Shadow-capture use (entry timestamp 0, default timestamp = detection time): an unchanged
    application value leaves the stored bytes — and therefore its timestamp — untouched. -/
theorem C02_capture_unchanged (c : Cfg) (e : KV) (old : Bytes) (hdr : Hdr)
    (hl : old.length ≠ 0) (hp : parse old = .ok (hdr, e.val)) (h0 : e.ts = 0)
    (hlive : entryDeleted c e = false) : merge c e old = .ok (some old) := by
  apply (merge_present c e old hdr e.val hl hp).1
  left; exact ⟨h0, rfl, by simp [hlive]⟩

/-- Finding D12 (known, recorded): with a non-zero stale-deletion cut-off the result is **not**
    order-independent when the overall winner is a marker older than the cut-off — the marker is
    refused on an absent key but wins against an older live version that is already stored.
    This is the documented consequence of tombstone expiry (C04 requires the refusal); the
    order-independence theorems `C02_fold_is_joinAll`, `C02_any_order`, `C02_idempotent` are
    therefore stated for cut-off 0 only: for other cut-offs they hold only when no stale marker
    meets an absent key. -/
theorem C02_stale_order_dependent_witness :
    let c : Cfg := { fv := 3, defTs := 0, txn := 9, cutoff := 3, pad := false }
    let live : KV := { key := [0x6b], val := [0x61], ts := 1, flags := 0 }
    let mark : KV := { key := [0x6b], val := [], ts := 2, flags := 1 }
    (foldMerge c [mark, live] [] >>= decodeS) = .ok (some ⟨1, false, [0x61]⟩) ∧
    (foldMerge c [live, mark] [] >>= decodeS) = .ok (some ⟨2, true, []⟩) := by
  constructor <;> rfl

/-- non-vacuity: the hypotheses of `C02_merge_is_join` are met by a concrete tie at equal
    timestamps with a stored live empty value and an incoming deletion (finding D1's input). -/
example : EntryWF { key := [0x6b], val := [], ts := 2, flags := 1 } ∧
    Bounded { fv := 3, defTs := 0, txn := 9, cutoff := 0, pad := false }
      { key := [0x6b], val := [], ts := 2, flags := 1 } := by
  refine ⟨by decide, by decide, by decide, by decide⟩

end Ls.C02
