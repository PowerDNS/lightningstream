import LsLemmas.AbsFleet
/-
  The settle schedule on the abstract fleet: one round "everybody uploads, everybody merges every
  one of these uploads, everybody uploads again" brings ANY fleet (any prior content, any prior
  bucket; well-formedness is not needed) to a quiescent state in which every instance holds
  exactly the join (least upper bound) of all instances' prior databases.
-/
namespace Ls.Abs
open Ls

theorem step_n (f : Fleet) (s : Step) : (step f s).n = f.n := by
  cases s with
  | write i k v => rfl
  | send i => rfl
  | load i idx => simp only [step]; split <;> rfl

theorem run_n (f : Fleet) (steps : List Step) : (run f steps).n = f.n := by
  induction steps generalizing f with
  | nil => rfl
  | cons s rest ih =>
    simp only [run, List.foldl_cons]
    exact (ih (step f s)).trans (step_n f s)

/-- every instance `0..n-1` uploads, in this order -/
def sendAll (n : Nat) : List Step := (List.range n).map Step.send

/-- instance `i` loads the `n` snapshots at bucket indices `L..L+n-1`, in this order -/
def loadsOf (i n L : Nat) : List Step := (List.range n).map (fun j => Step.load i (L + j))

/-- every instance `0..m-1` loads the `n` snapshots at bucket indices `L..L+n-1` -/
def loadAll (m n L : Nat) : List Step := (List.range m).flatMap (fun i => loadsOf i n L)

/-- The settle schedule for `n` instances and a bucket that holds `L` snapshots before:
    every instance `0..n-1` uploads (the bucket gets the `n` snapshots at indices `L..L+n-1`);
    then every instance `i` loads every one of these `n` snapshots (`load i (L+j)` for all `j < n`);
    then every instance uploads again. -/
def settleSchedule (n L : Nat) : List Step := sendAll n ++ loadAll n n L ++ sendAll n

theorem sendAll_succ (n : Nat) : sendAll (n + 1) = sendAll n ++ [Step.send n] := by
  simp [sendAll, List.range_succ]

theorem loadsOf_succ (i n L : Nat) : loadsOf i (n + 1) L = loadsOf i n L ++ [Step.load i (L + n)] := by
  simp [loadsOf, List.range_succ]

theorem loadAll_succ (m n L : Nat) : loadAll (m + 1) n L = loadAll m n L ++ loadsOf m n L := by
  simp [loadAll, List.range_succ, List.flatMap_append]

/-- `d ⊔ S 0 ⊔ … ⊔ S (n-1)` -/
def joinRange (S : Nat → DB) (d : DB) (n : Nat) : DB :=
  (List.range n).foldl (fun acc j => acc.join (S j)) d

theorem joinRange_zero (S : Nat → DB) (d : DB) : joinRange S d 0 = d := rfl

theorem joinRange_succ (S : Nat → DB) (d : DB) (n : Nat) :
    joinRange S d (n + 1) = (joinRange S d n).join (S n) := by
  simp [joinRange, List.range_succ, List.foldl_append]

theorem joinRange_eq_foldl (S : Nat → DB) (d : DB) (n : Nat) :
    joinRange S d n = ((List.range n).map S).foldl DB.join d := by
  rw [List.foldl_map]; rfl

theorem joinRange_wf {S : Nat → DB} {d : DB} {n : Nat} (hd : d.WF) (hS : ∀ j, j < n → (S j).WF) :
    (joinRange S d n).WF := by
  rw [joinRange_eq_foldl]
  exact foldl_join_wf hd (List.forall_mem_map.mpr fun j hj => hS j (List.mem_range.mp hj))

/-- `joinRange S d n` is the least upper bound of `d, S 0, …, S (n-1)` -/
theorem joinRange_lub (S : Nat → DB) (d : DB) (n : Nat) :
    d.le (joinRange S d n) ∧ (∀ j, j < n → (S j).le (joinRange S d n)) ∧
    ∀ c : DB, d.le c → (∀ j, j < n → (S j).le c) → (joinRange S d n).le c := by
  rw [joinRange_eq_foldl]
  obtain ⟨h0, h1, h2⟩ := foldl_join_lub ((List.range n).map S) d
  exact ⟨h0, fun j hj => h1 _ (List.mem_map_of_mem (List.mem_range.mpr hj)),
    fun c hd hc => h2 c hd (List.forall_mem_map.mpr fun j hj => hc j (List.mem_range.mp hj))⟩

theorem le_joinRange_init {S : Nat → DB} {d : DB} {n : Nat} (hd : d.WF) (hS : ∀ j, j < n → (S j).WF) :
    d.le (joinRange S d n) := (joinRange_lub S d n).1

/-- starting the join from one of the joined databases gives the same as starting from nothing -/
theorem joinRange_self (S : Nat → DB) {n i : Nat} (hi : i < n) :
    joinRange S (S i) n = joinRange S DB.empty n := by
  obtain ⟨_, a1, a2⟩ := joinRange_lub S (S i) n
  obtain ⟨_, b1, b2⟩ := joinRange_lub S DB.empty n
  exact (a2 _ (b1 i hi) b1).antisymm (b2 _ (empty_le _) a1)

/-- the join of all instances' databases -/
def allJoin (f : Fleet) : DB := (List.range f.n).foldl (fun acc j => acc.join (f.db j)) DB.empty

theorem allJoin_eq (f : Fleet) : allJoin f = joinRange f.db DB.empty f.n := rfl

theorem allJoin_wf {f : Fleet} (hwf : FleetWF f) : (allJoin f).WF :=
  joinRange_wf empty_wf (fun j _ => hwf.1 j)

theorem le_allJoin (f : Fleet) (j : Nat) (hj : j < f.n) : (f.db j).le (allJoin f) :=
  (joinRange_lub f.db DB.empty f.n).2.1 j hj

theorem allJoin_le (f : Fleet) {d : DB} (h : ∀ j, j < f.n → (f.db j).le d) : (allJoin f).le d :=
  (joinRange_lub f.db DB.empty f.n).2.2 d (empty_le d) h

/-- after `sendAll n` the bucket has the `n` images appended; nothing else changed -/
theorem run_sendAll (f : Fleet) (n : Nat) :
    run f (sendAll n) =
      { f with bucket := f.bucket ++ (List.range n).map (fun i => (i, f.db i)) } := by
  induction n with
  | zero => simp [sendAll, run]
  | succ n ih =>
    rw [sendAll_succ, run_append, ih]
    simp [run, step, List.range_succ]

/-- the `j`-th of the appended images -/
theorem getElem?_sent (b : List (Nat × DB)) (D : Nat → DB) (n j : Nat) (hj : j < n) :
    (b ++ (List.range n).map (fun i => (i, D i)))[b.length + j]? = some (j, D j) := by
  rw [List.getElem?_append_right (by omega)]
  simp [hj]

/-- one instance's loads: it ends with its database joined with all the loaded snapshots;
    the other instances and the bucket are untouched -/
theorem run_loadsOf (f : Fleet) (S : Nat → DB) (i n L : Nat)
    (hb : ∀ j, j < n → ∃ id, f.bucket[L + j]? = some (id, S j)) :
    run f (loadsOf i n L) =
      { f with db := fun j => if j = i then joinRange S (f.db i) n else f.db j } := by
  induction n with
  | zero =>
    have : (fun j => if j = i then f.db i else f.db j) = f.db := by
      funext j; by_cases h : j = i <;> simp [h]
    simp [loadsOf, run, joinRange_zero, this]
  | succ n ih =>
    rw [loadsOf_succ, run_append, ih (fun j hj => hb j (by omega))]
    obtain ⟨id, hid⟩ := hb n (by omega)
    simp only [run, List.foldl_cons, List.foldl_nil, step, hid]
    congr 1
    funext j
    by_cases h : j = i <;> simp [h, joinRange_succ]

theorem run_loadAll (f : Fleet) (S : Nat → DB) (m n L : Nat)
    (hb : ∀ j, j < n → ∃ id, f.bucket[L + j]? = some (id, S j)) :
    run f (loadAll m n L) =
      { f with db := fun i => if i < m then joinRange S (f.db i) n else f.db i } := by
  induction m with
  | zero => simp [loadAll, run]
  | succ m ih =>
    rw [loadAll_succ, run_append, ih, run_loadsOf _ S m n L (by simpa using hb)]
    congr 1
    funext j
    by_cases h1 : j = m
    · subst h1; simp
    · by_cases h2 : j < m
      · have : j < m + 1 := by omega
        simp [h1, h2, this]
      · have : ¬ j < m + 1 := by omega
        simp [h1, h2, this]

theorem newest_snoc (b : List (Nat × DB)) (i j : Nat) (d : DB) :
    newest (b ++ [(i, d)]) j = if i = j then some d else newest b j := by
  by_cases h : i = j <;> simp [newest, List.filter_append, h]

theorem newest_sent (b : List (Nat × DB)) (D : Nat → DB) (n j : Nat) (hj : j < n) :
    newest (b ++ (List.range n).map (fun i => (i, D i))) j = some (D j) := by
  induction n with
  | zero => omega
  | succ n ih =>
    rw [List.range_succ, List.map_append, ← List.append_assoc, List.map_singleton, newest_snoc]
    by_cases h : n = j
    · subst h; simp
    · rw [if_neg h]; exact ih (by omega)

/-- what every instance holds after the merge phase -/
def settled (f : Fleet) : Nat → DB :=
  fun i => if i < f.n then joinRange f.db (f.db i) f.n else f.db i

/-- the state after the settle schedule, explicitly (no well-formedness needed) -/
theorem run_settle (f : Fleet) :
    run f (settleSchedule f.n f.bucket.length) =
      { n := f.n, db := settled f,
        bucket := (f.bucket ++ (List.range f.n).map (fun i => (i, f.db i))) ++
          (List.range f.n).map (fun i => (i, settled f i)) } := by
  unfold settleSchedule
  rw [run_append, run_append, run_sendAll f f.n]
  rw [run_loadAll _ f.db f.n f.n f.bucket.length
    (fun j hj => ⟨j, getElem?_sent f.bucket f.db f.n j hj⟩)]
  rw [run_sendAll]
  rfl

theorem settled_eq_allJoin (f : Fleet) (i : Nat) (hi : i < f.n) : settled f i = allJoin f := by
  simp only [settled, if_pos hi, allJoin_eq]
  exact joinRange_self f.db hi

/-- after the settle schedule the fleet is quiescent -/
theorem settle_quiescent (f : Fleet) : Quiescent (run f (settleSchedule f.n f.bucket.length)) := by
  rw [run_settle]
  intro j (hj : j < f.n)
  refine ⟨settled f j, newest_sent _ _ _ _ hj, rfl, fun i (hi : i < f.n) => ?_⟩
  show (settled f j).le (settled f i)
  rw [settled_eq_allJoin f j hj, settled_eq_allJoin f i hi]
  exact le_refl _

/-- after the settle schedule every instance holds the join of all prior databases -/
theorem settle_db (f : Fleet) (i : Nat) (hi : i < f.n) :
    (run f (settleSchedule f.n f.bucket.length)).db i = allJoin f := by
  rw [run_settle]
  exact settled_eq_allJoin f i hi

end Ls.Abs
