import LsLemmas.TxnLoad
import LsLemmas.AbsFleetInv
/-
  The abstraction of the byte-level environments and snapshots (LsModel/Txn.lean) to the abstract
  databases of LsLemmas/AbsFleet.lean (`Abs.DB = (DBI name × key) → Option Ver`), and the
  simulation of the byte-level transactions by the steps of the abstract fleet.
  For either schema mode: `loadDbi_spec` (one snapshot message, as the lookup table of the DBIs
  afterwards), `loadFold_join` (the loop over the messages), `dump_abs` (the messages a send
  dumps). For a native schema: `loadOnce_abs`, `sendOnce_abs`, `appPut_abs`, and the byte-level
  fleet with its per-step simulation `bstep_refines`, from which LsProps/C01Refine.lean gets the
  run theorem by `Abs.run_refines` (AbsFleetInv.lean). Shadow mode: TxnAbsShadow, TxnAbsShadowRun.
-/
namespace Ls.Txn
open Ls Ls.Lmdb Ls.Strategy Ls.Merge

/-- logical content of an optional stored value: absent → `none`; an unparsable value → `none`
    (all theorems assume stored values parse) -/
def decodeO (o : Option Bytes) : Option Ver :=
  match o with
  | none => none
  | some b =>
    match decodeS b with
    | .ok v => v
    | .error _ => none

/-- logical content of one DBI at a key: `decodeS` of the value LMDB finds for the key in the
    DBI's own key order -/
def absDbi (d : Dbi) (k : Bytes) : Option Ver := decodeO (get (isIntKey d.flags) d.kvs k)

/-- logical content of a list of DBIs; private DBIs (`_sync…`) carry no logical content -/
def absDbis (dbis : List Dbi) : Abs.DB := fun key =>
  if isPrivate key.1 then none else
  match findDbi dbis key.1 with
  | none => none
  | some d => absDbi d key.2

/-- **the logical content of an environment** -/
def absEnv (e : Env) : Abs.DB := absDbis e.dbis

/-- the part of an iterator configuration `norm` reads when a snapshot is loaded: the snapshot's
    format version, no default timestamp -/
def normCfg (fv : Nat) : Merge.Cfg := { fv := fv, defTs := 0, txn := 0, cutoff := 0, pad := false }

/-- logical content of one DBI message at a key: the join of the normal forms of all entries with
    that key (in the order of the DBI the message describes) — with strictly increasing keys there
    is at most one such entry -/
def absMsg (fv : Nat) (m : DbiMsg) (k : Bytes) : Option Ver :=
  joinAll none ((m.entries.filter (fun e => kcmp (isIntKey m.flags) e.key k = 0)).map (norm (normCfg fv)))

/-- logical content of a list of DBI messages (the first message with the name counts; the
    theorems assume distinct names); messages for private names carry no logical content -/
def absMsgs (fv : Nat) (dbs : List DbiMsg) : Abs.DB := fun key =>
  if isPrivate key.1 then none else
  match dbs.find? (fun m => m.name = key.1) with
  | none => none
  | some m => absMsg fv m key.2

/-- **the logical content of a snapshot** -/
def absSnap (s : Snap) : Abs.DB := absMsgs s.fv s.dbs

/-- a stored value parses and its logical content is well-formed (deleted ⇒ no value) -/
def StoredWF (b : Bytes) : Prop :=
  match decodeS b with
  | .ok (some v) => v.WF
  | _ => False

instance (b : Bytes) : Decidable (StoredWF b) := by
  unfold StoredWF; split <;> exact inferInstance

theorem storedWF_iff {b : Bytes} : StoredWF b ↔ ∃ v, decodeS b = .ok (some v) ∧ v.WF := by
  unfold StoredWF
  constructor
  · intro h
    split at h
    · rename_i v hv; exact ⟨v, hv, h⟩
    · exact h.elim
  · rintro ⟨v, hv, hw⟩
    rw [hv]; exact hw

/-- the content of a DBI with key order `ik`: strictly sorted, keys acceptable to LMDB, every
    value parses to a well-formed version -/
def KvsWF (ik : Bool) (db : KVs) : Prop :=
  Sorted ik db ∧ ∀ p ∈ db, badKey p.1 = false ∧ StoredWF p.2

instance (ik : Bool) (db : KVs) : Decidable (KvsWF ik db) := by
  unfold KvsWF; exact inferInstance

/-- a DBI is well-formed: its content is, in its own key order -/
def DbiWF (d : Dbi) : Prop := KvsWF (isIntKey d.flags) d.kvs

instance (d : Dbi) : Decidable (DbiWF d) := by unfold DbiWF; exact inferInstance

/-- **well-formed environment** (native schema): DBI names strictly increasing (LMDB's root DBI),
    and every non-private DBI strictly sorted by its key order, with keys of 1..511 bytes and
    values that parse to a well-formed version -/
def EnvWF (e : Env) : Prop :=
  SortedNames e.dbis ∧ ∀ d ∈ e.dbis, isPrivate d.name = false → DbiWF d

instance (e : Env) : Decidable (EnvWF e) := by unfold EnvWF; exact inferInstance

/-- the same, phrased with lookups -/
def DbisOk (dbis : List Dbi) : Prop :=
  ∀ n d, findDbi dbis n = some d → isPrivate n = false → DbiWF d

theorem dbisOk_of_mem {dbis : List Dbi} (h : ∀ d ∈ dbis, isPrivate d.name = false → DbiWF d) :
    DbisOk dbis := by
  intro n d hf hp
  have hn := findDbi_name hf
  exact h d (findDbi_mem hf) (by rw [hn]; exact hp)

theorem mem_of_dbisOk {dbis : List Dbi} (hs : SortedNames dbis) (h : DbisOk dbis) :
    ∀ d ∈ dbis, isPrivate d.name = false → DbiWF d :=
  fun d hd hp => h d.name d (findDbi_of_mem hs hd) hp

/-- the entries of a DBI message are well-formed: a deleted entry carries no value (`EntryWF`),
    the timestamp is a uint64, the key is acceptable to LMDB (1..511 bytes) -/
def MsgWF (m : DbiMsg) : Prop := ∀ e ∈ m.entries, EntryWF e ∧ e.ts < two64 ∧ badKey e.key = false

instance (m : DbiMsg) : Decidable (MsgWF m) := by unfold MsgWF; exact inferInstance

/-- the DBI the message is merged into — the existing one, or the one created from the message
    (`createFlags`: override or the message's flags, mod 2^16) — has the key order the message
    says (the same integer-key flag), so that no key changes its meaning -/
def FlagsOk (c : Cfg) (dbis : List Dbi) (m : DbiMsg) : Prop :=
  isIntKey ((findDbi dbis m.name).getD (newDbi m.name (createFlags c m))).flags = isIntKey m.flags

instance (c : Cfg) (dbis : List Dbi) (m : DbiMsg) : Decidable (FlagsOk c dbis m) := by
  unfold FlagsOk; exact inferInstance

/-- a snapshot is well-formed by itself: the messages have distinct DBI names, and every message
    for a non-private name has well-formed entries (`MsgWF`) -/
def SnapOk (s : Snap) : Prop :=
  (s.dbs.map (·.name)).Nodup ∧ ∀ m ∈ s.dbs, isPrivate m.name = false → MsgWF m

instance (s : Snap) : Decidable (SnapOk s) := by unfold SnapOk; exact inferInstance

/-- **well-formed snapshot, relative to the environment it is loaded into**: `SnapOk`, and every
    message for a non-private name has the key order of its target DBI (`FlagsOk`) -/
def SnapWF (c : Cfg) (e : Env) (s : Snap) : Prop :=
  SnapOk s ∧ ∀ m ∈ s.dbs, isPrivate m.name = false → FlagsOk c e.dbis m

instance (c : Cfg) (e : Env) (s : Snap) : Decidable (SnapWF c e s) := by
  unfold SnapWF; exact inferInstance

theorem decodeS_nil : decodeS [] = .ok none := rfl

theorem decodeO_some {b : Bytes} {o : Ver} (h : decodeS b = .ok (some o)) : decodeO (some b) = some o := by
  simp only [decodeO, h]

theorem decodeS_getD {o : Option Bytes} (h : ∀ b, o = some b → StoredWF b) :
    decodeS (o.getD []) = .ok (decodeO o) ∧ OWF (decodeO o) := by
  cases o with
  | none => exact ⟨rfl, trivial⟩
  | some b =>
    obtain ⟨v, hd, hw⟩ := storedWF_iff.mp (h b rfl)
    rw [decodeO_some hd]
    exact ⟨hd, hw⟩

theorem of_get {ik : Bool} {db : KVs} {P : Bytes → Prop} (h : ∀ p ∈ db, P p.2) {k b : Bytes}
    (hg : get ik db k = some b) : P b := by
  obtain ⟨k', hm, _⟩ := get_some_mem hg
  exact h _ hm

theorem values_of_get {ik : Bool} {db : KVs} (hs : Sorted ik db) {P : Bytes → Prop}
    (h : ∀ k b, get ik db k = some b → P b) : ∀ p ∈ db, P p.2 :=
  fun p hp => h p.1 p.2 (get_of_mem hs hp)

theorem kvsWF_nil (ik : Bool) : KvsWF ik [] := ⟨sorted_nil ik, fun _ h => by cases h⟩

theorem absDbi_wf {d : Dbi} (h : DbiWF d) (k : Bytes) : OWF (absDbi d k) :=
  (decodeS_getD fun _ hb => of_get (fun p hp => (h.2 p hp).2) hb).2

/-- one decision of a `NativeIterator` (cut-off 0, no default timestamp) about a well-formed stored
    value: what `strategy.Update` then stores is well-formed again and denotes the join with the
    entry's normal form (`mergeStore_join`; the join is never absent, so nothing is deleted) -/
theorem mergeStep_abs {mc : Merge.Cfg} (hc : mc.cutoff = 0) (hd : mc.defTs = 0) (ht : mc.txn < two64)
    {e : KV} (hw : EntryWF e) (hts : e.ts < two64) {o : Option Bytes}
    (ho : ∀ b, o = some b → StoredWF b) {v : Option Bytes} (h : merge mc e (o.getD []) = .ok v) :
    (∀ b, setNew v = some b → StoredWF b) ∧
    decodeO (setNew v) = join (decodeO o) (some (norm mc e)) := by
  obtain ⟨hdec, howf⟩ := decodeS_getD ho
  obtain ⟨r, hr, hrd⟩ := mergeStore_join mc e _ _ hw ⟨by rw [hd]; decide, ht, hts⟩ hd hdec
    (fun _ hs => by have := hs.2; rw [hc] at this; omega)
  obtain ⟨x, hx⟩ : ∃ x, join (decodeO o) (some (norm mc e)) = some x := by
    cases decodeO o <;> exact ⟨_, rfl⟩
  have hxw : x.WF := by
    have := join_wf howf (show OWF (some (norm mc e)) from norm_wf mc e)
    rw [hx] at this; exact this
  rw [hx] at hrd ⊢
  have hv : setNew v = some r := by
    unfold mergeStore at hr
    rw [h] at hr
    cases v with
    | none => cases hr; cases hrd
    | some b =>
      cases hr
      simp only [setNew, (decodeS_some hrd).1, if_false]
  rw [hv]
  exact ⟨fun b hb => by cases hb; exact storedWF_iff.mpr ⟨x, hrd, hxw⟩, decodeO_some hrd⟩

theorem mergeFold_abs {mc : Merge.Cfg} (hc : mc.cutoff = 0) (hd : mc.defTs = 0) (ht : mc.txn < two64)
    (es : List KV) (hes : ∀ e ∈ es, EntryWF e ∧ e.ts < two64) :
    ∀ {o o' : Option Bytes}, (∀ b, o = some b → StoredWF b) →
      es.foldlM (fun cur e => do
        let v ← (nativeIter mc).merge e (cur.getD []); pure (setNew v)) o = .ok o' →
      (∀ b, o' = some b → StoredWF b) ∧ decodeO o' = joinAll (decodeO o) (es.map (norm mc)) := by
  induction es with
  | nil => intro o o' ho h; cases h; exact ⟨ho, rfl⟩
  | cons e es ih =>
    intro o o' ho h
    rw [List.foldlM_cons] at h
    obtain ⟨o1, h1, h2⟩ := except_bind_ok h
    obtain ⟨v, hv, h3⟩ := except_bind_ok h1
    cases h3
    obtain ⟨hw, hts⟩ := hes e (by simp)
    obtain ⟨ho1, hd1⟩ := mergeStep_abs hc hd ht hw hts ho hv
    obtain ⟨ho', hd'⟩ := ih (fun e' he' => hes e' (by simp [he'])) ho1 h2
    exact ⟨ho', by rw [hd', hd1]; rfl⟩

theorem specUpdate_keys {ik : Bool} (it : Iter KV Header.Err) (input : List KV) (db db' : KVs)
    (hk : ∀ e ∈ input, badKey (it.key e) = false) (hdb : ∀ p ∈ db, badKey p.1 = false)
    (h : specUpdate ik it db input = .ok db') : ∀ p ∈ db', badKey p.1 = false := by
  rw [specUpdate_eq_fold] at h
  induction input generalizing db with
  | nil => cases h; exact hdb
  | cons e es ih =>
    rw [List.foldlM_cons] at h
    obtain ⟨db1, h1, h2⟩ := except_bind_ok h
    refine ih db1 (fun e' he' => hk e' (by simp [he'])) ?_ h2
    unfold specStep at h1
    split at h1
    · cases h1
    · rename_i v _
      cases h1
      cases hsv : setNew v with
      | none => exact fun p hp => hdb p (del_mem p (by simpa [applyOpt] using hp))
      | some b => exact put_forall (fun k => badKey k = false) hdb (hk e (by simp))

theorem update_abs (ik : Bool) (mc : Merge.Cfg) (db : KVs) (d : Bool) (es : List KV) (s' : S)
    (hc : mc.cutoff = 0) (hd : mc.defTs = 0) (ht : mc.txn < two64)
    (hwf : KvsWF ik db)
    (hes : ∀ e ∈ es, EntryWF e ∧ e.ts < two64 ∧ badKey e.key = false)
    (h : update ik (nativeIter mc) ⟨db, d⟩ es = .ok s') :
    KvsWF ik s'.db ∧
    ∀ k, decodeO (get ik s'.db k) =
      join (decodeO (get ik db k))
        (joinAll none ((es.filter (fun e => kcmp ik e.key k = 0)).map (norm mc))) := by
  obtain ⟨hs, hkv⟩ := hwf
  have hst : ∀ k b, get ik db k = some b → StoredWF b := fun _ _ => of_get fun p hp => (hkv p hp).2
  have hk0 : ∀ e ∈ es, ((nativeIter mc).key e).length ≠ 0 := by
    intro e he h0
    have := (hes e he).2.2
    have h0' : e.key.length = 0 := h0
    simp [badKey, h0'] at this
  rw [update_eq_spec (nativeIter mc) es (s := ⟨db, d⟩) hs hk0] at h
  have h2 : specUpdate ik (nativeIter mc) db es = .ok s'.db := specUpdateS_ok _ es h
  have hs' : Sorted ik s'.db := specUpdate_sorted _ es hs h2
  have key := fun k => mergeFold_abs hc hd ht (es.filter (fun e => kcmp ik e.key k = 0))
    (fun e he => ⟨(hes e (List.mem_filter.mp he).1).1, (hes e (List.mem_filter.mp he).1).2.1⟩)
    (hst k) (specUpdate_get (nativeIter mc) es k hs h2)
  refine ⟨⟨hs', fun p hp => ⟨specUpdate_keys (nativeIter mc) es db s'.db (fun e he => (hes e he).2.2)
    (fun q hq => (hkv q hq).1) h2 p hp, (key p.1).1 p.2 (get_of_mem hs' hp)⟩⟩, fun k => ?_⟩
  rw [(key k).2]
  exact joinAll_eq_join _ _

theorem absDbis_private {dbis : List Dbi} {n : Bytes} (hp : isPrivate n = true) (k : Bytes) :
    absDbis dbis (n, k) = none := by
  simp only [absDbis, hp, if_true]

theorem absDbis_of_none {dbis : List Dbi} {n : Bytes} (hd : findDbi dbis n = none) (k : Bytes) :
    absDbis dbis (n, k) = none := by
  simp only [absDbis, hd]; split <;> rfl

theorem absDbis_of_find {dbis : List Dbi} {n : Bytes} {d : Dbi} (hp : isPrivate n = false)
    (hd : findDbi dbis n = some d) (k : Bytes) : absDbis dbis (n, k) = absDbi d k := by
  simp only [absDbis, hp, hd, Bool.false_eq_true, if_false]

theorem absDbis_congr {d1 d2 : List Dbi} {n : Bytes} (h : findDbi d1 n = findDbi d2 n) (k : Bytes) :
    absDbis d1 (n, k) = absDbis d2 (n, k) := by
  simp only [absDbis, h]

theorem absMsgs_private {fv : Nat} {dbs : List DbiMsg} {n : Bytes} (hp : isPrivate n = true) (k : Bytes) :
    absMsgs fv dbs (n, k) = none := by
  simp only [absMsgs, hp, if_true]

theorem absMsgs_none {fv : Nat} {dbs : List DbiMsg} {key : Abs.Key}
    (h : ∀ m ∈ dbs, m.name ≠ key.1) : absMsgs fv dbs key = none := by
  unfold absMsgs
  have : dbs.find? (fun m => m.name = key.1) = none := by
    simp only [List.find?_eq_none, decide_eq_true_eq]
    exact h
  rw [this]
  split <;> rfl

theorem absMsgs_of_find {fv : Nat} {dbs : List DbiMsg} {n : Bytes} {m : DbiMsg}
    (hp : isPrivate n = false) (hf : dbs.find? (fun m => m.name = n) = some m) (k : Bytes) :
    absMsgs fv dbs (n, k) = absMsg fv m k := by
  simp only [absMsgs, hp, hf, Bool.false_eq_true, if_false]

theorem absMsgs_cons_other {fv : Nat} {m : DbiMsg} {n : Bytes}
    (h : m.name ≠ n ∨ isPrivate m.name = true) (rest : List DbiMsg) (k : Bytes) :
    absMsgs fv (m :: rest) (n, k) = absMsgs fv rest (n, k) := by
  by_cases hp : isPrivate n = true
  · rw [absMsgs_private hp, absMsgs_private hp]
  · have hne : ¬ m.name = n := by
      rcases h with h | h
      · exact h
      · intro he; rw [he] at h; exact hp h
    simp [absMsgs, hne]

/-- the application DBI a message concerns, as `createDbis` leaves it: the existing one, or the
    one created from the message -/
def appDbi (c : Cfg) (dbis : List Dbi) (m : DbiMsg) : Dbi :=
  (findDbi dbis m.name).getD (newDbi m.name (createFlags c m))

/-- the DBI a message is merged into, as `createDbis` leaves it: the application DBI for a native
    schema, else its shadow — existing, or created with `shadowCreateFlags` -/
def targetDbi (c : Cfg) (dbis : List Dbi) (m : DbiMsg) : Dbi :=
  if c.native then appDbi c dbis m
  else (findDbi dbis (shadowName m.name)).getD (newDbi (shadowName m.name) (shadowCreateFlags c m))

theorem absDbi_getD (dbis : List Dbi) (n : Bytes) (fl : Nat) (k : Bytes) :
    absDbi ((findDbi dbis n).getD (newDbi n fl)) k =
      match findDbi dbis n with
      | none => none
      | some d => absDbi d k := by
  cases findDbi dbis n <;> rfl

/-- One non-private DBI message in either mode (cut-off 0), as the lookup table of the DBIs
    afterwards; `loadDbi_abs` and `loadDbi_abs_sh` are its two readings. -/
theorem loadDbi_spec {c : Cfg} {snap : Snap} {txnID : Nat} {w w' : W} {m : DbiMsg}
    (hp : isPrivate m.name = false) (ht : txnID < two64) (hmw : MsgWF m)
    (hwf : DbiWF (targetDbi c w.dbis m))
    (hfl : isIntKey (targetDbi c w.dbis m).flags = isIntKey m.flags)
    (h : loadDbi c snap txnID 0 w m = .ok w') :
    ∃ kvs, DbiWF { targetDbi c w.dbis m with kvs := kvs } ∧
      (∀ k, absDbi { targetDbi c w.dbis m with kvs := kvs } k =
        join (absDbi (targetDbi c w.dbis m) k) (absMsg snap.fv m k)) ∧
      ∀ n, findDbi w'.dbis n =
        if n = targetName c m then some { targetDbi c w.dbis m with kvs := kvs }
        else if n = m.name then some (appDbi c w.dbis m) else findDbi w.dbis n := by
  obtain ⟨_, w1, h1, h2⟩ := loadDbi_ok hp h
  obtain ⟨_, td, s, htd, hs, rfl⟩ := mergeDbi_ok h2
  have hl1 : ∀ n, findDbi w1.dbis n =
      if n = targetName c m then some (targetDbi c w.dbis m)
      else if n = m.name then some (appDbi c w.dbis m) else findDbi w.dbis n := by
    intro n
    rw [createDbis_lookup h1 n]
    unfold targetName targetDbi appDbi
    cases c.native
    · rfl
    · simp only [if_true]; split <;> rfl
  have htd' : td = targetDbi c w.dbis m := by
    have := hl1 (targetName c m)
    rw [if_pos rfl, htd] at this
    exact Option.some.inj this
  subst htd'
  obtain ⟨hwf', hpt⟩ := update_abs (isIntKey (targetDbi c w.dbis m).flags)
    { fv := snap.fv, defTs := 0, txn := txnID, cutoff := 0, pad := c.pad }
    _ w1.dirty m.entries s rfl rfl ht hwf hmw (mapStratErr_eq_ok hs)
  refine ⟨s.db, hwf', fun k => ?_, fun n => ?_⟩
  · have hnorm : norm { fv := snap.fv, defTs := 0, txn := txnID, cutoff := 0, pad := c.pad } =
        norm (normCfg snap.fv) := funext fun _ => rfl
    show decodeO (get _ s.db k) = _
    rw [hpt k, hnorm]
    unfold absDbi absMsg
    rw [hfl]
  · show findDbi (setKvs w1.dbis _ _) n = _
    rw [findDbi_setKvs_of_find htd, hl1]
    split <;> rfl

theorem loadDbi_abs {c : Cfg} {snap : Snap} {txnID : Nat} {w w' : W} {m : DbiMsg}
    (hn : c.native = true) (ht : txnID < two64) (hp : isPrivate m.name = false)
    (hok : DbisOk w.dbis) (hm : MsgWF m ∧ FlagsOk c w.dbis m)
    (h : loadDbi c snap txnID 0 w m = .ok w') :
    DbisOk w'.dbis ∧
    (∀ n, n ≠ m.name → findDbi w'.dbis n = findDbi w.dbis n) ∧
    ∀ n k, absDbis w'.dbis (n, k) =
      if n = m.name then join (absDbis w.dbis (n, k)) (absMsg snap.fv m k) else absDbis w.dbis (n, k) := by
  have htd : targetDbi c w.dbis m = appDbi c w.dbis m := by simp only [targetDbi, hn, if_true]
  have hwf : DbiWF (appDbi c w.dbis m) := by
    unfold appDbi
    cases hf : findDbi w.dbis m.name with
    | some d => exact hok _ _ hf hp
    | none => exact kvsWF_nil _
  obtain ⟨kvs, hwf', hpt, hlook⟩ := loadDbi_spec hp ht hm.1 (htd ▸ hwf) (htd ▸ hm.2) h
  have hlook' : ∀ n, findDbi w'.dbis n =
      if n = m.name then some { appDbi c w.dbis m with kvs := kvs } else findDbi w.dbis n := by
    intro n
    rw [hlook, htd]
    simp only [targetName, hn, if_true]
    split <;> simp [*]
  refine ⟨fun n d hf hpn => ?_, fun n hnm => by rw [hlook', if_neg hnm], fun n k => ?_⟩
  · rw [hlook'] at hf
    split at hf
    · cases hf; exact htd ▸ hwf'
    · exact hok n d hf hpn
  · by_cases hnm : n = m.name
    · subst hnm
      rw [if_pos rfl, absDbis_of_find hp (by rw [hlook', if_pos rfl]), ← htd, hpt, htd]
      unfold appDbi
      rw [absDbi_getD]
      simp only [absDbis, hp, Bool.false_eq_true, if_false]
    · rw [if_neg hnm]
      exact absDbis_congr (by rw [hlook', if_neg hnm]) k

/-- The loop over the snapshot's messages for any abstraction `A` of the transaction state with
    invariant `Inv` and side condition `C` on the messages (native: `DbisOk`/`absDbis`, shadow:
    `ShOk`/`absShD`). Private messages are skipped by `loadDbi` and by `absMsgs` alike. -/
theorem loadFold_join {c : Cfg} {snap : Snap} {txnID : Nat} {Inv : W → Prop} {A : W → Abs.DB}
    {C : W → DbiMsg → Prop}
    (hstep : ∀ w w' m, isPrivate m.name = false → Inv w → C w m →
      loadDbi c snap txnID 0 w m = .ok w' →
      Inv w' ∧
      (∀ n k, A w' (n, k) =
        if n = m.name then join (A w (n, k)) (absMsg snap.fv m k) else A w (n, k)) ∧
      ∀ m', isPrivate m'.name = false → m'.name ≠ m.name → C w m' → C w' m') :
    ∀ (dbs : List DbiMsg) (w w' : W), (dbs.map (·.name)).Nodup → Inv w →
      (∀ m ∈ dbs, isPrivate m.name = false → C w m) →
      dbs.foldlM (loadDbi c snap txnID 0) w = .ok w' →
      Inv w' ∧ ∀ key, A w' key = join (A w key) (absMsgs snap.fv dbs key) := by
  intro dbs
  induction dbs with
  | nil =>
    intro w w' _ hinv _ h
    cases h
    exact ⟨hinv, fun key => by rw [absMsgs_none (fun _ hm => by cases hm), join_none_right]⟩
  | cons m rest ih =>
    intro w w' hnd hinv hms h
    obtain ⟨w1, hx, hrest⟩ := foldlM_cons_ok h
    obtain ⟨hnotin, hnd'⟩ := List.nodup_cons.mp hnd
    have hne : ∀ m' ∈ rest, m'.name ≠ m.name :=
      fun m' hm' he => hnotin (List.mem_map.mpr ⟨m', hm', he⟩)
    cases hp : isPrivate m.name with
    | true =>
      rw [loadDbi_private hp] at hx
      cases hx
      obtain ⟨hinv', habs⟩ := ih w w' hnd' hinv (fun m' hm' => hms m' (List.mem_cons_of_mem _ hm')) hrest
      exact ⟨hinv', fun (n, k) => by rw [habs, absMsgs_cons_other (Or.inr hp)]⟩
    | false =>
      obtain ⟨hinv1, habs1, hframe⟩ := hstep w w1 m hp hinv (hms m (List.mem_cons_self ..) hp) hx
      obtain ⟨hinv', habs⟩ := ih w1 w' hnd' hinv1 (fun m' hm' hp' =>
        hframe m' hp' (hne m' hm') (hms m' (List.mem_cons_of_mem _ hm') hp')) hrest
      refine ⟨hinv', fun (n, k) => ?_⟩
      rw [habs, habs1]
      by_cases hnm : n = m.name
      · subst hnm
        rw [if_pos rfl, absMsgs_of_find hp (List.find?_cons_of_pos (by simp)), absMsgs_none (fun m' hm' => hne m' hm'), join_none_right]
      · rw [if_neg hnm, absMsgs_cons_other (Or.inl fun he => hnm he.symm)]

theorem loadOnce_abs (c : Cfg) (e : Env) (snap : Snap) (lastSynced now : Nat) (r : LoadRes)
    (hn : c.native = true) (ht : e.lastTxn + 1 < two64) (hwf : EnvWF e) (hsw : SnapWF c e snap)
    (h : loadOnce c e snap lastSynced now 0 = .ok r) :
    EnvWF r.env ∧ ∀ key, absEnv r.env key = join (absEnv e key) (absSnap snap key) := by
  obtain ⟨w0, w1, w2, h0, h1, h2, rfl⟩ := loadOnce_ok.mp h
  simp only [preLoad, hn, Bool.true_eq_false, false_and, if_false] at h0
  simp only [postLoad, hn, if_true] at h2
  cases h0
  cases h2
  obtain ⟨hok', habs⟩ := loadFold_join (Inv := fun w => DbisOk w.dbis) (A := fun w => absDbis w.dbis)
    (C := fun w m => MsgWF m ∧ FlagsOk c w.dbis m)
    (fun w w' m hp hok hm hl => by
      obtain ⟨a1, a2, a3⟩ := loadDbi_abs hn ht hp hok hm hl
      refine ⟨a1, a3, fun m' _ hne hm' => ⟨hm'.1, ?_⟩⟩
      have := hm'.2
      unfold FlagsOk at this ⊢
      rwa [a2 _ hne])
    snap.dbs { dbis := e.dbis, dirty := false } w1 hsw.1.1 (dbisOk_of_mem hwf.2)
    (fun m hm hp => ⟨hsw.1.2 m hm hp, hsw.2 m hm hp⟩) h1
  have hsn : SortedNames w1.dbis := loadFold_sorted (w := { dbis := e.dbis, dirty := false }) hwf.1 h1
  exact ⟨⟨hsn, mem_of_dbisOk hsn hok'⟩, habs⟩

theorem isDeleted_image (f : UInt8) :
    Header.isDeleted (Header.masked (UInt8.ofNat ((Header.masked f).toNat % 256))) = Header.isDeleted f := by
  have h1 : (Header.masked f).toNat % 256 = (Header.masked f).toNat :=
    Nat.mod_eq_of_lt (Header.masked f).toNat_lt
  rw [h1, UInt8.ofNat_toNat]
  unfold Header.isDeleted Header.masked
  have : f &&& UInt8.ofNat Gen.flagSyncMask &&& UInt8.ofNat Gen.flagSyncMask &&& UInt8.ofNat Gen.flagDeleted
      = f &&& UInt8.ofNat Gen.flagDeleted := by
    apply UInt8.toBitVec_inj.mp
    simp only [Gen.flagDeleted, Gen.flagSyncMask, UInt8.toBitVec_and]
    generalize f.toBitVec = x
    decide +revert
  rw [this]

theorem norm_image {fv : Nat} (hfv : 2 ≤ fv) {kv : Bytes × Bytes} {x : KV} (hi : EntryImage kv x)
    (hw : StoredWF kv.2) :
    decodeS kv.2 = .ok (some (norm (normCfg fv) x)) ∧ x.key = kv.1 ∧ EntryWF x ∧ x.ts < two64 := by
  obtain ⟨h, app, hp, rfl⟩ := hi
  obtain ⟨v, hd, hvw⟩ := storedWF_iff.mp hw
  obtain ⟨_, h', app', hp', hv⟩ := decodeS_some hd
  rw [hp] at hp'
  injection hp' with hp'
  injection hp' with e1 e2
  subst e1 e2
  have hmf : Header.isDeleted (maskedFlags
      { key := kv.1, val := app, ts := h.ts, flags := (Header.masked h.flags).toNat }) =
      Header.isDeleted h.flags := by
    unfold maskedFlags; exact isDeleted_image h.flags
  have hdel : entryDeleted (normCfg fv)
      { key := kv.1, val := app, ts := h.ts, flags := (Header.masked h.flags).toNat } =
      Header.isDeleted h.flags := by
    unfold entryDeleted
    rw [hmf]
    have : ¬ fv < 2 := by omega
    simp [normCfg, this]
  have hwf' : Header.isDeleted h.flags = true → app = [] := by
    intro hdl; have := hvw; rw [hv] at this; exact this hdl
  refine ⟨?_, rfl, ?_, ?_⟩
  · rw [hd, hv]
    unfold norm
    rw [hdel]
    simp only [normCfg]
    have hts : (if h.ts = 0 then 0 else h.ts) = h.ts := by split <;> simp_all
    rw [hts]
    cases hdl : Header.isDeleted h.flags with
    | false => simp
    | true => simp [hwf' hdl]
  · intro hdl
    rw [hmf] at hdl
    exact hwf' hdl
  · obtain ⟨_, hlen, _, hts, _⟩ := parse_app hp
    simp only
    rw [hts, ← (by decide : 256 ^ 8 = two64)]
    refine Nat.lt_of_lt_of_le (beNat_lt _) (Nat.pow_le_pow_right (by decide) ?_)
    simp [slice]
    omega

theorem image_filter {fv : Nat} (hfv : 2 ≤ fv) (ik : Bool) (kvs : KVs) (entries : List KV)
    (hp : Pointwise EntryImage kvs entries) :
    KvsWF ik kvs → ∀ k,
      (entries.filter (fun e => kcmp ik e.key k = 0)).map (norm (normCfg fv)) =
        (decodeO (get ik kvs k)).toList := by
  induction hp with
  | nil => intro _ k; rfl
  | @cons p x rest xs hpx _ ih =>
    intro hwf k
    obtain ⟨hs, hv⟩ := hwf
    obtain ⟨hdec, hkey, _, _⟩ := norm_image hfv hpx (hv p (by simp)).2
    have ih' := ih ⟨hs.tail, fun q hq => hv q (by simp [hq])⟩ k
    obtain ⟨pk, pv⟩ := p
    simp only at hkey hdec
    rw [get_cons]
    by_cases hk : kcmp ik x.key k = 0
    · have hk' : kcmp ik k pk = 0 := by rw [← hkey]; exact (kcmp_eq_comm ik _ _).mp hk
      have hnone : get ik rest k = none := by
        apply get_none_of_lt
        intro q hq
        exact kcmp_lt_of_eq_of_lt ik hk' ((sorted_cons.mp hs).1 q hq)
      rw [List.filter_cons_of_pos (by simpa using hk), List.map_cons, ih', hnone, if_pos hk']
      simp only [decodeO, hdec]
      rfl
    · have hk' : ¬ kcmp ik k pk = 0 := by
        rw [← hkey]; intro h0; exact hk ((kcmp_eq_comm ik _ _).mp h0)
      rw [List.filter_cons_of_neg (by simpa using hk), ih', if_neg hk']

/-- What `readDBI` dumps for the application DBIs of a transaction state in either mode
    (`dumpName`: the DBI itself, or its shadow), given that the dumped DBIs are well-formed in the
    key order of their application DBI. -/
theorem dump_abs {c : Cfg} {w : W} {dbs : List DbiMsg} {fv : Nat} (hfv : 2 ≤ fv)
    (hs : SortedNames w.dbis)
    (hp : Pointwise (fun name m => DbiImage c w (dumpName c name) name m) (appNames w) dbs)
    (hwf : ∀ n d sd, isPrivate n = false → findDbi w.dbis n = some d →
      findDbi w.dbis (dumpName c n) = some sd → DbiWF sd ∧ isIntKey sd.flags = isIntKey d.flags) :
    (dbs.map (·.name)).Nodup ∧
    (∀ m ∈ dbs, isPrivate m.name = false ∧ MsgWF m ∧
      ∃ d, findDbi w.dbis m.name = some d ∧ m.flags = d.flags) ∧
    (∀ n k, findDbi w.dbis n = none → absMsgs fv dbs (n, k) = none) ∧
    ∀ n d, isPrivate n = false → findDbi w.dbis n = some d →
      ∃ sd, findDbi w.dbis (dumpName c n) = some sd ∧ ∀ k, absMsgs fv dbs (n, k) = absDbi sd k := by
  have hnames : dbs.map (·.name) = appNames w := pointwise_map_eq hp fun _ _ hi => hi.name
  -- what a message looks like
  have hmsg : ∀ m ∈ dbs, isPrivate m.name = false ∧ ∃ d sd, findDbi w.dbis m.name = some d ∧
      m.flags = d.flags ∧ findDbi w.dbis (dumpName c m.name) = some sd ∧ DbiWF sd ∧
      isIntKey sd.flags = isIntKey d.flags ∧ Pointwise EntryImage sd.kvs m.entries := by
    intro m hm
    obtain ⟨n, hn, hi⟩ := hp.exists_left m hm
    obtain ⟨sd, hsd, hents⟩ := hi.dumped
    obtain ⟨d, hd, hf, _, _⟩ := hi.orig
    have hpn : isPrivate n = false := by simpa using (List.mem_filter.mp hn).2
    rw [hi.name]
    exact ⟨hpn, d, sd, hd, hf, hsd, (hwf n d sd hpn hd hsd).1, (hwf n d sd hpn hd hsd).2, hents⟩
  refine ⟨?_, fun m hm => ?_, fun n k hd => ?_, fun n d hpn hd => ?_⟩
  · rw [hnames]
    exact (sortedNames_nodup hs).filter _
  · obtain ⟨hpn, d, sd, hd, hf, _, hdw, _, hents⟩ := hmsg m hm
    refine ⟨hpn, fun x hx => ?_, d, hd, hf⟩
    obtain ⟨kv, hkv, hix⟩ := hents.exists_left x hx
    obtain ⟨_, hkey, hew, hts⟩ := norm_image hfv hix (hdw.2 kv hkv).2
    exact ⟨hew, hts, by rw [hkey]; exact (hdw.2 kv hkv).1⟩
  · refine absMsgs_none fun m hm he => ?_
    obtain ⟨_, d, _, hd', _⟩ := hmsg m hm
    rw [he, hd] at hd'
    cases hd'
  · have hmem : n ∈ dbs.map (·.name) := by
      rw [hnames]
      refine List.mem_filter.mpr ⟨?_, by simp [hpn]⟩
      exact List.mem_map.mpr ⟨d, findDbi_mem hd, findDbi_name hd⟩
    cases hf : dbs.find? (fun m => m.name = n) with
    | none =>
      obtain ⟨m, hm, hmn⟩ := List.mem_map.mp hmem
      exact absurd hmn (by simpa using List.find?_eq_none.mp hf m hm)
    | some m =>
      have hmn : m.name = n := by simpa using List.find?_some hf
      obtain ⟨_, d', sd, hd', hfl, hsd, hdw, hik, hents⟩ := hmsg m (List.mem_of_find?_eq_some hf)
      rw [hmn] at hd' hsd
      refine ⟨sd, hsd, fun k => ?_⟩
      rw [absMsgs_of_find hpn hf]
      unfold absMsg absDbi
      rw [hfl, ← hik, image_filter hfv _ _ _ hents hdw k]
      cases decodeO (get (isIntKey sd.flags) sd.kvs k) <;> rfl

theorem sendOnce_abs (c : Cfg) (e : Env) (now cutoff : Nat) (r : SendRes)
    (hn : c.native = true) (hro : c.receiveOnly = false) (hwf : EnvWF e)
    (h : sendOnce c e now cutoff = .ok r) :
    r.env = e ∧ (∀ key, absSnap r.snap key = absEnv e key) ∧
    (r.snap.dbs.map (·.name)).Nodup ∧
    ∀ m ∈ r.snap.dbs, isPrivate m.name = false ∧ MsgWF m ∧
      ∃ d, findDbi e.dbis m.name = some d ∧ m.flags = d.flags := by
  obtain ⟨w, hw, henv, _, hfv, _, hp⟩ := (sendOnce_ok_iff c e now cutoff r hro).mp h
  simp only [dumpState, hn, if_true] at hw
  cases hw
  have hdn : ∀ n, dumpName c n = n := fun n => by simp [dumpName, hn]
  obtain ⟨hnd, hms, hnone, hsome⟩ := dump_abs (fv := r.snap.fv) (by rw [hfv]; decide) hwf.1 hp
    fun n d sd hpn hd hsd => by
      rw [hdn, hd] at hsd
      cases hsd
      exact ⟨dbisOk_of_mem hwf.2 n d hd hpn, rfl⟩
  refine ⟨by rw [henv]; simp [sendEnv, hn], fun (n, k) => ?_, hnd, hms⟩
  show absMsgs _ _ _ = absDbis _ _
  cases hpn : isPrivate n with
  | true => rw [absMsgs_private hpn, absDbis_private hpn]
  | false =>
    cases hd : findDbi e.dbis n with
    | none => rw [hnone n k hd, absDbis_of_none hd]
    | some d =>
      obtain ⟨sd, hsd, habs⟩ := hsome n d hpn hd
      rw [hdn] at hsd
      rw [habs, absDbis_of_find hpn hsd]

/-- the entries of a message are strictly increasing in the key order its flags announce -/
def MsgSorted (m : DbiMsg) : Prop :=
  m.entries.Pairwise (fun a b => kcmp (isIntKey m.flags) a.key b.key < 0)

instance (m : DbiMsg) : Decidable (MsgSorted m) := by unfold MsgSorted; exact inferInstance

theorem filter_sorted_mem (ik : Bool) (es : List KV)
    (hs : es.Pairwise (fun a b => kcmp ik a.key b.key < 0)) :
    ∀ e ∈ es, es.filter (fun x => kcmp ik x.key e.key = 0) = [e] := by
  induction es with
  | nil => intro e he; cases he
  | cons x xs ih =>
    intro e he
    obtain ⟨hx, hxs⟩ := List.pairwise_cons.mp hs
    rcases List.mem_cons.mp he with he | he
    · subst he
      rw [List.filter_cons_of_pos (by simpa using kcmp_refl ik e.key)]
      congr 1
      apply List.filter_eq_nil_iff.mpr
      intro y hy
      have := kcmp_ne_symm_of_lt ik (hx y hy)
      simpa using this
    · have hlt := hx e he
      rw [List.filter_cons_of_neg (by simpa using kcmp_ne_of_lt ik hlt)]
      exact ih hxs e he

theorem absMsg_of_sorted (fv : Nat) (m : DbiMsg) (hs : MsgSorted m) :
    (∀ e ∈ m.entries, absMsg fv m e.key = some (norm (normCfg fv) e)) ∧
    (∀ k, (∀ e ∈ m.entries, kcmp (isIntKey m.flags) e.key k ≠ 0) → absMsg fv m k = none) := by
  constructor
  · intro e he
    unfold absMsg
    rw [filter_sorted_mem _ _ hs e he]
    rfl
  · intro k hk
    unfold absMsg
    rw [List.filter_eq_nil_iff.mpr (fun e he => by simpa using hk e he)]
    rfl

/-- the version a stored value denotes (a default when it does not parse) -/
def verOf (val : Bytes) : Ver :=
  match decodeS val with
  | .ok (some v) => v
  | _ => default

theorem verOf_spec {val : Bytes} (h : StoredWF val) :
    decodeS val = .ok (some (verOf val)) ∧ (verOf val).WF := by
  obtain ⟨v, hd, hw⟩ := storedWF_iff.mp h
  have : verOf val = v := by simp only [verOf, hd]
  rw [this]; exact ⟨hd, hw⟩

theorem kcmp_false_eq {a b : Bytes} : kcmp false a b = 0 ↔ a = b := by
  simp only [kcmp, Bool.false_eq_true, if_false]; exact bcmp_eq

/-- an application transaction of one operation on a DBI that does not exist commits without
    changing anything -/
theorem appTxn_missing {e : Env} {name : Bytes} (hd : findDbi e.dbis name = none) (k v : Bytes) :
    appTxn e [.put name k v] = some { dbis := e.dbis, lastTxn := e.lastTxn } ∧
    appTxn e [.del name k] = some { dbis := e.dbis, lastTxn := e.lastTxn } := by
  simp [appTxn, appRefused, appStep, hd, commit]

theorem appTxn_put {e : Env} {name : Bytes} {d : Dbi} (hd : findDbi e.dbis name = some d)
    (hdup : isDupSort d.flags = false) (hik : isIntKey d.flags = false) (k v : Bytes) :
    appTxn e [.put name k v] =
      if badKey k then none
      else some { dbis := setKvs e.dbis name (put false d.kvs k v), lastTxn := e.lastTxn + 1 } := by
  cases hk : badKey k <;> simp [appTxn, appRefused, appStep, hd, hk, hdup, hik, commit]

/-- … a delete is recorded only if the key was there -/
theorem appTxn_del {e : Env} {name : Bytes} {d : Dbi} (hd : findDbi e.dbis name = some d)
    (hdup : isDupSort d.flags = false) (hik : isIntKey d.flags = false) (k : Bytes) :
    appTxn e [.del name k] =
      some { dbis := setKvs e.dbis name (Lmdb.del false d.kvs k).1,
             lastTxn := if (Lmdb.del false d.kvs k).2 then e.lastTxn + 1 else e.lastTxn } := by
  simp [appTxn, appRefused, appStep, hd, hdup, hik, commit]

theorem appPut_abs (e : Env) (name k val : Bytes) (d : Dbi)
    (hwf : EnvWF e) (hd : findDbi e.dbis name = some d) (hp : isPrivate name = false)
    (hdup : isDupSort d.flags = false) (hik : isIntKey d.flags = false)
    (hk : badKey k = false) (hv : StoredWF val) :
    ∃ e', appTxn e [.put name k val] = some e' ∧ EnvWF e' ∧
      absEnv e' = Abs.upd (absEnv e) (name, k) (verOf val) := by
  have hdw : KvsWF false d.kvs := hik ▸ dbisOk_of_mem hwf.2 name d hd hp
  have hlook := findDbi_setKvs_of_find hd (put false d.kvs k val)
  have hsn := sortedNames_setKvs name (put false d.kvs k val) hwf.1
  have hdw' : DbiWF { d with kvs := put false d.kvs k val } := by
    have hs' := sorted_put hdw.1 k val
    have hvals := values_of_get hs' (P := StoredWF) fun k' b hg => by
      rw [get_put] at hg
      split at hg
      · cases hg; exact hv
      · exact of_get (fun p hp => (hdw.2 p hp).2) hg
    have hkeys := put_forall (ik := false) (v := val) (fun k => badKey k = false) (fun q hq => (hdw.2 q hq).1) hk
    show KvsWF (isIntKey d.flags) (put false d.kvs k val)
    rw [hik]
    exact ⟨hs', fun p hp => ⟨hkeys p hp, hvals p hp⟩⟩
  refine ⟨commit e { dbis := setKvs e.dbis name (put false d.kvs k val), dirty := true },
    by rw [appTxn_put hd hdup hik, hk]; rfl,
    ⟨hsn, mem_of_dbisOk hsn fun n d' hf hpn => ?_⟩, funext fun (n, k') => ?_⟩
  · rw [show (commit e _).dbis = setKvs e.dbis name (put false d.kvs k val) from rfl, hlook] at hf
    split at hf
    · cases hf; exact hdw'
    · exact dbisOk_of_mem hwf.2 n d' hf hpn
  · show absDbis (setKvs e.dbis name (put false d.kvs k val)) (n, k') = _
    by_cases hnm : n = name
    · subst hnm
      rw [absDbis_of_find hp (by rw [hlook, if_pos rfl])]
      unfold absDbi
      simp only [hik]
      rw [get_put]
      by_cases hkk : k' = k
      · subst hkk
        rw [if_pos (kcmp_refl false k'), Abs.upd_same, decodeO_some (verOf_spec hv).1]
      · rw [if_neg (fun h0 => hkk (kcmp_false_eq.mp h0).symm),
          Abs.upd_other _ _ _ _ (fun he => hkk (Prod.mk.inj he).2)]
        show _ = absDbis e.dbis (n, k')
        rw [absDbis_of_find hp hd]
        unfold absDbi
        rw [hik]
    · rw [Abs.upd_other _ _ _ _ (fun he => hnm (Prod.mk.inj he).1)]
      exact absDbis_congr (by rw [hlook, if_neg hnm]) k'

theorem absEnv_wf {e : Env} (hwf : EnvWF e) : (absEnv e).WF := by
  intro (n, k)
  show OWF (absDbis e.dbis (n, k))
  cases hp : isPrivate n with
  | true => rw [absDbis_private hp]; trivial
  | false =>
    cases hd : findDbi e.dbis n with
    | none => rw [absDbis_of_none hd]; trivial
    | some d => rw [absDbis_of_find hp hd]; exact absDbi_wf (dbisOk_of_mem hwf.2 n d hd hp) k

theorem absSnap_wf (s : Snap) : (absSnap s).WF := by
  intro (n, k)
  show OWF (absMsgs s.fv s.dbs (n, k))
  cases hp : isPrivate n with
  | true => rw [absMsgs_private hp]; trivial
  | false =>
    cases hd : s.dbs.find? (fun m => m.name = n) with
    | none => rw [absMsgs_none (by simpa using hd)]; trivial
    | some m =>
      rw [absMsgs_of_find hp hd]
      refine joinAll_wf (o := none) trivial fun v hv => ?_
      obtain ⟨e, _, rfl⟩ := List.mem_map.mp hv
      exact norm_wf _ e

/-- n environments and a bucket of snapshots (instance id, snapshot), oldest first -/
structure BFleet where
  n : Nat
  env : Nat → Env
  bucket : List (Nat × Snap)

/-- a byte-level step: an application transaction putting one stored value; `sendOnce` (the
    snapshot goes to the bucket); `loadOnce` of the bucket's snapshot number `idx`, cut-off 0 -/
inductive BStep where
  | write (i : Nat) (name key val : Bytes)
  | send (i : Nat) (now cutoff : Nat)
  | load (i : Nat) (idx : Nat) (lastSynced now : Nat)

def setEnv (f : BFleet) (i : Nat) (e : Env) : BFleet :=
  { f with env := fun j => if j = i then e else f.env j }

/-- one byte-level step; a failing transaction leaves everything as it was (all-or-nothing),
    `done` says whether it took place -/
def bstepD (c : Cfg) (f : BFleet) : BStep → BFleet × Bool
  | .write i name key val =>
    match appTxn (f.env i) [.put name key val] with
    | some e' => (setEnv f i e', true)
    | none => (f, false)
  | .send i now cutoff =>
    match sendOnce c (f.env i) now cutoff with
    | .ok r => ({ setEnv f i r.env with bucket := f.bucket ++ [(i, r.snap)] }, true)
    | .error _ => (f, false)
  | .load i idx lastSynced now =>
    match f.bucket[idx]? with
    | none => (f, false)
    | some p =>
      match loadOnce c (f.env i) p.2 lastSynced now 0 with
      | .ok r => (setEnv f i r.env, true)
      | .error _ => (f, false)

def bstep (c : Cfg) (f : BFleet) (s : BStep) : BFleet := (bstepD c f s).1

def brun (c : Cfg) (f : BFleet) (steps : List BStep) : BFleet := steps.foldl (bstep c) f

/-- the abstract fleet a byte-level fleet denotes -/
def absFleet (f : BFleet) : Abs.Fleet :=
  { n := f.n, db := fun i => absEnv (f.env i), bucket := f.bucket.map (fun p => (p.1, absSnap p.2)) }

/-- the abstract step a byte-level step denotes -/
def absStep : BStep → Abs.Step
  | .write i name key val => .write i (name, key) (verOf val)
  | .send i _ _ => .send i
  | .load i idx _ _ => .load i idx

/-- the abstract schedule of a byte-level run: the steps that took place, in order -/
def absRun (c : Cfg) : BFleet → List BStep → List Abs.Step
  | _, [] => []
  | f, s :: rest =>
    (if (bstepD c f s).2 then [absStep s] else []) ++ absRun c (bstep c f s) rest

/-- side conditions of a step (nothing about its success): a write is a put of a well-formed
    stored value into an existing non-private, byte-ordered, non-duplicate DBI and the version
    does not lose against what is stored; a load happens with a transaction id below 2^64 and the
    snapshot's messages have the key order of their target DBIs (`FlagsOk`) -/
def StepOk (c : Cfg) (f : BFleet) : BStep → Prop
  | .write i name key val =>
    isPrivate name = false ∧ StoredWF val ∧
    (∃ d, findDbi (f.env i).dbis name = some d ∧ isDupSort d.flags = false ∧ isIntKey d.flags = false) ∧
    join (absEnv (f.env i) (name, key)) (some (verOf val)) = some (verOf val)
  | .send _ _ _ => True
  | .load i idx _ _ =>
    (f.env i).lastTxn + 1 < two64 ∧
    ∀ p, f.bucket[idx]? = some p → ∀ m ∈ p.2.dbs, isPrivate m.name = false → FlagsOk c (f.env i).dbis m

def RunOk (c : Cfg) : BFleet → List BStep → Prop
  | _, [] => True
  | f, s :: rest => StepOk c f s ∧ RunOk c (bstep c f s) rest

/-- the invariant of a byte-level fleet: every environment and every stored snapshot well-formed -/
def BInv (f : BFleet) : Prop := (∀ i, EnvWF (f.env i)) ∧ ∀ p ∈ f.bucket, SnapOk p.2

theorem forall_setEnv {P : Env → Prop} {f : BFleet} (h : ∀ j, P (f.env j)) (i : Nat) {e : Env}
    (he : P e) : ∀ j, P ((setEnv f i e).env j) := by
  intro j
  simp only [setEnv]
  split
  · exact he
  · exact h j

theorem absFleet_setEnv (f : BFleet) (i : Nat) (e : Env) :
    absFleet (setEnv f i e) =
      { absFleet f with db := fun j => if j = i then absEnv e else (absFleet f).db j } := by
  unfold absFleet setEnv
  simp only [Abs.Fleet.mk.injEq, true_and, and_true]
  funext j
  by_cases hj : j = i <;> simp [hj]

theorem bstep_refines (c : Cfg) (hn : c.native = true) (hro : c.receiveOnly = false)
    (f : BFleet) (s : BStep) (hinv : BInv f) (hok : StepOk c f s) :
    BInv (bstep c f s) ∧
    absFleet (bstep c f s) =
      Abs.run (absFleet f) (if (bstepD c f s).2 then [absStep s] else []) ∧
    Abs.StepsWF (if (bstepD c f s).2 then [absStep s] else []) ∧
    Abs.MonotoneFrom (absFleet f) (if (bstepD c f s).2 then [absStep s] else []) := by
  cases s with
  | write i name key val =>
    obtain ⟨hp, hv, ⟨d, hd, hdup, hik⟩, hmono⟩ := hok
    cases hk : badKey key with
    | true =>
      have hnone : appTxn (f.env i) [.put name key val] = none := by
        rw [appTxn_put hd hdup hik, hk]; rfl
      simp only [bstep, bstepD, hnone, Bool.false_eq_true, if_false]
      exact ⟨hinv, Abs.refines_nil _⟩
    | false =>
      obtain ⟨e', he', hwf', habs⟩ := appPut_abs (f.env i) name key val d (hinv.1 i) hd hp hdup hik hk hv
      simp only [bstep, bstepD, he', if_true]
      refine ⟨⟨forall_setEnv hinv.1 i hwf', hinv.2⟩, ?_, ?_, hmono, trivial⟩
      · rw [absFleet_setEnv, habs]; rfl
      · intro s hs
        cases List.mem_singleton.mp hs
        exact (verOf_spec hv).2
  | send i now cutoff =>
    cases hs : sendOnce c (f.env i) now cutoff with
    | error err =>
      simp only [bstep, bstepD, hs, Bool.false_eq_true, if_false]
      exact ⟨hinv, Abs.refines_nil _⟩
    | ok r =>
      obtain ⟨henv, habs, hnd, hms⟩ := sendOnce_abs c (f.env i) now cutoff r hn hro (hinv.1 i) hs
      simp only [bstep, bstepD, hs, if_true]
      refine ⟨⟨forall_setEnv hinv.1 i (henv ▸ hinv.1 i), fun p hp => ?_⟩, ?_,
        fun s hs => by cases List.mem_singleton.mp hs; trivial, trivial, trivial⟩
      · rcases List.mem_append.mp hp with hp | hp
        · exact hinv.2 p hp
        · cases List.mem_singleton.mp hp
          exact ⟨hnd, fun m hm _ => (hms m hm).2.1⟩
      · have hsnap : absSnap r.snap = absEnv (f.env i) := funext habs
        simp only [absFleet, absStep, Abs.run, List.foldl_cons, List.foldl_nil, Abs.step,
          List.map_append, List.map_cons, List.map_nil, hsnap, setEnv, Abs.Fleet.mk.injEq, true_and,
          and_true]
        funext j
        split
        · rename_i hj; rw [henv, hj]
        · rfl
  | load i idx lastSynced now =>
    obtain ⟨hT, hfl⟩ := hok
    cases hb : f.bucket[idx]? with
    | none =>
      simp only [bstep, bstepD, hb, Bool.false_eq_true, if_false]
      exact ⟨hinv, Abs.refines_nil _⟩
    | some p =>
      cases hl : loadOnce c (f.env i) p.2 lastSynced now 0 with
      | error err =>
        simp only [bstep, bstepD, hb, hl, Bool.false_eq_true, if_false]
        exact ⟨hinv, Abs.refines_nil _⟩
      | ok r =>
        obtain ⟨hwf', habs⟩ := loadOnce_abs c (f.env i) p.2 lastSynced now r hn hT (hinv.1 i)
          ⟨hinv.2 p (List.mem_of_getElem? hb), hfl p hb⟩ hl
        simp only [bstep, bstepD, hb, hl, if_true]
        refine ⟨⟨forall_setEnv hinv.1 i hwf', hinv.2⟩, ?_,
          fun s hs => by cases List.mem_singleton.mp hs; trivial, trivial, trivial⟩
        have hb' : (absFleet f).bucket[idx]? = some (p.1, absSnap p.2) := by simp [absFleet, hb]
        have : absEnv r.env = Abs.DB.join ((absFleet f).db i) (absSnap p.2) := funext habs
        rw [absFleet_setEnv, this]
        simp only [Abs.run, List.foldl_cons, List.foldl_nil, Abs.step, absStep, hb']

theorem absFleet_wf {f : BFleet} (hinv : BInv f) : Abs.FleetWF (absFleet f) := by
  refine ⟨fun i => absEnv_wf (hinv.1 i), ?_⟩
  intro p hp
  simp only [absFleet, List.mem_map] at hp
  obtain ⟨q, _, rfl⟩ := hp
  exact absSnap_wf q.2

end Ls.Txn
