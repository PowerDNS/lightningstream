import LsLemmas.TxnAbs
import LsLemmas.TxnMirrorStep
/-
  Shadow (non-native) mode, per transaction, at the level of logical content: the abstraction
  `absShadow` of an environment (the decoded content of its shadow DBIs, keyed by the application
  DBI name), what the application sees (`appView`), the abstract capture, and the simulation
  lemmas for `mainToShadow`, the merge loop of `loadOnce` and `shadowToMain`
  (helper lemmas of LsProps/C01RefineShadow.lean). The merge loop and the dump of a snapshot are
  the shadow-mode readings of `loadDbi_spec`, `loadFold_join`, `dump_abs` (TxnAbs); the two passes
  rest on `mainToShadow_nondup`, `shadowToMain_nondup`, `loadOnce_shadow_ok` (TxnMirror*).
-/
namespace Ls.Txn
open Ls Ls.Lmdb Ls.Strategy Ls.Merge

/-- logical content of the shadow DBIs of a list of DBIs, keyed by the APPLICATION DBI name -/
def absShD (dbis : List Dbi) : Abs.DB := fun key =>
  if isPrivate key.1 then none else
  match findDbi dbis (shadowName key.1) with
  | none => none
  | some sd => absDbi sd key.2

/-- **the logical content of a shadow-mode environment**: for `(name, k)` with `name` non-private,
    `decodeS` of the value LMDB finds for `k` in the DBI `shadowName name` -/
def absShadow (e : Env) : Abs.DB := absShD e.dbis

/-- what the application sees in a list of DBIs: the value of `k` in its own DBI `name` -/
def appVD (dbis : List Dbi) : Abs.Key → Option Bytes := fun key =>
  if isPrivate key.1 then none else
  match findDbi dbis key.1 with
  | none => none
  | some d => get (isIntKey d.flags) d.kvs key.2

/-- **what the application sees** -/
def appView (e : Env) : Abs.Key → Option Bytes := appVD e.dbis

/-- the live value of an optional version (`none` for absent or deleted) -/
def liveOf : Option Ver → Option Bytes
  | some v => if v.del then none else some v.val
  | none => none

/-- what the projection `shadowToMain` writes for an optional version: the live value, nothing
    when it is empty (finding D7) -/
def projVer : Option Ver → Option Bytes
  | some v => if v.del = true ∨ v.val = [] then none else some v.val
  | none => none

/-- the capture decision for one key: the application has `v` — kept if `v` is the live shadow
    value, else `(now, live, v)`; the application lacks the key — a live shadow version becomes
    `(now, deleted, ∅)`, a marker or nothing stays -/
def captureO (o : Option Ver) (appv : Option Bytes) (now : Nat) : Option Ver :=
  match appv with
  | some v => if liveOf o = some v then o else some { ts := now, del := false, val := v }
  | none =>
    match o with
    | some x => if x.del then some x else some { ts := now, del := true, val := [] }
    | none => none

/-- **the abstract capture** of the application's view `app` into the shadow content `sh` at
    time `now` -/
def capture (sh : Abs.DB) (app : Abs.Key → Option Bytes) (now : Nat) : Abs.DB :=
  fun key => captureO (sh key) (app key) now

/-- no live version with an empty value (the D7 exclusion) -/
def NoEmptyLive (db : Abs.DB) : Prop := ∀ key o, db key = some o → o.del = false → o.val ≠ []

/-- the application DBIs are sorted with valid keys; every shadow of an application name has
    well-formed content (`DbiWF`: sorted, valid keys, values parse to well-formed versions),
    belongs to an existing application DBI (no orphans) and has its key order -/
structure ShOk (dbis : List Dbi) : Prop where
  app : ∀ n d, isPrivate n = false → findDbi dbis n = some d →
    Sorted (isIntKey d.flags) d.kvs ∧ DKeysOK d.kvs
  sh : ∀ n sd, isPrivate n = false → findDbi dbis (shadowName n) = some sd →
    DbiWF sd ∧ ∃ d, findDbi dbis n = some d ∧ isIntKey sd.flags = isIntKey d.flags

/-- no application DBI has duplicate keys -/
def NoDupApp (dbis : List Dbi) : Prop :=
  ∀ n d, isPrivate n = false → findDbi dbis n = some d → isDupSort d.flags = false

theorem ShOk.no_orphan {dbis : List Dbi} (hok : ShOk dbis) {n : Bytes} (hp : isPrivate n = false)
    (hd : findDbi dbis n = none) : findDbi dbis (shadowName n) = none := by
  cases hs : findDbi dbis (shadowName n) with
  | none => rfl
  | some sd =>
    obtain ⟨_, d, hd', _⟩ := hok.sh n sd hp hs
    rw [hd] at hd'; cases hd'

theorem ShOk.shadow {dbis : List Dbi} (hok : ShOk dbis) {n : Bytes} {d sd : Dbi}
    (hp : isPrivate n = false) (hd : findDbi dbis n = some d)
    (hs : findDbi dbis (shadowName n) = some sd) :
    isIntKey sd.flags = isIntKey d.flags ∧ KvsWF (isIntKey d.flags) sd.kvs := by
  obtain ⟨hwf, d', hd', hik⟩ := hok.sh n sd hp hs
  rw [hd] at hd'; cases hd'
  exact ⟨hik, hik ▸ hwf⟩

theorem capture_apply (sh : Abs.DB) (app : Abs.Key → Option Bytes) (now : Nat) (key : Abs.Key) :
    capture sh app now key = captureO (sh key) (app key) now := rfl

theorem appVD_private {dbis : List Dbi} {n : Bytes} (hp : isPrivate n = true) (k : Bytes) :
    appVD dbis (n, k) = none := by
  simp only [appVD, hp, if_true]

theorem appVD_of_none {dbis : List Dbi} {n : Bytes} (hd : findDbi dbis n = none) (k : Bytes) :
    appVD dbis (n, k) = none := by
  simp only [appVD, hd]; split <;> rfl

theorem appVD_of_find {dbis : List Dbi} {n : Bytes} {d : Dbi} (hp : isPrivate n = false)
    (hd : findDbi dbis n = some d) (k : Bytes) :
    appVD dbis (n, k) = get (isIntKey d.flags) d.kvs k := by
  simp only [appVD, hp, hd, Bool.false_eq_true, if_false]

theorem appVD_congr {d1 d2 : List Dbi}
    (h : ∀ n, isPrivate n = false → findDbi d1 n = findDbi d2 n) : appVD d1 = appVD d2 := by
  funext (n, k)
  cases hp : isPrivate n with
  | true => rw [appVD_private hp, appVD_private hp]
  | false => unfold appVD; simp only [h n hp]

theorem absShD_private {dbis : List Dbi} {n : Bytes} (hp : isPrivate n = true) (k : Bytes) :
    absShD dbis (n, k) = none := by
  simp only [absShD, hp, if_true]

theorem absShD_of_none {dbis : List Dbi} {n : Bytes} (hd : findDbi dbis (shadowName n) = none)
    (k : Bytes) : absShD dbis (n, k) = none := by
  simp only [absShD, hd]; split <;> rfl

theorem absShD_of_find {dbis : List Dbi} {n : Bytes} {sd : Dbi} (hp : isPrivate n = false)
    (hd : findDbi dbis (shadowName n) = some sd) (k : Bytes) :
    absShD dbis (n, k) = decodeO (get (isIntKey sd.flags) sd.kvs k) := by
  simp only [absShD, hp, hd, Bool.false_eq_true, if_false, absDbi]

theorem absShD_congr {d1 d2 : List Dbi} {n : Bytes}
    (h : findDbi d1 (shadowName n) = findDbi d2 (shadowName n)) (k : Bytes) :
    absShD d1 (n, k) = absShD d2 (n, k) := by
  simp only [absShD, h]

theorem absShD_wf {dbis : List Dbi} (hok : ShOk dbis) : (absShD dbis).WF := by
  intro (n, k)
  cases hp : isPrivate n with
  | true => rw [absShD_private hp]; trivial
  | false =>
    cases hs : findDbi dbis (shadowName n) with
    | none => rw [absShD_of_none hs]; trivial
    | some sd => rw [absShD_of_find hp hs]; exact absDbi_wf (hok.sh n sd hp hs).1 k

theorem liveOf_eq_some {o : Option Ver} {v : Bytes} :
    liveOf o = some v ↔ ∃ ts, o = some { ts := ts, del := false, val := v } := by
  cases o with
  | none => exact ⟨fun h => (nomatch h), fun ⟨_, h⟩ => (nomatch h)⟩
  | some x =>
    obtain ⟨ts, del, val⟩ := x
    cases del <;> simp [liveOf]

section
-- `StoredWF (liveBytes …)` must not be unfolded by the elaborator (it would evaluate the header
-- parser on a symbolic header)
attribute [local irreducible] liveBytes markerBytes

theorem stored_abs {x : Bytes} {v : Ver} (hd : decodeS x = .ok (some v)) (hw : v.WF) :
    decodeO (some x) = some v ∧ ∀ b, some x = some b → StoredWF b :=
  ⟨decodeO_some hd, fun _ hb => Option.some.inj hb ▸ storedWF_iff.mpr ⟨v, hd, hw⟩⟩

theorem captureSpec_abs (txnID now cutoff : Nat) (appv stored new : Option Bytes)
    (hn : now < two64) (ht : txnID < two64)
    (hst : ∀ b, stored = some b → StoredWF b) (hne : ∀ v, appv = some v → v ≠ [])
    (hclk : ∀ o v, decodeO stored = some o → appv = some v → o.val ≠ v → o.ts < now)
    (h : captureSpec (captureCfg txnID now cutoff) appv stored = .ok new) :
    decodeO new = captureO (decodeO stored) appv now ∧ ∀ b, new = some b → StoredWF b := by
  have hlive := fun v => stored_abs (decodeS_liveBytes now txnID v hn ht) (fun hd => by cases hd)
  have hmark := stored_abs (decodeS_markerBytes now txnID hn ht) (fun _ => rfl)
  cases stored with
  | none =>
    cases appv with
    | none => cases h; exact ⟨rfl, fun b hb => by cases hb⟩
    | some v =>
      rw [capture_new txnID now cutoff v none rfl] at h
      cases h
      exact hlive v
  | some b =>
    obtain ⟨o, hd, hw⟩ := storedWF_iff.mp (hst b rfl)
    obtain ⟨_, hdr, a, hp, rfl⟩ := decodeS_some hd
    have hkeep := stored_abs hd hw
    rw [decodeO_some hd]
    cases appv with
    | some v =>
      by_cases hav : a = v
      · subst hav
        rw [capture_unchanged txnID now cutoff a b hdr hp] at h
        cases h
        have hlv : Header.isDeleted hdr.flags = false := by
          cases hdel : Header.isDeleted hdr.flags with
          | false => rfl
          | true => exact absurd (hw hdel) (hne a rfl)
        simpa [captureO, liveOf, hlv] using hkeep
      · rw [capture_changed txnID now cutoff v b a hdr hp hav
          (hclk _ v (decodeO_some hd) rfl hav)] at h
        cases h
        have : liveOf (some ⟨hdr.ts, Header.isDeleted hdr.flags, a⟩) ≠ some v := fun h0 => by
          obtain ⟨_, ho⟩ := liveOf_eq_some.mp h0
          exact hav (congrArg Ver.val (Option.some.inj ho))
        simpa [captureO, this] using hlive v
    | none =>
      cases hdel : Header.isDeleted hdr.flags with
      | false =>
        rw [capture_deleted txnID now cutoff b a hdr hp hdel] at h
        cases h
        simpa [captureO, hdel] using hmark
      | true =>
        rw [capture_marker_kept txnID now cutoff b a hdr hp hdel] at h
        cases h
        simpa [captureO, hdel] using hkeep

end

theorem bind_projVal_abs {o : Option Bytes} (h : ∀ b, o = some b → StoredWF b) :
    o.bind projVal = projVer (decodeO o) := by
  cases o with
  | none => rfl
  | some b =>
    obtain ⟨o, hd, hw⟩ := storedWF_iff.mp (h b rfl)
    obtain ⟨_, hdr, a, hp, rfl⟩ := decodeS_some hd
    rw [decodeO_some hd]
    simp only [Option.bind_some, projVal, projVer, hp]
    by_cases ha : a = []
    · subst ha; simp
    · have hl : ¬ a.length = 0 := fun h0 => ha (List.length_eq_zero_iff.mp h0)
      have hdel : Header.isDeleted hdr.flags = false := by
        cases hx : Header.isDeleted hdr.flags with
        | false => rfl
        | true => exact absurd (hw hx) ha
      simp [hl, ha, hdel]

theorem projVer_eq_liveOf {o : Option Ver} (h : ∀ x, o = some x → x.del = false → x.val ≠ []) :
    projVer o = liveOf o := by
  cases o with
  | none => rfl
  | some x =>
    unfold projVer liveOf
    cases hd : x.del with
    | true => simp [hd]
    | false => simp [hd, h x rfl hd]

theorem capture_of_mirrored {sh : Abs.DB} {app : Abs.Key → Option Bytes} (now : Nat)
    (h : ∀ key, app key = liveOf (sh key)) : capture sh app now = sh := by
  funext key
  rw [capture_apply, h key]
  cases hs : sh key with
  | none => rfl
  | some o =>
    cases hd : o.del with
    | true => simp [captureO, liveOf, hd]
    | false => simp [captureO, liveOf, hd]

theorem app_eq_live_capture (sh : Abs.DB) (app : Abs.Key → Option Bytes) (now : Nat) (key : Abs.Key) :
    app key = liveOf (capture sh app now key) := by
  rw [capture_apply]
  unfold captureO
  cases ha : app key with
  | some v =>
    simp only
    split
    · rename_i h; exact h.symm
    · rfl
  | none =>
    simp only
    cases hs : sh key with
    | none => rfl
    | some x =>
      simp only
      cases hd : x.del with
      | true => simp [liveOf, hd]
      | false => simp [liveOf]

theorem mainToShadow_dbi_abs {c : Cfg} {w w' : W} {txnID now cutoff : Nat}
    (hs : SortedNames w.dbis) (hok : ShOk w.dbis)
    (hn : now < two64) (ht : txnID < two64)
    (hne : ∀ key v, appVD w.dbis key = some v → v ≠ [])
    (hclk : ∀ key o v, absShD w.dbis key = some o → appVD w.dbis key = some v → o.val ≠ v → o.ts < now)
    (h : mainToShadow c w txnID now cutoff = .ok w')
    {n : Bytes} {d : Dbi} (hp : isPrivate n = false) (hd : findDbi w.dbis n = some d)
    (hnd : isDupSort d.flags = false) :
    ∃ sd', findDbi w'.dbis (shadowName n) = some sd' ∧ isIntKey sd'.flags = isIntKey d.flags ∧
      DbiWF sd' ∧ ∀ k, absDbi sd' k = capture (absShD w.dbis) (appVD w.dbis) now (n, k) := by
  -- the shadow the pass works on: the existing one, or a new empty one
  obtain ⟨hik, hswf, habs⟩ : isIntKey (shadowOf w n d).flags = isIntKey d.flags ∧
      KvsWF (isIntKey d.flags) (shadowOf w n d).kvs ∧
      ∀ k, absShD w.dbis (n, k) = decodeO (get (isIntKey d.flags) (shadowOf w n d).kvs k) := by
    cases hsn : findDbi w.dbis (shadowName n) with
    | none =>
      obtain ⟨a, b⟩ := shadowOf_isIntKey_new (w := w) (n := n) (d := d) hsn
      rw [b]
      exact ⟨a, kvsWF_nil _, fun k => absShD_of_none hsn k⟩
    | some sd =>
      rw [shadowOf_of_some (d := d) hsn]
      obtain ⟨hik, hwf⟩ := hok.shadow hp hd hsn
      exact ⟨hik, hwf, fun k => by rw [absShD_of_find hp hsn, hik]⟩
  obtain ⟨hA, hAK⟩ := hok.app n d hp hd
  obtain ⟨kvs', hf, hrest⟩ := mainToShadow_nondup (namesSorted_iff.mpr hs).distinct h hp hd hnd
  rw [hik] at hrest
  obtain ⟨hS', hK', hget⟩ := hrest hA hAK hswf.1 (fun p hp' => (hswf.2 p hp').1)
  have hkey := fun k => captureSpec_abs txnID now cutoff _ _ _ hn ht
    (fun b hg => of_get (fun p hp' => (hswf.2 p hp').2) hg)
    (fun v hv => hne (n, k) v (by rw [appVD_of_find hp hd]; exact hv))
    (fun o v ho hv => hclk (n, k) o v (by rw [habs k]; exact ho) (by rw [appVD_of_find hp hd]; exact hv))
    (hget k)
  refine ⟨_, hf, hik, ?_, fun k => ?_⟩
  · show KvsWF (isIntKey (shadowOf w n d).flags) kvs'
    rw [hik]
    exact ⟨hS', fun p hp' => ⟨hK' p hp', (hkey p.1).2 p.2 (get_of_mem hS' hp')⟩⟩
  · show decodeO (get (isIntKey (shadowOf w n d).flags) kvs' k) = _
    rw [hik, capture_apply, habs k, appVD_of_find hp hd]
    exact (hkey k).1

theorem mainToShadow_abs {c : Cfg} {w w' : W} {txnID now cutoff : Nat}
    (hs : SortedNames w.dbis) (hok : ShOk w.dbis) (hnd : NoDupApp w.dbis)
    (hn : now < two64) (ht : txnID < two64)
    (hne : ∀ key v, appVD w.dbis key = some v → v ≠ [])
    (hclk : ∀ key o v, absShD w.dbis key = some o → appVD w.dbis key = some v → o.val ≠ v → o.ts < now)
    (h : mainToShadow c w txnID now cutoff = .ok w') :
    SortedNames w'.dbis ∧ ShOk w'.dbis ∧
    (∀ n, isPrivate n = false → findDbi w'.dbis n = findDbi w.dbis n) ∧
    (∀ n d, isPrivate n = false → findDbi w.dbis n = some d →
      (findDbi w'.dbis (shadowName n)).isSome = true) ∧
    ∀ key, absShD w'.dbis key = capture (absShD w.dbis) (appVD w.dbis) now key := by
  have happ := mainToShadow_app_unchanged h
  have hdbi := fun n d (hp : isPrivate n = false) (hd : findDbi w.dbis n = some d) =>
    mainToShadow_dbi_abs hs hok hn ht hne hclk h hp hd (hnd n d hp hd)
  -- a name without application DBI has no shadow, before and after
  have hmiss : ∀ n, isPrivate n = false → findDbi w.dbis n = none →
      findDbi w'.dbis (shadowName n) = none := by
    intro n hp hd
    rw [(mainToShadow_frame h).2 (shadowName n) ?_, hok.no_orphan hp hd]
    intro m hm _ he
    cases shadowName_inj he
    obtain ⟨d, hdm, hdn⟩ := List.mem_map.mp hm
    exact findDbi_none.mp hd d hdm hdn
  refine ⟨mainToShadow_sorted hs h, ⟨fun n d hp hd => hok.app n d hp (happ n hp ▸ hd),
    fun n sd hp hsd => ?_⟩, happ, fun n d hp hd => ?_, fun (n, k) => ?_⟩
  · cases hd : findDbi w.dbis n with
    | none => rw [hmiss n hp hd] at hsd; cases hsd
    | some d =>
      obtain ⟨sd', hf, hik, hwf, _⟩ := hdbi n d hp hd
      rw [hf] at hsd; cases hsd
      exact ⟨hwf, d, by rw [happ n hp]; exact hd, hik⟩
  · obtain ⟨sd', hf, _⟩ := hdbi n d hp hd
    rw [hf]; rfl
  · cases hp : isPrivate n with
    | true => rw [capture_apply, absShD_private hp, absShD_private hp, appVD_private hp]; rfl
    | false =>
      cases hd : findDbi w.dbis n with
      | none =>
        rw [capture_apply, absShD_of_none (hmiss n hp hd), absShD_of_none (hok.no_orphan hp hd),
          appVD_of_none hd]
        rfl
      | some d =>
        obtain ⟨sd', hf, _, _, hk⟩ := hdbi n d hp hd
        rw [absShD_of_find hp hf]
        exact hk k

/-- both DBIs a message concerns — the application DBI and the shadow it is merged into, existing
    or created from the message (`createFlags`, `shadowCreateFlags`) — have the key order the
    message says (the same integer-key flag), so that no key changes its meaning -/
def FlagsOkSh (c : Cfg) (dbis : List Dbi) (m : DbiMsg) : Prop :=
  isIntKey ((findDbi dbis m.name).getD (newDbi m.name (createFlags c m))).flags = isIntKey m.flags ∧
  isIntKey ((findDbi dbis (shadowName m.name)).getD
    (newDbi (shadowName m.name) (shadowCreateFlags c m))).flags = isIntKey m.flags

instance (c : Cfg) (dbis : List Dbi) (m : DbiMsg) : Decidable (FlagsOkSh c dbis m) := by
  unfold FlagsOkSh; exact inferInstance

theorem loadDbi_abs_sh {c : Cfg} {snap : Snap} {txnID : Nat} {w w' : W} {m : DbiMsg}
    (hn : c.native = false) (ht : txnID < two64) (hp : isPrivate m.name = false)
    (hok : ShOk w.dbis) (hm : MsgWF m ∧ FlagsOkSh c w.dbis m)
    (h : loadDbi c snap txnID 0 w m = .ok w') :
    ShOk w'.dbis ∧
    (∀ n, n ≠ m.name → n ≠ shadowName m.name → findDbi w'.dbis n = findDbi w.dbis n) ∧
    findDbi w'.dbis m.name = some (appDbi c w.dbis m) ∧
    appVD w'.dbis = appVD w.dbis ∧
    ∀ n k, absShD w'.dbis (n, k) =
      if n = m.name then join (absShD w.dbis (n, k)) (absMsg snap.fv m k) else absShD w.dbis (n, k) := by
  obtain ⟨hmw, hfl1, hfl2⟩ := hm
  have htd : targetDbi c w.dbis m = (findDbi w.dbis (shadowName m.name)).getD
      (newDbi (shadowName m.name) (shadowCreateFlags c m)) := by
    simp only [targetDbi, hn, Bool.false_eq_true, if_false]
  have hwf : DbiWF (targetDbi c w.dbis m) := by
    rw [htd]
    cases hf : findDbi w.dbis (shadowName m.name) with
    | some sd => exact (hok.sh _ _ hp hf).1
    | none => exact kvsWF_nil _
  obtain ⟨kvs, hwf', hpt, hlook⟩ := loadDbi_spec hp ht hmw hwf (htd ▸ hfl2) h
  simp only [targetName, hn, Bool.false_eq_true, if_false] at hlook
  have happ' : ∀ n, isPrivate n = false → findDbi w'.dbis n =
      if n = m.name then some (appDbi c w.dbis m) else findDbi w.dbis n :=
    fun n hpn => by rw [hlook, if_neg fun he => shadowName_ne_of_not_private hpn he.symm]
  have hsh' : ∀ n, isPrivate n = false → findDbi w'.dbis (shadowName n) =
      if n = m.name then some { targetDbi c w.dbis m with kvs := kvs }
      else findDbi w.dbis (shadowName n) := by
    intro n hpn
    rw [hlook]
    by_cases hnm : n = m.name
    · rw [if_pos (by rw [hnm]), if_pos hnm]
    · rw [if_neg fun he => hnm (shadowName_inj he), if_neg (shadowName_ne_of_not_private hp), if_neg hnm]
  refine ⟨⟨fun n d hpn hf => ?_, fun n sd hpn hf => ?_⟩, fun n h1 h2 => by rw [hlook, if_neg h2, if_neg h1],
    by rw [happ' _ hp, if_pos rfl], funext fun (n, k) => ?_, fun n k => ?_⟩
  · rw [happ' n hpn] at hf
    split at hf
    · cases hf
      unfold appDbi
      cases hfo : findDbi w.dbis m.name with
      | some d0 => exact hok.app _ _ hp hfo
      | none => exact ⟨sorted_nil _, fun p hp' => by cases hp'⟩
    · exact hok.app n d hpn hf
  · rw [hsh' n hpn] at hf
    split at hf
    · rename_i hnm
      cases hf
      exact ⟨hwf', appDbi c w.dbis m, by rw [happ' n hpn, if_pos hnm], (htd ▸ hfl2).trans hfl1.symm⟩
    · rename_i hnm
      obtain ⟨hsw, d, hd, hik⟩ := hok.sh n sd hpn hf
      exact ⟨hsw, d, by rw [happ' n hpn, if_neg hnm]; exact hd, hik⟩
  · cases hpn : isPrivate n with
    | true => rw [appVD_private hpn, appVD_private hpn]
    | false =>
      by_cases hnm : n = m.name
      · subst hnm
        rw [appVD_of_find hpn (by rw [happ' _ hpn, if_pos rfl])]
        unfold appDbi
        cases hfo : findDbi w.dbis m.name with
        | some d0 => exact (appVD_of_find hpn hfo k).symm
        | none => exact (appVD_of_none hfo k).symm
      · unfold appVD
        simp only [happ' n hpn, if_neg hnm]
  · by_cases hnm : n = m.name
    · subst hnm
      rw [if_pos rfl, absShD_of_find hp (by rw [hsh' _ hp, if_pos rfl])]
      show absDbi { targetDbi c w.dbis m with kvs := kvs } k = _
      rw [hpt, htd, absDbi_getD]
      simp only [absShD, hp, Bool.false_eq_true, if_false]
      rfl
    · rw [if_neg hnm]
      cases hpn : isPrivate n with
      | true => rw [absShD_private hpn, absShD_private hpn]
      | false => exact absShD_congr (by rw [hsh' n hpn, if_neg hnm]) k

/-- without the dupsort hack the pass fails on a duplicate-keys DBI, so a successful pass shows
    there is none -/
theorem shadowToMain_dbi_abs {c : Cfg} {w w' : W} (hh : c.hack = false)
    (hs : SortedNames w.dbis) (hok : ShOk w.dbis) (h : shadowToMain c w = .ok w')
    {n : Bytes} {d : Dbi} (hp : isPrivate n = false) (hd : findDbi w.dbis n = some d) :
    isDupSort d.flags = false ∧
    ∃ kvs', findDbi w'.dbis n = some { d with kvs := kvs' } ∧
      Sorted (isIntKey d.flags) kvs' ∧ DKeysOK kvs' ∧
      ∀ k, get (isIntKey d.flags) kvs' k = projVer (absShD w.dbis (n, k)) := by
  have hdist := (namesSorted_iff.mpr hs).distinct
  have hnd : isDupSort d.flags = false := by
    obtain ⟨w1, w2, hstep, hd1, _, _⟩ := shadowToMain_dbi hdist h hp hd
    cases hdup : isDupSort d.flags with
    | false => rfl
    | true =>
      unfold s2mStep at hstep
      simp [hp, hd1, hdup, hh, bind, Except.bind, throw, throwThe, MonadExceptOf.throw] at hstep
  obtain ⟨sd, kvs', hsd, hd', _, hproj⟩ := shadowToMain_nondup hdist h hp hd hnd
  obtain ⟨hik, hwf⟩ := hok.shadow hp hd hsd
  obtain ⟨hA, hAK⟩ := hok.app n d hp hd
  obtain ⟨hS', hK', hget⟩ := hproj hA hAK hwf.1 (fun p hp' => (hwf.2 p hp').1)
  refine ⟨hnd, kvs', hd', hS', hK', fun k => ?_⟩
  rw [hget k, absShD_of_find hp hsd, hik]
  exact bind_projVal_abs fun b hb => of_get (fun p hp' => (hwf.2 p hp').2) hb

theorem shadowToMain_abs {c : Cfg} {w w' : W} (hh : c.hack = false)
    (hs : SortedNames w.dbis) (hok : ShOk w.dbis) (h : shadowToMain c w = .ok w') :
    SortedNames w'.dbis ∧ ShOk w'.dbis ∧ NoDupApp w'.dbis ∧
    (∀ n d', isPrivate n = false → findDbi w'.dbis n = some d' →
      ∃ d, findDbi w.dbis n = some d ∧ d'.flags = d.flags) ∧
    (∀ key, absShD w'.dbis key = absShD w.dbis key) ∧
    ∀ key, appVD w'.dbis key = projVer (absShD w'.dbis key) := by
  obtain ⟨hnames, _, hpriv⟩ := shadowToMain_frame h
  have hshs : ∀ n, findDbi w'.dbis (shadowName n) = findDbi w.dbis (shadowName n) :=
    fun n => hpriv _ (isPrivate_shadowName n)
  have habs : ∀ key, absShD w'.dbis key = absShD w.dbis key := fun (n, k) => absShD_congr (hshs n) k
  have hdbi := fun n d (hp : isPrivate n = false) (hd : findDbi w.dbis n = some d) =>
    shadowToMain_dbi_abs hh hs hok h hp hd
  -- the pass creates no DBI
  have hnone : ∀ n, findDbi w.dbis n = none → findDbi w'.dbis n = none := by
    intro n hd
    rw [findDbi_none] at hd ⊢
    intro d' hdm hdn
    have hmem : n ∈ dbiNames w' := List.mem_map.mpr ⟨d', hdm, hdn⟩
    rw [hnames] at hmem
    obtain ⟨d, hdm0, hdn0⟩ := List.mem_map.mp hmem
    exact hd d hdm0 hdn0
  -- so every application DBI of the result is the image of one of the input
  have hfrom : ∀ n d', isPrivate n = false → findDbi w'.dbis n = some d' →
      ∃ d kvs', findDbi w.dbis n = some d ∧ d' = { d with kvs := kvs' } ∧
        isDupSort d.flags = false ∧ Sorted (isIntKey d.flags) kvs' ∧ DKeysOK kvs' := by
    intro n d' hp hd'
    cases hd : findDbi w.dbis n with
    | none => rw [hnone n hd] at hd'; cases hd'
    | some d =>
      obtain ⟨hnd, kvs', hf, hS, hK, _⟩ := hdbi n d hp hd
      rw [hf] at hd'; cases hd'
      exact ⟨d, kvs', rfl, rfl, hnd, hS, hK⟩
  refine ⟨shadowToMain_sorted hs h, ⟨fun n d' hp hd' => ?_, fun n sd hp hsd => ?_⟩,
    fun n d' hp hd' => ?_, fun n d' hp hd' => ?_, habs, fun (n, k) => ?_⟩
  · obtain ⟨d, kvs', _, rfl, _, hS, hK⟩ := hfrom n d' hp hd'
    exact ⟨hS, hK⟩
  · rw [hshs] at hsd
    obtain ⟨hwf, d, hd, hik⟩ := hok.sh n sd hp hsd
    obtain ⟨_, kvs', hf, _⟩ := hdbi n d hp hd
    exact ⟨hwf, _, hf, hik⟩
  · obtain ⟨d, kvs', _, rfl, hnd, _⟩ := hfrom n d' hp hd'
    exact hnd
  · obtain ⟨d, kvs', hd, rfl, _⟩ := hfrom n d' hp hd'
    exact ⟨d, hd, rfl⟩
  · rw [habs]
    cases hp : isPrivate n with
    | true => rw [appVD_private hp, absShD_private hp]; rfl
    | false =>
      cases hd : findDbi w.dbis n with
      | none => rw [appVD_of_none (hnone n hd), absShD_of_none (hok.no_orphan hp hd)]; rfl
      | some d =>
        obtain ⟨_, kvs', hf, _, _, hget⟩ := hdbi n d hp hd
        rw [appVD_of_find hp hf]
        exact hget k

/-- `loadOnce` in shadow mode (no dupsort hack, cut-off 0): capture if `lastSynced < e.lastTxn`,
    merge loop, projection. `F` is any property of the flags of application DBIs that holds of
    the flags DBIs are created with (byte order, for the run-level invariant). -/
theorem loadOnce_abs_sh {F : Nat → Prop} (c : Cfg) (e : Env) (snap : Snap) (lastSynced now : Nat)
    (r : LoadRes) (hn : c.native = false) (hh : c.hack = false)
    (hT : e.lastTxn + 1 < two64) (hnow : now < two64)
    (hs : SortedNames e.dbis) (hok : ShOk e.dbis) (hnd : NoDupApp e.dbis)
    (hsnap : SnapOk snap)
    (hfl : ∀ m ∈ snap.dbs, isPrivate m.name = false → FlagsOkSh c e.dbis m)
    (hne : lastSynced < e.lastTxn → ∀ key v, appView e key = some v → v ≠ [])
    (hclk : lastSynced < e.lastTxn → ∀ key o v, absShadow e key = some o →
      appView e key = some v → o.val ≠ v → o.ts < now)
    (hF : ∀ n d, isPrivate n = false → findDbi e.dbis n = some d → F d.flags)
    (hFm : ∀ m ∈ snap.dbs, isPrivate m.name = false → F (createFlags c m))
    (h : loadOnce c e snap lastSynced now 0 = .ok r) :
    SortedNames r.env.dbis ∧ ShOk r.env.dbis ∧ NoDupApp r.env.dbis ∧
    (∀ n d, isPrivate n = false → findDbi r.env.dbis n = some d → F d.flags) ∧
    absShadow r.env = (if lastSynced < e.lastTxn then capture (absShadow e) (appView e) now
      else absShadow e).join (absSnap snap) ∧
    (∀ key, appView r.env key = projVer (absShadow r.env key)) := by
  obtain ⟨w1, w2, w3, h1, h2, h3, henv, _, _⟩ := loadOnce_shadow_ok hn h
  -- the capture, if it runs
  obtain ⟨hs1, hok1, hF1, hfl1, habs1⟩ : SortedNames w1.dbis ∧ ShOk w1.dbis ∧
      (∀ n d, isPrivate n = false → findDbi w1.dbis n = some d → F d.flags) ∧
      (∀ m ∈ snap.dbs, isPrivate m.name = false → FlagsOkSh c w1.dbis m) ∧
      ∀ key, absShD w1.dbis key =
        (if lastSynced < e.lastTxn then capture (absShadow e) (appView e) now
         else absShadow e) key := by
    by_cases hl : lastSynced < e.lastTxn
    · rw [if_pos hl] at h1
      obtain ⟨a1, a2, a3, a4, a5⟩ := mainToShadow_abs (w := ⟨e.dbis, false⟩) hs hok hnd hnow hT
        (hne hl) (hclk hl) h1
      refine ⟨a1, a2, fun n d hp hf => hF n d hp (a3 n hp ▸ hf), fun m hm hp => ?_,
        fun key => by rw [if_pos hl]; exact a5 key⟩
      -- the key orders the message relies on survive the capture
      obtain ⟨f1, f2⟩ := hfl m hm hp
      refine ⟨by rw [a3 _ hp]; exact f1, ?_⟩
      cases hd : findDbi e.dbis m.name with
      | none =>
        rw [hok.no_orphan hp hd] at f2
        rw [a2.no_orphan hp (by rw [a3 _ hp]; exact hd)]
        exact f2
      | some d =>
        obtain ⟨sd, hs1⟩ := Option.isSome_iff_exists.mp (a4 _ d hp hd)
        rw [hd] at f1
        rw [hs1, Option.getD_some, (a2.shadow hp (by rw [a3 _ hp]; exact hd) hs1).1]
        exact f1
    · rw [if_neg hl] at h1
      subst h1
      exact ⟨hs, hok, hF, hfl, fun key => by rw [if_neg hl]; rfl⟩
  -- the merge loop
  obtain ⟨⟨hok2, hF2⟩, habs2⟩ := loadFold_join
    (Inv := fun w => ShOk w.dbis ∧ ∀ n d, isPrivate n = false → findDbi w.dbis n = some d → F d.flags)
    (A := fun w => absShD w.dbis)
    (C := fun w m => MsgWF m ∧ FlagsOkSh c w.dbis m ∧ F (createFlags c m))
    (fun w w' m hp hinv hm hl => by
      obtain ⟨b1, b2, b3, _, b5⟩ := loadDbi_abs_sh hn hT hp hinv.1 ⟨hm.1, hm.2.1⟩ hl
      refine ⟨⟨b1, fun n d hpn hf => ?_⟩, b5, fun m' hp' hne hm' => ⟨hm'.1, ?_, hm'.2.2⟩⟩
      · by_cases hnm : n = m.name
        · rw [hnm, b3] at hf
          cases hf
          unfold appDbi
          cases hfo : findDbi w.dbis m.name with
          | some d0 => exact hinv.2 _ d0 hp hfo
          | none => exact hm.2.2
        · exact hinv.2 n d hpn (b2 n hnm (fun he => shadowName_ne_of_not_private hpn he.symm) ▸ hf)
      · have := hm'.2.1
        unfold FlagsOkSh at this ⊢
        rwa [b2 _ hne (fun he => shadowName_ne_of_not_private hp' he.symm),
          b2 _ (shadowName_ne_of_not_private hp) (fun he => hne (shadowName_inj he))])
    snap.dbs w1 w2 hsnap.1 ⟨hok1, hF1⟩
    (fun m hm hp => ⟨hsnap.2 m hm hp, hfl1 m hm hp, hFm m hm hp⟩) h2
  -- the projection
  obtain ⟨hs3, hok3, hnd3, hfl3, habs3, hproj⟩ := shadowToMain_abs hh (loadFold_sorted hs1 h2) hok2 h3
  have hdb : r.env.dbis = w3.dbis := by rw [henv]; rfl
  unfold absShadow appView
  rw [hdb]
  refine ⟨hs3, hok3, hnd3, fun n d' hp hf => ?_, funext fun key => by rw [habs3, habs2, habs1]; rfl, hproj⟩
  obtain ⟨d, hd, hfl⟩ := hfl3 n d' hp hf
  exact hfl ▸ hF2 n d hp hd

theorem sendOnce_abs_sh (c : Cfg) (e : Env) (now cutoff : Nat) (r : SendRes)
    (hn : c.native = false) (hro : c.receiveOnly = false)
    (hT : e.lastTxn + 1 < two64) (hnow : now < two64)
    (hs : SortedNames e.dbis) (hok : ShOk e.dbis) (hnd : NoDupApp e.dbis)
    (hne : ∀ key v, appView e key = some v → v ≠ [])
    (hclk : ∀ key o v, absShadow e key = some o → appView e key = some v → o.val ≠ v → o.ts < now)
    (h : sendOnce c e now cutoff = .ok r) :
    SortedNames r.env.dbis ∧ ShOk r.env.dbis ∧ NoDupApp r.env.dbis ∧
    (∀ n, isPrivate n = false → findDbi r.env.dbis n = findDbi e.dbis n) ∧
    appView r.env = appView e ∧
    absShadow r.env = capture (absShadow e) (appView e) now ∧
    absSnap r.snap = capture (absShadow e) (appView e) now ∧
    (∀ key, appView r.env key = liveOf (absShadow r.env key)) ∧
    SnapOk r.snap ∧
    ∀ m ∈ r.snap.dbs, isPrivate m.name = false ∧
      ∃ d, findDbi e.dbis m.name = some d ∧ m.flags = d.flags := by
  obtain ⟨w, hw, henv, _, hfv, _, hp⟩ := (sendOnce_ok_iff c e now cutoff r hro).mp h
  simp only [dumpState, hn, Bool.false_eq_true, if_false] at hw
  obtain ⟨a1, a2, a3, _, a5⟩ := mainToShadow_abs (w := ⟨e.dbis, false⟩) hs hok hnd hnow hT hne hclk hw
  have hdn : ∀ n, dumpName c n = shadowName n := fun n => by simp [dumpName, hn]
  obtain ⟨hnodup, hms, hnone, hsome⟩ := dump_abs (fv := r.snap.fv) (by rw [hfv]; decide) a1 hp
    fun n d sd hpn hd hsd => by
      obtain ⟨hik, _⟩ := a2.shadow hpn hd (hdn n ▸ hsd)
      exact ⟨(a2.sh n sd hpn (hdn n ▸ hsd)).1, hik⟩
  have hdb : r.env.dbis = w.dbis := by rw [henv]; simp [sendEnv, hn, commit]
  have hsh : absShadow r.env = capture (absShadow e) (appView e) now := by
    unfold absShadow; rw [hdb]; exact funext a5
  have happ : appView r.env = appView e := by unfold appView; rw [hdb]; exact appVD_congr a3
  rw [hdb]
  refine ⟨a1, a2, fun n d hpn hf => hnd n d hpn (a3 n hpn ▸ hf), a3, happ, hsh, ?_,
    fun key => by rw [happ, hsh]; exact app_eq_live_capture _ _ now key,
    ⟨hnodup, fun m hm _ => (hms m hm).2.1⟩, fun m hm => ?_⟩
  · rw [← hsh]
    unfold absShadow
    rw [hdb]
    funext (n, k)
    show absMsgs _ _ _ = _
    cases hpn : isPrivate n with
    | true => rw [absMsgs_private hpn, absShD_private hpn]
    | false =>
      cases hd : findDbi w.dbis n with
      | none => rw [hnone n k hd, absShD_of_none (a2.no_orphan hpn hd)]
      | some d =>
        obtain ⟨sd, hsd, habs⟩ := hsome n d hpn hd
        rw [hdn] at hsd
        rw [habs, absShD_of_find hpn hsd]
        rfl
  · obtain ⟨hpn, _, d, hd, hf⟩ := hms m hm
    exact ⟨hpn, d, by rw [← a3 _ hpn]; exact hd, hf⟩

/-- a property of the value of an option, if there is one -/
def optAll {α : Type} (o : Option α) (P : α → Prop) : Prop := ∀ x, o = some x → P x

instance {α : Type} (o : Option α) (P : α → Prop) [∀ x, Decidable (P x)] : Decidable (optAll o P) :=
  match o with
  | none => isTrue (fun _ h => by cases h)
  | some a =>
    if h : P a then isTrue (fun x hx => by injection hx with hx; subst hx; exact h)
    else isFalse (fun hf => h (hf a rfl))

/-- a property of the version a stored value denotes, if it parses -/
def verAll (P : Ver → Prop) (b : Bytes) : Prop :=
  match decodeS b with
  | .ok (some v) => P v
  | _ => True

instance (P : Ver → Prop) [∀ v, Decidable (P v)] (b : Bytes) : Decidable (verAll P b) := by
  unfold verAll; split <;> exact inferInstance

/-- the application name of a shadow DBI name -/
def unshadow (x : Bytes) : Option Bytes :=
  if shadowPrefix.isPrefixOf x then some (x.drop shadowPrefix.length) else none

theorem unshadow_shadowName (n : Bytes) : unshadow (shadowName n) = some n := by
  unfold unshadow shadowName
  have : shadowPrefix.isPrefixOf (shadowPrefix ++ n) = true := by
    rw [List.isPrefixOf_iff_prefix]; exact List.prefix_append _ _
  rw [if_pos this, List.drop_left]

theorem unshadow_some {x n : Bytes} (h : unshadow x = some n) : x = shadowName n := by
  unfold unshadow at h
  split at h
  · rename_i hpre
    injection h with h
    rw [List.isPrefixOf_iff_prefix] at hpre
    have := List.prefix_iff_eq_append.mp hpre
    unfold shadowName
    rw [← h]; exact this.symm
  · cases h

/-- **well-formed shadow-mode environment** (decidable): DBI names strictly increasing; every
    application (non-private) DBI has no duplicate keys, is strictly sorted in its key order with
    keys of 1..511 bytes, and its shadow — if it exists — has the same integer-key flag and a
    well-formed content (`DbiWF`: sorted, keys of 1..511 bytes, every value parses to a well-formed
    version); every shadow DBI of a non-private name belongs to an existing application DBI -/
def ShadowWF (e : Env) : Prop :=
  SortedNames e.dbis ∧
  (∀ d ∈ e.dbis, isPrivate d.name = false →
    isDupSort d.flags = false ∧ Sorted (isIntKey d.flags) d.kvs ∧ DKeysOK d.kvs ∧
    optAll (findDbi e.dbis (shadowName d.name)) fun sd =>
      isIntKey sd.flags = isIntKey d.flags ∧ DbiWF sd) ∧
  (∀ sd ∈ e.dbis, optAll (unshadow sd.name) fun n =>
    isPrivate n = false → (findDbi e.dbis n).isSome = true)

instance (e : Env) : Decidable (ShadowWF e) := by unfold ShadowWF; exact inferInstance

theorem shadowWF_iff (e : Env) : ShadowWF e ↔ SortedNames e.dbis ∧ ShOk e.dbis ∧ NoDupApp e.dbis := by
  constructor
  · rintro ⟨hs, h2, h3⟩
    have h2' := fun n d (hp : isPrivate n = false) (hf : findDbi e.dbis n = some d) =>
      (findDbi_name hf ▸ h2 d (findDbi_mem hf)) hp
    refine ⟨hs, ⟨fun n d hp hf => ⟨(h2' n d hp hf).2.1, (h2' n d hp hf).2.2.1⟩, fun n sd hp hf => ?_⟩,
      fun n d hp hf => (h2' n d hp hf).1⟩
    have hex := h3 sd (findDbi_mem hf) n (by rw [findDbi_name hf]; exact unshadow_shadowName n) hp
    cases hd : findDbi e.dbis n with
    | none => rw [hd] at hex; cases hex
    | some d =>
      have := (h2' n d hp hd).2.2.2 sd (findDbi_name hd ▸ hf)
      exact ⟨this.2, d, rfl, this.1⟩
  · rintro ⟨hs, hok, hnd⟩
    refine ⟨hs, fun d hd hp => ?_, fun sd hsd n hun hp => ?_⟩
    · have hf := findDbi_of_mem hs hd
      obtain ⟨hA, hK⟩ := hok.app _ d hp hf
      exact ⟨hnd _ d hp hf, hA, hK, fun sd hsd =>
        ⟨(hok.shadow hp hf hsd).1, (hok.sh _ sd hp hsd).1⟩⟩
    · have hf := findDbi_of_mem hs hsd
      rw [unshadow_some hun] at hf
      obtain ⟨_, d, hd, _⟩ := hok.sh n sd hp hf
      rw [hd]; rfl

/-- a property `P` of every version stored in the shadow of an application DBI (decidable) -/
def ShadowAll (P : Ver → Prop) (e : Env) : Prop :=
  ∀ d ∈ e.dbis, isPrivate d.name = false →
    optAll (findDbi e.dbis (shadowName d.name)) fun sd => ∀ p ∈ sd.kvs, verAll P p.2

instance (P : Ver → Prop) [∀ v, Decidable (P v)] (e : Env) : Decidable (ShadowAll P e) := by
  unfold ShadowAll; exact inferInstance

theorem decodeO_eq_some {o : Option Bytes} {v : Ver} (h : decodeO o = some v) :
    ∃ b, o = some b ∧ decodeS b = .ok (some v) := by
  cases o with
  | none => cases h
  | some b =>
    refine ⟨b, rfl, ?_⟩
    unfold decodeO at h
    simp only at h
    split at h
    · rename_i x hx; rw [hx, h]
    · cases h

theorem shadowAll_abs {P : Ver → Prop} {e : Env} (hok : ShOk e.dbis) (h : ShadowAll P e) :
    ∀ key v, absShadow e key = some v → P v := by
  intro (n, k) v hv
  cases hp : isPrivate n with
  | true => rw [absShadow, absShD_private hp] at hv; cases hv
  | false =>
    cases hs : findDbi e.dbis (shadowName n) with
    | none => rw [absShadow, absShD_of_none hs] at hv; cases hv
    | some sd =>
      rw [absShadow, absShD_of_find hp hs] at hv
      obtain ⟨b, hg, hd⟩ := decodeO_eq_some hv
      obtain ⟨_, d, hdf, _⟩ := hok.sh n sd hp hs
      have hn := findDbi_name hdf
      have := of_get (h d (findDbi_mem hdf) (by rw [hn]; exact hp) sd (by rw [hn]; exact hs)) hg
      unfold verAll at this
      rwa [hd] at this

theorem shadowAll_of_abs {P : Ver → Prop} {e : Env} (hok : ShOk e.dbis)
    (h : ∀ key v, absShadow e key = some v → P v) : ShadowAll P e := by
  intro d hd hp sd hsd p hp'
  unfold verAll
  split
  · rename_i v hv
    apply h (d.name, p.1) v
    rw [absShadow, absShD_of_find hp hsd, get_of_mem (hok.sh d.name sd hp hsd).1.1 hp']
    exact decodeO_some hv
  · trivial

/-- **shared monotone clock** (decidable): `now` is above every timestamp stored in a shadow -/
def ClockBelow (e : Env) (now : Nat) : Prop := ShadowAll (fun v => v.ts < now) e

instance (e : Env) (now : Nat) : Decidable (ClockBelow e now) := by
  unfold ClockBelow; exact inferInstance

/-- **D7 exclusion, shadow side** (decidable): no live shadow version has an empty value -/
def LiveNonEmpty (e : Env) : Prop := ShadowAll (fun v => v.del = false → v.val ≠ []) e

instance (e : Env) : Decidable (LiveNonEmpty e) := by unfold LiveNonEmpty; exact inferInstance

/-- **D7 exclusion, application side** (decidable): no application value is empty -/
def AppNonEmpty (e : Env) : Prop :=
  ∀ d ∈ e.dbis, isPrivate d.name = false → ∀ p ∈ d.kvs, p.2 ≠ []

instance (e : Env) : Decidable (AppNonEmpty e) := by unfold AppNonEmpty; exact inferInstance

theorem appNonEmpty_abs {e : Env} (h : AppNonEmpty e) :
    ∀ key v, appView e key = some v → v ≠ [] := by
  intro (n, k) v hv
  cases hp : isPrivate n with
  | true => rw [appView, appVD_private hp] at hv; cases hv
  | false =>
    cases hd : findDbi e.dbis n with
    | none => rw [appView, appVD_of_none hd] at hv; cases hv
    | some d =>
      rw [appView, appVD_of_find hp hd] at hv
      exact of_get (P := (· ≠ [])) (h d (findDbi_mem hd) (by rw [findDbi_name hd]; exact hp)) hv

/-- **D7 exclusion, snapshot side** (decidable): no live entry (after normalisation with the
    snapshot's format version) has an empty value -/
def SnapLiveNonEmpty (s : Snap) : Prop :=
  ∀ m ∈ s.dbs, ∀ x ∈ m.entries,
    (norm (normCfg s.fv) x).del = false → (norm (normCfg s.fv) x).val ≠ []

instance (s : Snap) : Decidable (SnapLiveNonEmpty s) := by unfold SnapLiveNonEmpty; exact inferInstance

theorem joinAll_mem {o : Option Ver} {l : List Ver} {v : Ver} (h : joinAll o l = some v) :
    o = some v ∨ v ∈ l := by
  induction l generalizing o with
  | nil => left; exact h
  | cons x xs ih =>
    rcases ih (o := join o (some x)) h with h1 | h1
    · rcases join_cases o (some x) with h2 | h2
      · left; rw [← h2, h1]
      · right; rw [h2] at h1; cases h1; exact List.mem_cons_self ..
    · right; exact List.mem_cons_of_mem _ h1

theorem snapLiveNonEmpty_abs {s : Snap} (h : SnapLiveNonEmpty s) : NoEmptyLive (absSnap s) := by
  intro (n, k) o ho
  change absMsgs s.fv s.dbs (n, k) = some o at ho
  cases hp : isPrivate n with
  | true => rw [absMsgs_private hp] at ho; cases ho
  | false =>
    cases hf : s.dbs.find? (fun m => m.name = n) with
    | none => rw [absMsgs_none (by simpa using hf)] at ho; cases ho
    | some m =>
      rw [absMsgs_of_find hp hf] at ho
      rcases joinAll_mem ho with h0 | h0
      · cases h0
      · obtain ⟨x, hx, rfl⟩ := List.mem_map.mp h0
        exact h m (List.mem_of_find?_eq_some hf) x (List.mem_filter.mp hx).1

theorem noEmptyLive_join {a b : Abs.DB} (ha : NoEmptyLive a) (hb : NoEmptyLive b) :
    NoEmptyLive (a.join b) := by
  intro key o ho
  rcases join_cases (a key) (b key) with h | h
  · exact ha key o (h ▸ ho)
  · exact hb key o (h ▸ ho)

theorem noEmptyLive_capture {sh : Abs.DB} {app : Abs.Key → Option Bytes} (now : Nat)
    (hs : NoEmptyLive sh) (ha : ∀ key v, app key = some v → v ≠ []) :
    NoEmptyLive (capture sh app now) := by
  intro key o ho hd
  rw [capture_apply] at ho
  unfold captureO at ho
  split at ho
  · rename_i v hv
    split at ho
    · exact hs key o ho hd
    · injection ho with ho; subst ho; exact ha key v hv
  · split at ho
    · rename_i x hx
      split at ho
      · exact hs key o (by rw [hx]; exact ho) hd
      · injection ho with ho; subst ho; cases hd
    · cases ho

/-- **the mirror invariant**: for every application DBI and key the application holds `v` iff
    the shadow holds a live version with value `v` (`appView = liveOf ∘ absShadow`), and no live
    shadow version has an empty value (the D7 exclusion: an empty live value cannot be mirrored,
    the projection removes it from the application DBI) -/
def Mirrored (e : Env) : Prop :=
  (∀ key, appView e key = liveOf (absShadow e key)) ∧ NoEmptyLive (absShadow e)

theorem mirrored_of_proj {e : Env} (hproj : ∀ key, appView e key = projVer (absShadow e key))
    (hne : NoEmptyLive (absShadow e)) : Mirrored e :=
  ⟨fun key => by rw [hproj key, projVer_eq_liveOf (hne key)], hne⟩

theorem mirrored_proj {e : Env} (hok : ShOk e.dbis) (h : Mirrored e) :
    ∀ key, appView e key = projVer (absShadow e key) :=
  fun key => by rw [h.1 key, projVer_eq_liveOf (h.2 key)]

theorem mirrored_app_nonempty {e : Env} (h : Mirrored e) :
    ∀ key v, appView e key = some v → v ≠ [] := by
  intro key v hv
  obtain ⟨ts, ho⟩ := liveOf_eq_some.mp (h.1 key ▸ hv)
  exact h.2 key _ ho rfl

/-- under the mirror invariant the clock hypothesis of the capture is vacuous: no key has an
    application value different from the stored one -/
theorem mirrored_no_change {e : Env} (h : Mirrored e) :
    ∀ key o v, absShadow e key = some o → appView e key = some v → o.val ≠ v → False := by
  intro key o v ho hv hne
  obtain ⟨ts, ho'⟩ := liveOf_eq_some.mp (h.1 key ▸ hv)
  cases ho.symm.trans ho'
  exact hne rfl

/-- the live value a stored shadow value denotes -/
def liveB (b : Bytes) : Option Bytes := liveOf (decodeO (some b))

/-- the projection of a shadow DBI's content: the live entries with their values -/
def projKvs (kvs : KVs) : KVs := kvs.filterMap fun p => (liveB p.2).map fun v => (p.1, v)

theorem get_projKvs {ik : Bool} {l : KVs} (hs : Sorted ik l) (k : Bytes) :
    get ik (projKvs l) k = (get ik l k).bind liveB := by
  induction l with
  | nil => rfl
  | cons p rest ih =>
    obtain ⟨k', v'⟩ := p
    have ih' := ih hs.tail
    rw [get_cons]
    unfold projKvs at ih' ⊢
    rw [List.filterMap_cons]
    by_cases hk : kcmp ik k k' = 0
    · rw [if_pos hk]
      simp only [Option.bind_some]
      cases hl : liveB v' with
      | some x => simp only [Option.map_some, get_cons, if_pos hk]
      | none =>
        simp only [Option.map_none]
        rw [ih']
        have : get ik rest k = none := by
          apply get_none_of_lt
          intro q hq
          exact kcmp_lt_of_eq_of_lt ik hk ((sorted_cons.mp hs).1 q hq)
        rw [this]; rfl
    · rw [if_neg hk]
      cases hl : liveB v' with
      | some x => simp only [Option.map_some, get_cons, if_neg hk]; exact ih'
      | none => simp only [Option.map_none]; exact ih'

/-- **the mirror invariant, decidable form**: every application DBI is literally the projection
    of its shadow (empty, if it has none), and no live shadow version has an empty value -/
def MirroredD (e : Env) : Prop :=
  LiveNonEmpty e ∧
  ∀ d ∈ e.dbis, isPrivate d.name = false →
    d.kvs = match findDbi e.dbis (shadowName d.name) with
      | none => []
      | some sd => projKvs sd.kvs

instance (e : Env) : Decidable (MirroredD e) := by unfold MirroredD; exact inferInstance

theorem mirrored_of_decidable {e : Env} (hwf : ShadowWF e) (h : MirroredD e) : Mirrored e := by
  obtain ⟨hs, hok, _⟩ := (shadowWF_iff e).mp hwf
  refine ⟨fun (n, k) => ?_, shadowAll_abs hok h.1⟩
  cases hp : isPrivate n with
  | true => rw [appView, absShadow, appVD_private hp, absShD_private hp]; rfl
  | false =>
    cases hd : findDbi e.dbis n with
    | none => rw [appView, absShadow, appVD_of_none hd, absShD_of_none (hok.no_orphan hp hd)]; rfl
    | some d =>
      have hkv := h.2 d (findDbi_mem hd) (by rw [findDbi_name hd]; exact hp)
      rw [findDbi_name hd] at hkv
      rw [appView, absShadow, appVD_of_find hp hd, hkv]
      cases hsn : findDbi e.dbis (shadowName n) with
      | none => rw [absShD_of_none hsn]; rfl
      | some sd =>
        obtain ⟨hik, hwf'⟩ := hok.shadow hp hd hsn
        rw [absShD_of_find hp hsn, hik]
        simp only
        rw [get_projKvs hwf'.1]
        cases get (isIntKey d.flags) sd.kvs k <;> rfl

/-- **well-formed snapshot, relative to the shadow-mode environment it is loaded into**: `SnapOk`
    (distinct message names, entries of non-private messages `MsgWF`), and for every non-private
    message the application DBI and the shadow it concerns — existing, or created by the load —
    have the key order the message announces (`FlagsOkSh`) -/
def SnapWFShadow (c : Cfg) (e : Env) (s : Snap) : Prop :=
  SnapOk s ∧ ∀ m ∈ s.dbs, isPrivate m.name = false → FlagsOkSh c e.dbis m

instance (c : Cfg) (e : Env) (s : Snap) : Decidable (SnapWFShadow c e s) := by
  unfold SnapWFShadow; exact inferInstance

end Ls.Txn
