import LsLemmas.TxnMirror
/-
  `shadowToMain`: the projection of the shadow DBI onto the application DBI; and the mirror
  invariants (`MirrorOK`, `DupMirrorOK`) under which a projection step writes nothing new.
-/
namespace Ls.Txn
open Ls Ls.Lmdb Ls.Strategy Ls.Merge

/-- the application value the projection writes for a stored shadow value: the bytes behind the
    header, nothing when they are empty (`PlainIterator.Merge` returns nil) -/
def projVal (stored : Bytes) : Option Bytes :=
  match Header.parse stored with
  | .ok (_, v) => if v.length = 0 then none else some v
  | .error _ => none

/-- the live application value of a stored shadow value (none for a deletion marker) -/
def liveVal (stored : Bytes) : Option Bytes :=
  match Header.parse stored with
  | .ok (h, v) => if Header.isDeleted h.flags then none else some v
  | .error _ => none

/-- a well-formed shadow value: the header parses and a deleted entry carries no value -/
def ValWF (stored : Bytes) : Prop :=
  ∃ h v, Header.parse stored = .ok (h, v) ∧ (Header.isDeleted h.flags = true → v = [])

/-- the projection of a well-formed shadow value is its live value, unless that is empty (D7) -/
theorem projVal_of_wf {stored : Bytes} (h : ValWF stored) :
    projVal stored = (liveVal stored).bind (fun v => if v.length = 0 then none else some v) := by
  obtain ⟨hd, v, hp, hw⟩ := h
  unfold projVal liveVal
  rw [hp]
  simp only
  by_cases hdel : Header.isDeleted hd.flags = true
  · rw [if_pos hdel, hw hdel]; rfl
  · rw [if_neg hdel]; rfl

/-- … so with non-empty live values the projection is exactly the live value -/
theorem projVal_eq_liveVal {stored : Bytes} (h : ValWF stored)
    (hne : ∀ v, liveVal stored = some v → v ≠ []) : projVal stored = liveVal stored := by
  rw [projVal_of_wf h]
  cases hl : liveVal stored with
  | none => rfl
  | some v =>
    simp only [Option.bind_some]
    rw [if_neg (fun h0 => hne v hl (List.length_eq_zero_iff.mp h0))]

theorem plainIter_total : Total plainIter (fun e _ => plainMerge e) (fun _ => none) :=
  ⟨fun _ _ => rfl, fun _ => rfl⟩

theorem readRel_projVal {stored : Bytes} {e : KV} (h : ReadRel stored e) :
    setNew (plainMerge e) = projVal stored := by
  obtain ⟨hd, hp, _, _⟩ := h
  unfold projVal plainMerge setNew
  rw [hp]
  by_cases hl : e.val.length = 0 <;> simp [hl]

theorem project_get {ik : Bool} {app sh : KVs} {es : List KV} {d : Bool} {s : S}
    (hr : KeyRel ReadRel sh es) (hA : Sorted ik app) (hAK : DKeysOK app)
    (hS : Sorted ik sh) (hSK : DKeysOK sh)
    (h : iterUpdate ik plainIter ⟨app, d⟩ es = .ok s) :
    Sorted ik s.db ∧ DKeysOK s.db ∧ ∀ k, get ik s.db k = (get ik sh k).bind projVal := by
  obtain ⟨h1, h2, hpt⟩ :=
    iterUpdate_keyRel (fun _ => rfl) hr hS hSK hA hAK (plainIter_total.local es app) h
  refine ⟨h1, h2, fun k => ?_⟩
  rcases hpt k with ⟨hs, hg, _⟩ | ⟨e, v, _, _, hs, hR, hg, _⟩
  · rw [hs, hg]; cases get ik app k <;> rfl
  · rw [hs, hg]; exact readRel_projVal hR

/-- the projection pass succeeds on well-formed input -/
theorem project_ok {ik : Bool} {app sh : KVs} {es : List KV} (d : Bool)
    (hr : KeyRel ReadRel sh es) (hA : Sorted ik app) (hAK : DKeysOK app)
    (hS : Sorted ik sh) (hSK : DKeysOK sh) :
    ∃ s, iterUpdate ik plainIter ⟨app, d⟩ es = .ok s := by
  have hk : ∀ e, plainIter.key e = e.key := fun _ => rfl
  obtain ⟨d', h1, _⟩ := iterUpdate_main app d es (plainIter_total.local es app)
    (hr.isorted plainIter hk hS) (hr.keysOK plainIter hk hSK) hA hAK
  exact ⟨_, h1⟩

/-- if the application DBI already is the projection of the shadow, the pass writes nothing -/
theorem project_noop {ik : Bool} {app sh : KVs} {es : List KV} (d : Bool)
    (hr : KeyRel ReadRel sh es) (hA : Sorted ik app) (hS : Sorted ik sh) (hSK : DKeysOK sh)
    (hinv : ∀ k, get ik app k = (get ik sh k).bind projVal) :
    iterUpdate ik plainIter ⟨app, d⟩ es = .ok ⟨app, d⟩ := by
  have hk : ∀ e, plainIter.key e = e.key := fun _ => rfl
  apply iterUpdate_noop app d es (hr.isorted plainIter hk hS) (hr.keysOK plainIter hk hSK) hA
  · intro e he
    unfold MergeNoop
    obtain ⟨kv, hkv, hke, hR⟩ := hr.mem_right e he
    have hg : get ik sh (plainIter.key e) = some kv.2 := by
      rw [hk, hke]; exact get_of_mem hS (by cases kv; exact hkv)
    have hi := hinv (plainIter.key e)
    rw [hg, Option.bind_some, ← readRel_projVal hR] at hi
    rw [hi]
    simp only [plainIter]
    unfold plainMerge setNew
    by_cases hl : e.val.length = 0
    · simp [hl]
    · have : e.val ≠ [] := fun h => hl (by rw [h]; rfl)
      simp [hl, this]
  · intro p hp hin
    exfalso
    rw [hr.inInput ik plainIter hk p.1] at hin
    have hg : get ik app p.1 = some p.2 := get_of_mem hA (by cases p; exact hp)
    rw [hinv p.1] at hg
    cases hsh : get ik sh p.1 with
    | none => rw [hsh] at hg; cases hg
    | some v => rw [hsh] at hin; cases hin

theorem s2mStep_private {c : Cfg} {w : W} {name : Bytes} (h : isPrivate name = true) :
    s2mStep c w name = .ok w := by
  unfold s2mStep; rw [if_pos h]; rfl

/-- the projection step on an application DBI whose shadow has been read: `IterUpdate` of the
    entries, or — duplicate keys — `EmptyPut` of the decoded entries -/
theorem s2mStep_eq {c : Cfg} {w : W} {name : Bytes} {d sd : Dbi} {es : List KV}
    (hp : isPrivate name = false) (hd : findDbi w.dbis name = some d)
    (hh : ¬ (isDupSort d.flags = true ∧ ¬ c.hack = true))
    (hsd : findDbi w.dbis (shadowName name) = some sd) (hm : sd.kvs.mapM (entryOf false) = .ok es) :
    s2mStep c w name =
      if isDupSort d.flags = true then
        match DupSort.decodeAll es with
        | .ok dec => runOn w name fun s => mapStratErr (emptyPut (isIntKey d.flags) true plainIter s dec)
        | .error _ => .error .dupHack
      else runOn w name fun s => mapStratErr (iterUpdate (isIntKey d.flags) plainIter s es) := by
  unfold s2mStep
  rw [if_neg (by simp [hp])]
  simp only [hd, hh, if_false, readDBI_entryOf_eq, hsd, hm, ok_bind, pure_bind]
  split
  · cases DupSort.decodeAll es <;> rfl
  · rfl

/-- shape of a successful projection step on an application DBI -/
theorem s2mStep_ok {c : Cfg} {w w' : W} {name : Bytes} (hp : isPrivate name = false)
    (h : s2mStep c w name = .ok w') :
    ∃ d sd es s, findDbi w.dbis name = some d ∧
      findDbi w.dbis (shadowName name) = some sd ∧ sd.kvs.mapM (entryOf false) = .ok es ∧
      (if isDupSort d.flags = true then ∃ dec, DupSort.decodeAll es = .ok dec ∧
          emptyPut (isIntKey d.flags) true plainIter ⟨d.kvs, w.dirty⟩ dec = .ok s
        else iterUpdate (isIntKey d.flags) plainIter ⟨d.kvs, w.dirty⟩ es = .ok s) ∧
      w' = ⟨setKvs w.dbis name s.db, s.dirty⟩ := by
  have h0 := h
  unfold s2mStep at h
  rw [if_neg (by simp [hp])] at h
  split at h
  case h_2 => cases h
  rename_i d hd
  dsimp only at h
  split at h
  · cases h
  rename_i hh
  obtain ⟨msg, hr, _⟩ := except_bind_ok h
  obtain ⟨sd, _, hsd, _, _, hm⟩ := readDBI_entryOf_ok hr
  rw [s2mStep_eq hp hd hh hsd hm] at h0
  refine ⟨d, sd, msg.entries, ?_⟩
  split at h0
  · rename_i hdup
    split at h0
    · rename_i dec hdec
      obtain ⟨d', s, hd', hs, hw⟩ := runOn_ok h0
      cases hd.symm.trans hd'
      exact ⟨s, hd, hsd, hm, by rw [if_pos hdup]; exact ⟨dec, hdec, mapStratErr_ok hs⟩, hw⟩
    · cases h0
  · rename_i hdup
    obtain ⟨d', s, hd', hs, hw⟩ := runOn_ok h0
    cases hd.symm.trans hd'
    exact ⟨s, hd, hsd, hm, by rw [if_neg hdup]; exact mapStratErr_ok hs, hw⟩

theorem s2mStep_shape {c : Cfg} {w w1 : W} {m : Bytes} (h : s2mStep c w m = .ok w1)
    (hp : isPrivate m = false) : ∃ kvs dirty, w1 = ⟨setKvs w.dbis m kvs, dirty⟩ := by
  obtain ⟨_, _, _, s, _, _, _, _, hw⟩ := s2mStep_ok hp h
  exact ⟨s.db, s.dirty, hw⟩

theorem s2mStep_edits {c : Cfg} {w w1 : W} {m : Bytes} (h : s2mStep c w m = .ok w1) :
    Edits (fun x => isPrivate m = false ∧ x = m) w.dbis w1.dbis := by
  cases hp : isPrivate m with
  | true => rw [s2mStep_private hp] at h; cases h; exact .refl _
  | false =>
    obtain ⟨kvs, dirty, rfl⟩ := s2mStep_shape h hp
    exact .set _ _ ⟨rfl, rfl⟩ (.refl _)

theorem s2mStep_names {c : Cfg} {w w1 : W} {m : Bytes} (h : s2mStep c w m = .ok w1) :
    dbiNames w1 = dbiNames w := by
  cases hp : isPrivate m with
  | true => rw [s2mStep_private hp] at h; cases h; rfl
  | false =>
    obtain ⟨kvs, dirty, rfl⟩ := s2mStep_shape h hp
    exact names_setKvs _ _ _

theorem shadowToMain_edits {c : Cfg} {w w' : W} (h : shadowToMain c w = .ok w') :
    Edits (fun x => isPrivate x = false) w.dbis w'.dbis :=
  (foldlM_edits (f := s2mStep c) (l := dbiNames w) (fun _ _ _ => s2mStep_edits) h).mono
    (fun _ ⟨_, _, hp, he⟩ => he ▸ hp)

/-- `shadowToMain` keeps the set of DBIs, and never writes a private DBI (in particular no shadow) -/
theorem shadowToMain_frame {c : Cfg} {w w' : W} (h : shadowToMain c w = .ok w') :
    dbiNames w' = dbiNames w ∧ (DistinctNames w.dbis → DistinctNames w'.dbis) ∧
    ∀ p, isPrivate p = true → findDbi w'.dbis p = findDbi w.dbis p :=
  ⟨foldlM_inv (l := dbiNames w) (f := s2mStep c) (fun x => dbiNames x = dbiNames w)
      (fun _ _ _ _ hb hs => (s2mStep_names hs).trans hb) rfl h,
   (shadowToMain_edits h).distinct,
   fun _ hp => (shadowToMain_edits h).find (by rw [hp]; exact Bool.noConfusion)⟩

/-- the DBI of one application name after `shadowToMain` is what that name's own step made of it,
    and that step saw the DBI and its shadow as they were at the start -/
theorem shadowToMain_dbi {c : Cfg} {w w' : W} (hdist : DistinctNames w.dbis)
    (h : shadowToMain c w = .ok w') {n : Bytes} {d : Dbi} (_hp : isPrivate n = false)
    (hd : findDbi w.dbis n = some d) :
    ∃ w1 w2, s2mStep c w1 n = .ok w2 ∧ findDbi w1.dbis n = some d ∧
      findDbi w1.dbis (shadowName n) = findDbi w.dbis (shadowName n) ∧
      findDbi w'.dbis n = findDbi w2.dbis n := by
  have hmem : n ∈ dbiNames w := findDbi_isSome_iff.mp (by rw [hd]; rfl)
  obtain ⟨w1, w2, hs, hfr⟩ := foldlM_isolate (f := s2mStep c)
    (fun _ _ _ => s2mStep_edits) (distinct_nodup hdist) hmem h
  have hn := hfr n (fun m _ hne ⟨_, he⟩ => hne he.symm)
  have hsd := hfr (shadowName n) (fun m _ _ ⟨hm, he⟩ => by rw [← he, isPrivate_shadowName] at hm; cases hm)
  exact ⟨w1, w2, hs, hn.1.trans hd, hsd.1, hn.2⟩

/-- an ordinary application DBI after `shadowToMain`: exactly the non-empty application values
    behind the headers of its shadow -/
theorem shadowToMain_nondup {c : Cfg} {w w' : W} (hdist : DistinctNames w.dbis)
    (h : shadowToMain c w = .ok w') {n : Bytes} {d : Dbi} (hp : isPrivate n = false)
    (hd : findDbi w.dbis n = some d) (hnd : isDupSort d.flags = false) :
    ∃ sd kvs', findDbi w.dbis (shadowName n) = some sd ∧
      findDbi w'.dbis n = some { d with kvs := kvs' } ∧
      (∀ p ∈ sd.kvs, ∃ hd v, Header.parse p.2 = .ok (hd, v)) ∧
      (Sorted (isIntKey d.flags) d.kvs → DKeysOK d.kvs →
       Sorted (isIntKey d.flags) sd.kvs → DKeysOK sd.kvs →
        Sorted (isIntKey d.flags) kvs' ∧ DKeysOK kvs' ∧
        ∀ k, get (isIntKey d.flags) kvs' k = (get (isIntKey d.flags) sd.kvs k).bind projVal) := by
  obtain ⟨w1, w2, hs, hd1, hsd1, hfin⟩ := shadowToMain_dbi hdist h hp hd
  obtain ⟨d', sd, es, s, hd', hsd, hm, hrun, rfl⟩ := s2mStep_ok hp hs
  cases hd1.symm.trans hd'
  rw [if_neg (by simp [hnd])] at hrun
  refine ⟨sd, s.db, hsd1 ▸ hsd, ?_, ?_, fun hA hAK hS hSK => project_get (keyRel_read hm) hA hAK hS hSK hrun⟩
  · rw [hfin, findDbi_setKvs_if, if_pos rfl, hd1]; rfl
  · intro p hp'
    obtain ⟨e, _, _, hd', hpr, _⟩ := (keyRel_read hm).mem_left p hp'
    exact ⟨hd', e.val, hpr⟩

/-- the mirror invariant of one ordinary application DBI: it is the projection of its shadow (and
    both are well-formed: same key order, sorted, valid shadow keys, parsable shadow values) -/
def MirrorOK (dbis : List Dbi) (d : Dbi) : Prop :=
  Sorted (isIntKey d.flags) d.kvs ∧
  ∃ sd, findDbi dbis (shadowName d.name) = some sd ∧
    Sorted (isIntKey d.flags) sd.kvs ∧ DKeysOK sd.kvs ∧
    (∀ p ∈ sd.kvs, ∃ hd v, Header.parse p.2 = .ok (hd, v)) ∧
    ∀ k, get (isIntKey d.flags) d.kvs k = (get (isIntKey d.flags) sd.kvs k).bind projVal

/-- the projection step writes nothing on a DBI that satisfies the mirror invariant -/
theorem s2mStep_noop {c : Cfg} {w : W} {name : Bytes} {d : Dbi} (hdist : DistinctNames w.dbis)
    (hp : isPrivate name = false) (hd : findDbi w.dbis name = some d) (hnd : isDupSort d.flags = false)
    (hm : MirrorOK w.dbis d) : s2mStep c w name = .ok w := by
  obtain ⟨hA, sd, hsd, hS, hSK, hparse, hinv⟩ := hm
  rw [findDbi_name hd] at hsd
  obtain ⟨es, hes⟩ := mapM_entryOf_false_ok sd.kvs hparse
  rw [s2mStep_eq hp hd (by simp [hnd]) hsd hes, if_neg (by simp [hnd])]
  exact runOn_noop hd hdist (mapStratErr_of_ok (project_noop w.dirty (keyRel_read hes) hA hS hSK hinv))

/-- the mirror invariant of a duplicate-keys application DBI under the dupsort hack: the
    projection of its shadow (`decodeAll` of the shadow entries put into an empty DBI by
    `EmptyPut`) is its content (established by a mirror cycle: C20_cycle) -/
def DupMirrorOK (dbis : List Dbi) (d : Dbi) : Prop :=
  ∃ sd es dec, findDbi dbis (shadowName d.name) = some sd ∧
    sd.kvs.mapM (entryOf false) = .ok es ∧ DupSort.decodeAll es = .ok dec ∧
    emptyPut (isIntKey d.flags) true plainIter ⟨[], false⟩ dec = .ok ⟨d.kvs, true⟩

/-- `EmptyPut` drops the DBI first: what it held, and whether the transaction had written, do not matter -/
theorem emptyPut_irrel {E ε : Type} (ik dup : Bool) (it : Iter E ε) (s s' : S) (input : List E) :
    emptyPut ik dup it s input = emptyPut ik dup it s' input := rfl

/-- the projection step on a duplicate-keys DBI satisfying the invariant: same content, but the
    transaction has written (EmptyPut drops the DBI first) -/
theorem s2mStep_dup_same {c : Cfg} {w : W} {name : Bytes} {d : Dbi} (hdist : DistinctNames w.dbis)
    (hp : isPrivate name = false) (hd : findDbi w.dbis name = some d) (hdup : isDupSort d.flags = true)
    (hh : c.hack = true) (hm : DupMirrorOK w.dbis d) : s2mStep c w name = .ok ⟨w.dbis, true⟩ := by
  obtain ⟨sd, es, dec, hsd, hes, hdec, hput⟩ := hm
  rw [findDbi_name hd] at hsd
  rw [emptyPut_irrel _ _ _ _ ⟨d.kvs, w.dirty⟩] at hput
  rw [s2mStep_eq hp hd (by simp [hh]) hsd hes, if_pos hdup, hdec]
  simp only
  rw [runOn_eq hd (mapStratErr_of_ok hput)]
  rw [setKvs_self hdist hd]

end Ls.Txn
