import LsLemmas.LoopBound
import LsLemmas.TxnAbsShadowRun
/-
  The sync-loop model (LsModel/SyncLoop.lean, product fleet of LsLemmas/LoopBound.lean) against
  the abstract last-writer-wins fleet (LsLemmas/AbsFleet.lean): what one segment does to the
  environment and the bucket (at most one transaction of the byte-level fleet, or the store), what
  a global event does to the instances of a fleet, and the simulation of whole fleet schedules,
  native mode and shadow mode (helper lemmas of LsProps/C01Loop.lean).
-/
namespace Ls.Loop
open Ls Ls.Lmdb Ls.Txn Ls.SyncLoop

/-- the environment a segment's transaction starts from: the environment as it is, or, in the
    start-up segment, what the start-up capture left -/
def StartEnv (c : LoopCfg) (s : St) (e : Env) : Prop :=
  e = s.env ∨ s.pc = .boot ∧ startCapture c s.env = .ok e

theorem StartEnv.native {c : LoopCfg} {s : St} {e : Env} (hn : c.txn.native = true) (h : StartEnv c s e) :
    e = s.env :=
  h.elim id fun h => (startCapture_facts h.2).2.2 hn

/-- a yield point that is not directly after one of the loop's transactions or its store -/
def quietPc : Pc → Bool
  | .sendAfterTxn .. | .loadAfterTxn .. | .sendStored .. => false
  | _ => true

theorem tailPc_quiet (c : LoopCfg) (w : List InstId) : quietPc (tailPc c w) = true := by
  unfold tailPc; split <;> rfl

def isStoredPc : Pc → Bool
  | .sendStored .. => true
  | _ => false

theorem quietPc_not {pc : Pc} (h : quietPc pc = true) :
    isSendAfterTxn pc = false ∧ isStoredPc pc = false := by
  cases pc <;> simp [quietPc, isSendAfterTxn, isStoredPc] at h ⊢

/-- the publication lists of the ghost state: all recorded ids, those no dump covers, those a dump
    in flight covers, those a stored dump covers -/
def Gh.lists (g : Gh) : List Nat × List Nat × List Nat × List Nat :=
  (g.allApp, g.unpub, g.inflight, g.published)

theorem findBlob_some {b : Bucket} {inst : InstId} {ts : Nat} {blob : Blob}
    (h : findBlob b inst ts = some blob) : blob ∈ b ∧ blob.inst = inst ∧ blob.ts = ts := by
  unfold findBlob at h
  have h1 := List.find?_some h
  simp only [Bool.and_eq_true, beq_iff_eq] at h1
  exact ⟨List.mem_of_find?_eq_some h, h1.1, h1.2⟩

/-- what one segment `go c b s i` does to the environment, the bucket and the publication lists
    (`env'`, `b'`, `gh'`), and at which kind of yield point it ends (`pc'`): at most one
    transaction, or the store -/
inductive SegTxn (c : LoopCfg) (b : Bucket) (s : St) (i : In) (gh : Gh) (env' : Env) (pc' : Pc)
    (b' : Bucket) (gh' : Gh) : Prop where
  /-- no transaction of the loop proper (nothing to do, a failed transaction, bookkeeping, a
      failed store); the start-up segment may have run the start-up capture -/
  | quiet : StartEnv c s env' → b' = b → quietPc pc' = true → gh'.uncap = gh.uncap →
      gh'.lists = gh.lists → SegTxn c b s i gh env' pc' b' gh'
  /-- the store: the snapshot held in the program counter reaches the bucket -/
  | store (who : Caller) (t ts : Nat) (sn : Snap) (t' : Nat) : s.pc = .sendAfterTxn who t ts sn →
      c.txn.receiveOnly = false → i.fails < c.retryCount → env' = s.env → pc' = .sendStored who t' →
      b' = b ++ [{ inst := c.own, ts := ts, snap := sn }] → gh'.uncap = gh.uncap →
      gh'.lists = (gh.allApp, gh.unpub, [], gh.published ++ gh.inflight) →
      SegTxn c b s i gh env' pc' b' gh'
  /-- one successful `loadOnce` (cut-off 0) of the blob the input names, called with the
      `lastSynced` of the pre-poll state -/
  | load (s1 : St) (n : Nat) (inst : InstId) (ts : Nat) (blob : Blob) (r : LoadRes) :
      prePoll s = some (s1, n) → s1.env = s.env → i.next = some (inst, ts) →
      findBlob b inst ts = some blob →
      loadOnce c.txn s.env blob.snap s1.lastSynced i.now 0 = .ok r → env' = r.env →
      pc' = .loadAfterTxn (s.env.lastTxn + 1) r.localChanged inst ts (n + 1) → b' = b →
      gh'.lists = gh.lists → SegTxn c b s i gh env' pc' b' gh'
  /-- one successful `sendOnce` (cut-off 0), from `beforeSend` or at start-up after the start-up
      capture; the snapshot is kept in the program counter -/
  | dump (env1 : Env) (r : SendRes) (who : Caller) : s.pc = .boot ∨ s.pc = .beforeSend →
      StartEnv c s env1 → sendOnce c.txn env1 i.now 0 = .ok r → env' = r.env →
      pc' = .sendAfterTxn who (if c.txn.native then env1.lastTxn else env1.lastTxn + 1) i.now r.snap →
      b' = b → gh'.lists = (gh.allApp, [], gh.inflight ++ gh.unpub, gh.published) →
      SegTxn c b s i gh env' pc' b' gh'

theorem go_segTxn (c : LoopCfg) (b : Bucket) (s : St) (i : In) (gh : Gh) :
    SegTxn c b s i gh (go c b s i).1.env (go c b s i).1.pc (go c b s i).2
      (gh.afterGo b s i (go c b s i).1.pc (go c b s i).1.waiting) := by
  have h := go_seg c b s i gh
  generalize (go c b s i).1 = s' at h ⊢
  generalize (go c b s i).2 = b' at h ⊢
  generalize gh.afterGo b s i s'.pc s'.waiting = gh' at h ⊢
  cases h with
  | bootFailed env cls hpc he => exact .quiet (he.imp id fun h => ⟨hpc, h⟩) rfl rfl rfl rfl
  | booted env hpc hcap _ => exact .quiet (.inr ⟨hpc, hcap⟩) rfl rfl rfl rfl
  | bootDumped env r hpc hcap _ _ hs => exact .dump env r _ (.inl hpc) (.inr ⟨hpc, hcap⟩) hs rfl rfl rfl rfl
  | dumped r hpc hs => exact .dump s.env r _ (.inr hpc) (.inl rfl) hs rfl rfl rfl rfl
  | stored who t ts sn hpc hro hf => exact .store who t ts sn _ hpc hro hf rfl rfl rfl rfl rfl
  | loaded inst ts n blob r _ _ hpp hn hb hl => exact .load _ n inst ts blob r hpp rfl hn hb hl rfl rfl rfl rfl
  | noSend _ _ => exact .quiet (.inl rfl) rfl (tailPc_quiet c _) rfl rfl
  | emptyGuard _ _ _ _ _ => exact .quiet (.inl rfl) rfl (tailPc_quiet c _) rfl rfl
  | roLoop _ _ _ _ _ => exact .quiet (.inl rfl) rfl (tailPc_quiet c _) rfl rfl
  | doneLoop _ _ => exact .quiet (.inl rfl) rfl (tailPc_quiet c _) rfl rfl
  | stay e hpc => exact .quiet (.inl rfl) rfl (by rw [hpc]; rfl) rfl rfl
  -- every other path ends at `top`, `beforeInfo`, `beforeSend`, `sleep` or an exit, with the
  -- environment, the bucket, `uncap` and the publication lists as they were
  | _ => exact .quiet (.inl rfl) rfl rfl rfl rfl

theorem fleetStep_self (cs : Nat → LoopCfg) (F : Fleet) (ke : Nat × Ev) :
    fleetStep cs F ke ke.1 = step (cs ke.1) (F ke.1) ke.2 := by
  unfold fleetStep localEv; rw [if_pos rfl]

theorem fleetStep_other (cs : Nat → LoopCfg) (F : Fleet) (ke : Nat × Ev) {j : Nat} (hj : j ≠ ke.1) :
    (fleetStep cs F ke j).st = (F j).st ∧ (fleetStep cs F ke j).gh = (F j).gh ∧
    (fleetStep cs F ke j).bucket = (F j).bucket ++ delta (cs ke.1) (F ke.1) ke.2 := by
  unfold fleetStep localEv; rw [if_neg hj]; exact ⟨rfl, rfl, rfl⟩

theorem fleetStep_shared (cs : Nat → LoopCfg) (F : Fleet) (ke : Nat × Ev) (B : Bucket)
    (hB : ∀ j, (F j).bucket = B) (j : Nat) :
    (fleetStep cs F ke j).bucket = (step (cs ke.1) (F ke.1) ke.2).bucket := by
  rw [step_bucket_delta, hB]
  by_cases hjk : j = ke.1
  · rw [hjk, fleetStep_self, step_bucket_delta, hB]
  · rw [(fleetStep_other cs F ke hjk).2.2, hB]

theorem step_segTxn (c : LoopCfg) (g : G) (i : In) :
    SegTxn c g.bucket g.st i g.gh (step c g (.go i)).st.env (step c g (.go i)).st.pc
      (step c g (.go i)).bucket (step c g (.go i)).gh :=
  go_segTxn c g.bucket g.st i g.gh

/-- snapshot `sn` satisfies `P` and the abstract bucket holds its logical content -/
def Held (P : Snap → Prop) (A : Abs.Fleet) (sn : Snap) : Prop :=
  P sn ∧ ∃ (idx : Nat) (o : Nat), A.bucket[idx]? = some (o, absSnap sn)

theorem Held.mono {P : Snap → Prop} {A A' : Abs.Fleet} {sn : Snap} (X : List (Nat × Abs.DB))
    (hbk : A'.bucket = A.bucket ++ X) (h : Held P A sn) : Held P A' sn := by
  obtain ⟨h1, idx, o, h2⟩ := h
  exact ⟨h1, idx, o, by rw [hbk]; exact getElem?_append_old X h2⟩

theorem Held.last {P : Snap → Prop} {A A' : Abs.Fleet} {sn : Snap} {k : Nat} (hP : P sn)
    (hbk : A'.bucket = A.bucket ++ [(k, absSnap sn)]) : Held P A' sn :=
  ⟨hP, A.bucket.length, k, by rw [hbk, List.getElem?_append_right (Nat.le_refl _), Nat.sub_self]; rfl⟩

open Ls.Abs in
/-- **the simulation relation, native mode**: every abstract database is the logical content of
    the instance's environment; the environments are well-formed; all instances see one bucket,
    every blob of which is `SnapOk` and has its logical content somewhere in the abstract bucket;
    the same for a snapshot in flight (dumped, not yet stored) of an instance that is not
    receive-only; the abstract bucket holds well-formed databases -/
structure RelN (cs : Nat → LoopCfg) (F : Fleet) (A : Abs.Fleet) : Prop where
  db : ∀ j, A.db j = absEnv (F j).st.env
  wf : ∀ j, EnvWF (F j).st.env
  bwf : ∀ p ∈ A.bucket, p.2.WF
  bucket : ∃ B, (∀ j, (F j).bucket = B) ∧
    ∀ blob ∈ B, SnapOk blob.snap ∧ ∃ (idx : Nat) (o : Nat), A.bucket[idx]? = some (o, absSnap blob.snap)
  pending : ∀ j who t ts sn, (F j).st.pc = .sendAfterTxn who t ts sn →
    (cs j).txn.receiveOnly = false → SnapOk sn ∧ ∃ (idx : Nat) (o : Nat), A.bucket[idx]? = some (o, absSnap sn)

/-- side conditions of a global event in native mode (nothing about success): a segment runs
    below transaction id 2^64, and the snapshot the receiver hands over (if any) has the key
    order of its target DBIs (`FlagsOk`); an application transaction is one put of a well-formed
    stored value into an existing non-private, byte-ordered, non-duplicate DBI whose version does
    not lose against what is stored; no blobs come from outside the fleet -/
def LoopOkN (cs : Nat → LoopCfg) (F : Fleet) (ke : Nat × Ev) : Prop :=
  match ke.2 with
  | .go i =>
    (F ke.1).st.env.lastTxn + 1 < two64 ∧
    ∀ inst ts blob, i.next = some (inst, ts) → findBlob (F ke.1).bucket inst ts = some blob →
      ∀ m ∈ blob.snap.dbs, isPrivate m.name = false → FlagsOk (cs ke.1).txn (F ke.1).st.env.dbis m
  | .app ops =>
    ∃ name key val, ops = [.put name key val] ∧ isPrivate name = false ∧ StoredWF val ∧
      (∃ d, findDbi (F ke.1).st.env.dbis name = some d ∧ isDupSort d.flags = false ∧
        isIntKey d.flags = false) ∧
      join (absEnv (F ke.1).st.env (name, key)) (some (verOf val)) = some (verOf val)
  | .list => True
  | .others bs => bs = []

/-- a decidable sufficient form of `LoopOkN`: for a segment, every blob of the bucket has the key
    order of the instance's DBIs -/
def loopOkNB (cs : Nat → LoopCfg) (F : Fleet) (ke : Nat × Ev) : Bool :=
  match ke.2 with
  | .go _ =>
    decide ((F ke.1).st.env.lastTxn + 1 < two64) &&
    (F ke.1).bucket.all fun blob => blob.snap.dbs.all fun m =>
      isPrivate m.name || decide (FlagsOk (cs ke.1).txn (F ke.1).st.env.dbis m)
  | .app [.put name key val] =>
    !isPrivate name && decide (StoredWF val) &&
    ((findDbi (F ke.1).st.env.dbis name).any fun d => !isDupSort d.flags && !isIntKey d.flags) &&
    decide (join (absEnv (F ke.1).st.env (name, key)) (some (verOf val)) = some (verOf val))
  | .app _ => false
  | .list => true
  | .others bs => bs.isEmpty

theorem loopOkN_of_check {cs : Nat → LoopCfg} {F : Fleet} {ke : Nat × Ev} (h : loopOkNB cs F ke = true) :
    LoopOkN cs F ke := by
  unfold loopOkNB at h
  unfold LoopOkN
  split at h
  · rename_i i hi
    rw [hi]
    simp only [Bool.and_eq_true, decide_eq_true_eq, List.all_eq_true, Bool.or_eq_true] at h
    refine ⟨h.1, fun inst ts blob _ hb m hm hp => (h.2 blob (findBlob_some hb).1 m hm).resolve_left ?_⟩
    rw [hp]; exact Bool.false_ne_true
  · rename_i name key val hi
    rw [hi]
    simp only [Bool.and_eq_true, Bool.not_eq_true', decide_eq_true_eq, Option.any_eq_true] at h
    obtain ⟨⟨⟨hp, hv⟩, d, hd, hfl⟩, hmono⟩ := h
    exact ⟨name, key, val, rfl, hp, hv, ⟨d, hd, hfl.1, hfl.2⟩, hmono⟩
  · cases h
  · rename_i hi; rw [hi]; trivial
  · rename_i bs hi; rw [hi]; exact List.isEmpty_iff.mp h

def LoopRunOkN (cs : Nat → LoopCfg) : Fleet → List (Nat × Ev) → Prop
  | _, [] => True
  | F, ke :: es => LoopOkN cs F ke ∧ LoopRunOkN cs (fleetStep cs F ke) es

/-- a Boolean side condition checked along a schedule; evaluated by the kernel in one pass, so
    that the states the schedule goes through are computed once -/
def runOkB (cs : Nat → LoopCfg) (ok : Fleet → Nat × Ev → Bool) : Fleet → List (Nat × Ev) → Bool
  | _, [] => true
  | F, ke :: es => ok F ke && runOkB cs ok (fleetStep cs F ke) es

theorem loopRunOkN_of_check {cs : Nat → LoopCfg} : ∀ (evs : List (Nat × Ev)) (F : Fleet),
    runOkB cs (loopOkNB cs) F evs = true → LoopRunOkN cs F evs
  | [], _, _ => trivial
  | ke :: es, F, h => by
    simp only [runOkB, Bool.and_eq_true] at h
    exact ⟨loopOkN_of_check h.1, loopRunOkN_of_check es _ h.2⟩

theorem loopRunOkN_append {cs : Nat → LoopCfg} : ∀ (a b : List (Nat × Ev)) (F : Fleet),
    LoopRunOkN cs F (a ++ b) → LoopRunOkN cs F a ∧ LoopRunOkN cs (fleetRun cs F a) b := by
  intro a
  induction a with
  | nil => intro b F h; exact ⟨trivial, h⟩
  | cons e es ih =>
    intro b F h
    obtain ⟨h1, h2⟩ := h
    obtain ⟨h3, h4⟩ := ih b _ h2
    exact ⟨⟨h1, h3⟩, h4⟩

theorem appCommit_env (s : St) (ops : List AppOp) :
    (appCommit s ops).env = (match appTxn s.env ops with | some e => e | none => s.env) := by
  unfold appCommit; cases appTxn s.env ops <;> rfl

theorem appCommit_put {s : St} {name key val : Bytes} (hwf : EnvWF s.env) (hp : isPrivate name = false)
    (hv : StoredWF val)
    (hd : ∃ d, findDbi s.env.dbis name = some d ∧ isDupSort d.flags = false ∧ isIntKey d.flags = false) :
    (badKey key = true ∧ (appCommit s [.put name key val]).env = s.env) ∨
    (badKey key = false ∧ EnvWF (appCommit s [.put name key val]).env ∧
      absEnv (appCommit s [.put name key val]).env = Abs.upd (absEnv s.env) (name, key) (verOf val)) := by
  obtain ⟨d, hd, hdup, hik⟩ := hd
  rw [appCommit_env]
  cases hk : badKey key with
  | true =>
    have hnone : appTxn s.env [.put name key val] = none := by simp [appTxn, appRefused, hd, hk]
    rw [hnone]; exact .inl ⟨rfl, rfl⟩
  | false =>
    obtain ⟨e', he', hwf', habs⟩ := appPut_abs s.env name key val d hwf hd hp hdup hik hk hv
    rw [he']; exact .inr ⟨rfl, hwf', habs⟩

theorem loop_step_refines_native (cs : Nat → LoopCfg) (hn : ∀ j, (cs j).txn.native = true)
    (F : Fleet) (A : Abs.Fleet) (ke : Nat × Ev) (hrel : RelN cs F A) (hok : LoopOkN cs F ke) :
    ∃ steps, RelN cs (fleetStep cs F ke) (Abs.run A steps) ∧ Abs.StepsWF steps ∧
      Abs.MonotoneFrom A steps ∧ steps.length ≤ 1 := by
  obtain ⟨k, e⟩ := ke
  obtain ⟨B, hB, hblobs⟩ := hrel.bucket
  have hBk : (F k).bucket = B := hB k
  have hoth : ∀ j, j ≠ k → (fleetStep cs F (k, e) j).st = (F j).st :=
    fun j hj => (fleetStep_other cs F (k, e) hj).1
  have hbk := fleetStep_shared cs F (k, e) B hB
  have hself : fleetStep cs F (k, e) k = step (cs k) (F k) e := fleetStep_self cs F (k, e)
  generalize hg : step (cs k) (F k) e = g' at hbk hself
  -- the relation after the event, from what happened at instance `k`; the abstract bucket only grows
  have finish : ∀ (A' : Abs.Fleet) (X : List (Nat × Abs.DB)),
      A'.db k = absEnv g'.st.env → (∀ j, j ≠ k → A'.db j = A.db j) → A'.bucket = A.bucket ++ X →
      (∀ p ∈ X, p.2.WF) → EnvWF g'.st.env →
      (∀ blob ∈ g'.bucket, blob ∈ B ∨ Held SnapOk A blob.snap) →
      (∀ who t ts sn, g'.st.pc = .sendAfterTxn who t ts sn → (cs k).txn.receiveOnly = false →
        Held SnapOk A' sn) →
      RelN cs (fleetStep cs F (k, e)) A' := by
    intro A' X hdbk hdbo hbkA hX hwf hnew hpend
    refine ⟨?_, ?_, ?_, ⟨g'.bucket, hbk, ?_⟩, ?_⟩
    · intro j
      by_cases hj : j = k
      · rw [hj, hself]; exact hdbk
      · rw [hdbo j hj, hoth j hj]; exact hrel.db j
    · intro j
      by_cases hj : j = k
      · rw [hj, hself]; exact hwf
      · rw [hoth j hj]; exact hrel.wf j
    · intro p hp
      rw [hbkA] at hp
      exact (List.mem_append.mp hp).elim (hrel.bwf p) (hX p)
    · intro blob hb
      exact Held.mono X hbkA ((hnew blob hb).elim (hblobs blob) id)
    · intro j who t ts sn hpc hro
      by_cases hj : j = k
      · rw [hj, hself] at hpc; rw [hj] at hro; exact hpend who t ts sn hpc hro
      · rw [hoth j hj] at hpc; exact Held.mono X hbkA (hrel.pending j who t ts sn hpc hro)
  have hsameB : g'.bucket = (F k).bucket → ∀ blob ∈ g'.bucket, blob ∈ B ∨ Held SnapOk A blob.snap :=
    fun h blob hb => .inl (hBk ▸ h ▸ hb)
  -- an event that changes neither the environment nor the abstract fleet
  have same : g'.st.env = (F k).st.env → (∀ blob ∈ g'.bucket, blob ∈ B ∨ Held SnapOk A blob.snap) →
      (∀ who t ts sn, g'.st.pc = .sendAfterTxn who t ts sn → (cs k).txn.receiveOnly = false →
        Held SnapOk A sn) →
      ∃ steps, RelN cs (fleetStep cs F (k, e)) (Abs.run A steps) ∧ Abs.StepsWF steps ∧
        Abs.MonotoneFrom A steps ∧ steps.length ≤ 1 :=
    fun henv hnew hpend => ⟨[], finish A [] (by rw [henv]; exact hrel.db k) (fun _ _ => rfl)
      (List.append_nil _).symm nofun (by rw [henv]; exact hrel.wf k) hnew hpend, nofun, trivial, Nat.zero_le _⟩
  cases e with
  | list =>
    subst hg
    exact same rfl (hsameB rfl) (hrel.pending k)
  | others bs =>
    subst hg
    obtain rfl : bs = [] := hok
    exact same rfl (hsameB (List.append_nil _)) (hrel.pending k)
  | app ops =>
    subst hg
    obtain ⟨name, key, val, rfl, hp, hv, hd, hmono⟩ := hok
    have hpend : ∀ who t ts sn, (appCommit (F k).st [.put name key val]).pc = .sendAfterTxn who t ts sn →
        (cs k).txn.receiveOnly = false → Held SnapOk A sn := by
      intro who t ts sn hpc
      rw [(appCommit_facts _ _).1] at hpc
      exact hrel.pending k who t ts sn hpc
    rcases appCommit_put (key := key) (hrel.wf k) hp hv hd with ⟨_, henv⟩ | ⟨_, hwf', habs⟩
    · exact same henv (hsameB rfl) hpend
    · refine ⟨[.write k (name, key) (verOf val)], ?_, ?_, ⟨?_, trivial⟩, Nat.le_refl _⟩
      · refine finish _ [] ?_ (fun j hj => ?_) (List.append_nil _).symm nofun hwf'
          (hsameB rfl) hpend
        · show (if k = k then _ else _) = _
          rw [if_pos rfl, hrel.db k]; exact habs.symm
        · show (if j = k then _ else _) = _
          rw [if_neg hj]
      · intro s hs
        rw [List.mem_singleton.mp hs]; exact (verOf_spec hv).2
      · show join (A.db k (name, key)) (some (verOf val)) = some (verOf val)
        rw [hrel.db k]; exact hmono
  | go i =>
    subst hg
    obtain ⟨hT, hflags⟩ := hok
    cases step_segTxn (cs k) (F k) i with
    | quiet h1 h2 h3 _ _ =>
      exact same (h1.native (hn k)) (hsameB h2)
        (fun who t ts sn hpc => by rw [hpc] at h3; cases h3)
    | store who t ts sn t' hpc hro _ h1 h2 h3 _ _ =>
      refine same h1 ?_ (fun who' t'' ts' sn' hpc' => by rw [h2] at hpc'; cases hpc')
      intro blob hb
      rw [h3, hBk] at hb
      rcases List.mem_append.mp hb with hb | hb
      · exact .inl hb
      · rw [List.mem_singleton.mp hb]; exact .inr (hrel.pending k who t ts sn hpc hro)
    | load s1 n inst ts blob r _ _ hx hy h4 h5 h6 h7 _ =>
      obtain ⟨hsok, idx, o, hidx⟩ := hblobs blob (hBk ▸ (findBlob_some hy).1)
      obtain ⟨hwf', habs⟩ := loadOnce_abs (cs k).txn (F k).st.env blob.snap s1.lastSynced i.now r
        (hn k) hT (hrel.wf k) ⟨hsok, fun m hm hp => hflags inst ts blob hx hy m hm hp⟩ h4
      refine ⟨[.load k idx], ?_, fun s hs => by rw [List.mem_singleton.mp hs]; trivial,
        ⟨trivial, trivial⟩, Nat.le_refl _⟩
      simp only [Abs.run, List.foldl_cons, List.foldl_nil, Abs.step, hidx]
      refine finish _ [] ?_ (fun j hj => if_neg hj) (List.append_nil _).symm nofun (h5 ▸ hwf')
        (hsameB h7)
        (fun who t' ts' sn hpc => by rw [h6] at hpc; cases hpc)
      simp only [if_pos]
      rw [h5, hrel.db k]
      funext key; exact (habs key).symm
    | dump env1 r who _ h0 hs h1 h2 h3 _ =>
      obtain rfl := h0.native (hn k)
      have hre : r.env = (F k).st.env := (sendOnce_facts hs).1 (hn k)
      cases hro : (cs k).txn.receiveOnly with
      | true => exact same (h1.trans hre) (hsameB h3) (fun _ _ _ _ _ hro' => by rw [hro] at hro'; cases hro')
      | false =>
        obtain ⟨_, habs, hnd, hms⟩ := sendOnce_abs (cs k).txn (F k).st.env i.now 0 r (hn k) hro
          (hrel.wf k) hs
        refine ⟨[.send k], ?_, fun s hs' => by rw [List.mem_singleton.mp hs']; trivial,
          ⟨trivial, trivial⟩, Nat.le_refl _⟩
        refine finish _ [(k, A.db k)] (by rw [h1, hre]; exact hrel.db k) (fun _ _ => rfl) rfl ?_
          (by rw [h1, hre]; exact hrel.wf k) (hsameB h3) ?_
        · intro p hp
          rw [List.mem_singleton.mp hp, hrel.db k]; exact absEnv_wf (hrel.wf k)
        · intro who' t' ts' sn' hpc' _
          rw [h2] at hpc'
          injection hpc' with _ _ _ e4
          subst e4
          refine Held.last (A := A) (k := k) ⟨hnd, fun m hm _ => (hms m hm).2.1⟩ ?_
          rw [show absSnap r.snap = A.db k by rw [hrel.db k]; exact funext habs]; rfl

theorem loop_run_refines_native (cs : Nat → LoopCfg) (hn : ∀ j, (cs j).txn.native = true) :
    ∀ (evs : List (Nat × Ev)) (F : Fleet) (A : Abs.Fleet), RelN cs F A → LoopRunOkN cs F evs →
      ∃ steps, RelN cs (fleetRun cs F evs) (Abs.run A steps) ∧ Abs.StepsWF steps ∧
        Abs.MonotoneFrom A steps ∧ steps.length ≤ evs.length := by
  intro evs
  induction evs with
  | nil =>
    intro F A hrel _
    exact ⟨[], hrel, nofun, trivial, Nat.le_refl _⟩
  | cons ke es ih =>
    intro F A hrel hok
    obtain ⟨hok1, hok2⟩ := hok
    obtain ⟨st1, hr1, hw1, hm1, hl1⟩ := loop_step_refines_native cs hn F A ke hrel hok1
    obtain ⟨st2, hr2, hw2, hm2, hl2⟩ := ih (fleetStep cs F ke) (Abs.run A st1) hr1 hok2
    refine ⟨st1 ++ st2, ?_, (Abs.stepsWF_append _ _).mpr ⟨hw1, hw2⟩,
      (Abs.monotoneFrom_append _ _ _).mpr ⟨hm1, hm2⟩, ?_⟩
    · rw [Abs.run_append]; exact hr2
    · rw [List.length_append, List.length_cons]; omega

theorem relN_init (cs : Nat → LoopCfg) (n : Nat) (envs : Nat → Env) (hwf : ∀ j, EnvWF (envs j)) :
    RelN cs (fun j => G.init (envs j) [])
      { n := n, db := fun j => absEnv (envs j), bucket := [] } :=
  ⟨fun _ => rfl, hwf, fun _ h => (by cases h), ⟨[], fun _ => rfl, fun _ h => (by cases h)⟩,
   fun j who t ts sn h _ => (by simp [G.init, SyncLoop.init] at h)⟩

theorem relN_fleetWF {cs : Nat → LoopCfg} {F : Fleet} {A : Abs.Fleet} (h : RelN cs F A) :
    Abs.FleetWF A :=
  ⟨fun j => by rw [h.db j]; exact absEnv_wf (h.wf j), h.bwf⟩

/-- I1 and "nothing uncaptured ⇒ mirrored" make every `LoadOnce` of the loop honest
    (`C01_loop_honest`) -/
theorem honest_of_inv {c : LoopCfg} {g : G} (h0 : Inv0 c g) (h1 : Inv1 c g)
    (hcap : g.gh.uncap = [] → Mirrored g.st.env) {s1 : St} {n : Nat}
    (hp : prePoll g.st = some (s1, n)) :
    s1.lastSynced < s1.env.lastTxn ∨ Mirrored s1.env := by
  cases hu : g.gh.uncap with
  | nil => right; rw [(prePoll_eq hp).2.1]; exact hcap hu
  | cons p rest =>
    left
    have := prePoll_local_change h0 h1 hp (p := p) (by rw [hu]; exact List.mem_cons_self)
    omega

theorem StartEnv.shadow {c : LoopCfg} {s : St} {e : Env} (hinv : EnvInv s.env)
    (hboot : s.pc = .boot → Mirrored s.env) (hT : s.env.lastTxn + 1 < two64) (h : StartEnv c s e) :
    EnvInv e ∧ (Mirrored s.env → Mirrored e) ∧ absShadow e = absShadow s.env ∧
    e.lastTxn ≤ s.env.lastTxn + 1 := by
  rcases h with rfl | ⟨hpc, h⟩
  · exact ⟨hinv, id, rfl, Nat.le_succ _⟩
  · unfold startCapture at h
    split at h
    · cases hm' : mainToShadow c.txn { dbis := s.env.dbis, dirty := false } (s.env.lastTxn + 1) 1 0 with
      | error x => rw [hm'] at h; cases h
      | ok w =>
        rw [hm'] at h
        injection h with h; subst h
        -- the start-up capture stamps with time 1
        obtain ⟨a1, a2, a3, _⟩ := capture_commit_inv hinv (hboot hpc) (by decide : 1 < two64) hT hm'
        refine ⟨a1, fun _ => a2, a3, ?_⟩
        rcases commit_lastTxn s.env w with h1 | h1 <;> omega
    · injection h with h; subst h
      exact ⟨hinv, id, rfl, Nat.le_succ _⟩

open Ls.Abs in
/-- **the simulation relation, shadow mode**: every abstract database is the logical content of
    the instance's shadows; every environment satisfies `EnvInv`; every instance satisfies the
    loop invariants `Inv0`, `Inv1` (hence I1) and "nothing uncaptured ⇒ `Mirrored`"; all instances
    see one bucket, every blob of which satisfies `SnapInv` and has its logical content somewhere
    in the abstract bucket; the same for a snapshot in flight -/
structure RelS (cs : Nat → LoopCfg) (F : Fleet) (A : Abs.Fleet) : Prop where
  db : ∀ j, A.db j = absShadow (F j).st.env
  inv : ∀ j, EnvInv (F j).st.env
  i0 : ∀ j, Inv0 (cs j) (F j)
  i1 : ∀ j, Inv1 (cs j) (F j)
  cap : ∀ j, (F j).gh.uncap = [] → Mirrored (F j).st.env
  bwf : ∀ p ∈ A.bucket, p.2.WF
  bucket : ∃ B, (∀ j, (F j).bucket = B) ∧
    ∀ blob ∈ B, SnapInv blob.snap ∧ ∃ (idx : Nat) (o : Nat), A.bucket[idx]? = some (o, absSnap blob.snap)
  pending : ∀ j who t ts sn, (F j).st.pc = .sendAfterTxn who t ts sn →
    SnapInv sn ∧ ∃ (idx : Nat) (o : Nat), A.bucket[idx]? = some (o, absSnap sn)

/-- the admissible application transactions in shadow mode: one put of a NON-EMPTY value (D7), or
    one delete, in a non-private DBI -/
def AppOkS (ops : List AppOp) : Prop :=
  (∃ name key val, ops = [.put name key val] ∧ isPrivate name = false ∧ val ≠ []) ∨
  (∃ name key, ops = [.del name key] ∧ isPrivate name = false)

/-- side conditions of a global event in shadow mode (nothing about success): a segment runs
    below transaction id 2^64 - 1 (`+ 2`: the start-up segment may commit the start-up capture and
    `SendOnce`'s transaction), reads a time `now` < 2^64 that is above every timestamp stored
    in the instance's shadows (shared monotone clock), and the start-up segment finds the
    environment `Mirrored` (the start-up capture stamps with time 1, "in the past": pending offline
    changes would not be captured as the newest version); an application transaction is
    admissible (`AppOkS`) and does not commit a recorded transaction inside the race window
    `Racy` (finding D9); no blobs come from outside the fleet -/
def LoopOkS (F : Fleet) (ke : Nat × Ev) : Prop :=
  match ke.2 with
  | .go i =>
    (F ke.1).st.env.lastTxn + 2 < two64 ∧ i.now < two64 ∧ ClockBelow (F ke.1).st.env i.now ∧
    ((F ke.1).st.pc = .boot → Mirrored (F ke.1).st.env)
  | .app ops => AppOkS ops ∧ ¬ (Racy (F ke.1).st ∧ recorded (F ke.1).st ops = true)
  | .list => True
  | .others bs => bs = []

def LoopRunOkS (cs : Nat → LoopCfg) : Fleet → List (Nat × Ev) → Prop
  | _, [] => True
  | F, ke :: es => LoopOkS F ke ∧ LoopRunOkS cs (fleetStep cs F ke) es

/-- a decidable form of `AppOkS` -/
def appOkSB : List AppOp → Bool
  | [.put name _ val] => !isPrivate name && !val.isEmpty
  | [.del name _] => !isPrivate name
  | _ => false

/-- a decidable sufficient form of `LoopOkS`: at start-up the environment satisfies the decidable
    form of `Mirrored` -/
def loopOkSB (F : Fleet) (ke : Nat × Ev) : Bool :=
  match ke.2 with
  | .go i =>
    decide ((F ke.1).st.env.lastTxn + 2 < two64 ∧ i.now < two64 ∧ ClockBelow (F ke.1).st.env i.now) &&
    ((F ke.1).st.pc != .boot || decide (ShadowWF (F ke.1).st.env ∧ MirroredD (F ke.1).st.env))
  | .app ops => appOkSB ops && !(decide (Racy (F ke.1).st) && recorded (F ke.1).st ops)
  | .list => true
  | .others bs => bs.isEmpty

theorem loopOkS_of_check {F : Fleet} {ke : Nat × Ev} (h : loopOkSB F ke = true) : LoopOkS F ke := by
  obtain ⟨k, e⟩ := ke
  cases e with
  | go i =>
    simp only [loopOkSB, Bool.and_eq_true, Bool.or_eq_true, decide_eq_true_eq, bne_iff_ne, ne_eq] at h
    exact ⟨h.1.1, h.1.2.1, h.1.2.2,
      fun hpc => (h.2.resolve_left (fun hne => hne hpc)).elim mirrored_of_decidable⟩
  | app ops =>
    simp only [loopOkSB, Bool.and_eq_true, Bool.not_eq_true', Bool.and_eq_false_iff,
      decide_eq_false_iff_not] at h
    refine ⟨?_, fun hr => h.2.elim (fun h1 => h1 hr.1) (fun h1 => by rw [hr.2] at h1; cases h1)⟩
    have h1 := h.1
    unfold appOkSB at h1
    split at h1
    · rename_i name key val
      simp only [Bool.and_eq_true, Bool.not_eq_true', List.isEmpty_eq_false_iff] at h1
      exact .inl ⟨name, key, val, rfl, h1.1, h1.2⟩
    · rename_i name key
      exact .inr ⟨name, key, rfl, by simpa using h1⟩
    · cases h1
  | list => trivial
  | others bs => exact List.isEmpty_iff.mp h

theorem loopRunOkS_of_check {cs : Nat → LoopCfg} : ∀ (evs : List (Nat × Ev)) (F : Fleet),
    runOkB cs loopOkSB F evs = true → LoopRunOkS cs F evs
  | [], _, _ => trivial
  | ke :: es, F, h => by
    simp only [runOkB, Bool.and_eq_true] at h
    exact ⟨loopOkS_of_check h.1, loopRunOkS_of_check es _ h.2⟩

/-- the abstract steps of one event: the abstract writes of the capture, then at most one `send` / `load` -/
theorem loop_step_refines_shadow (cs : Nat → LoopCfg) (hn : ∀ j, (cs j).txn.native = false)
    (hh : ∀ j, (cs j).txn.hack = false) (hro : ∀ j, (cs j).txn.receiveOnly = false)
    (hcb : ∀ j, CfgByte (cs j).txn)
    (F : Fleet) (A : Abs.Fleet) (ke : Nat × Ev) (hrel : RelS cs F A) (hok : LoopOkS F ke) :
    ∃ steps, RelS cs (fleetStep cs F ke) (Abs.run A steps) ∧ Abs.StepsWF steps ∧
      Abs.MonotoneFrom A steps := by
  obtain ⟨k, e⟩ := ke
  obtain ⟨B, hB, hblobs⟩ := hrel.bucket
  have hBk : (F k).bucket = B := hB k
  have hoth : ∀ j, j ≠ k → (fleetStep cs F (k, e) j).st = (F j).st ∧
      (fleetStep cs F (k, e) j).gh = (F j).gh :=
    fun j hj => ⟨(fleetStep_other cs F (k, e) hj).1, (fleetStep_other cs F (k, e) hj).2.1⟩
  have hbk := fleetStep_shared cs F (k, e) B hB
  have hself : fleetStep cs F (k, e) k = step (cs k) (F k) e := fleetStep_self cs F (k, e)
  -- the loop invariants are kept by every instance
  have hi0 : ∀ j, Inv0 (cs j) (fleetStep cs F (k, e) j) := fun j => (hrel.i0 j).step _
  have hi1 : ∀ j, Inv1 (cs j) (fleetStep cs F (k, e) j) := by
    intro j
    refine (hrel.i1 j).step (hrel.i0 j) _ ?_
    intro ops hops
    unfold localEv at hops
    by_cases hj : j = k
    · rw [if_pos hj] at hops
      simp only at hops
      subst hops
      rw [hj]
      exact hok.2
    · rw [if_neg hj] at hops; cases hops
  generalize hg : step (cs k) (F k) e = g' at hbk hself
  -- the relation after the event, from what happened at instance `k`; the abstract bucket only grows
  have finish : ∀ (A' : Abs.Fleet) (X : List (Nat × Abs.DB)),
      A'.db k = absShadow g'.st.env → (∀ j, j ≠ k → A'.db j = A.db j) →
      A'.bucket = A.bucket ++ X → (∀ p ∈ X, p.2.WF) → EnvInv g'.st.env →
      (g'.gh.uncap = [] → Mirrored g'.st.env) →
      (∀ blob ∈ g'.bucket, blob ∈ B ∨ Held SnapInv A blob.snap) →
      (∀ who t ts sn, g'.st.pc = .sendAfterTxn who t ts sn → Held SnapInv A' sn) →
      RelS cs (fleetStep cs F (k, e)) A' := by
    intro A' X hdbk hdbo hbkA hX henv hcap hnew hpend
    refine ⟨?_, ?_, hi0, hi1, ?_, ?_, ⟨g'.bucket, hbk, ?_⟩, ?_⟩
    · intro j
      by_cases hj : j = k
      · rw [hj, hself]; exact hdbk
      · rw [hdbo j hj, (hoth j hj).1]; exact hrel.db j
    · intro j
      by_cases hj : j = k
      · rw [hj, hself]; exact henv
      · rw [(hoth j hj).1]; exact hrel.inv j
    · intro j
      by_cases hj : j = k
      · rw [hj, hself]; exact hcap
      · rw [(hoth j hj).1, (hoth j hj).2]; exact hrel.cap j
    · intro p hp
      rw [hbkA] at hp
      exact (List.mem_append.mp hp).elim (hrel.bwf p) (hX p)
    · intro blob hb
      exact Held.mono X hbkA ((hnew blob hb).elim (hblobs blob) id)
    · intro j who t ts sn hpc
      by_cases hj : j = k
      · rw [hj, hself] at hpc; exact hpend who t ts sn hpc
      · rw [(hoth j hj).1] at hpc; exact Held.mono X hbkA (hrel.pending j who t ts sn hpc)
  have hsameB : g'.bucket = (F k).bucket → ∀ blob ∈ g'.bucket, blob ∈ B ∨ Held SnapInv A blob.snap :=
    fun h blob hb => .inl (hBk ▸ h ▸ hb)
  -- an event that changes neither the shadow content nor the abstract fleet
  have same : absShadow g'.st.env = absShadow (F k).st.env → EnvInv g'.st.env →
      (g'.gh.uncap = [] → Mirrored g'.st.env) →
      (∀ blob ∈ g'.bucket, blob ∈ B ∨ Held SnapInv A blob.snap) →
      (∀ who t ts sn, g'.st.pc = .sendAfterTxn who t ts sn → Held SnapInv A sn) →
      ∃ steps, RelS cs (fleetStep cs F (k, e)) (Abs.run A steps) ∧ Abs.StepsWF steps ∧
        Abs.MonotoneFrom A steps :=
    fun hsh henv hcap hnew hpend => ⟨[], finish A [] (by rw [hsh]; exact hrel.db k) (fun _ _ => rfl)
      (List.append_nil _).symm nofun henv hcap hnew hpend, nofun, trivial⟩
  cases e with
  | list =>
    subst hg
    exact same rfl (hrel.inv k) (hrel.cap k) (hsameB rfl) (hrel.pending k)
  | others bs =>
    subst hg
    obtain rfl : bs = [] := hok
    exact same rfl (hrel.inv k) (hrel.cap k) (hsameB (List.append_nil _)) (hrel.pending k)
  | app ops =>
    subst hg
    obtain ⟨hops, _⟩ := hok
    -- the environment after the application transaction
    have henv : EnvInv (appCommit (F k).st ops).env ∧
        absShadow (appCommit (F k).st ops).env = absShadow (F k).st.env ∧
        (recorded (F k).st ops = false → appView (appCommit (F k).st ops).env = appView (F k).st.env) := by
      rw [appCommit_env]
      cases ht : appTxn (F k).st.env ops with
      | none => exact ⟨hrel.inv k, rfl, fun _ => rfl⟩
      | some e' =>
        simp only
        have hview : recorded (F k).st ops = false → appView e' = appView (F k).st.env := by
          intro hr
          have hl := recorded_false hr
          rw [appCommit_env, ht] at hl
          refine app_unrecorded_view (hrel.inv k) ?_ ht hl
          rcases hops with ⟨name, key, val, h1, h2, _⟩ | ⟨name, key, h1, h2⟩
          · exact Or.inl ⟨name, key, val, h1, h2⟩
          · exact Or.inr ⟨name, key, h1, h2⟩
        rcases hops with ⟨name, key, val, rfl, hp, hv⟩ | ⟨name, key, rfl, hp⟩
        · obtain ⟨a1, a2⟩ := appPut_env_inv (hrel.inv k) hp hv ht
          exact ⟨a1, a2, hview⟩
        · obtain ⟨a1, a2⟩ := appDel_env_inv (hrel.inv k) hp ht
          exact ⟨a1, a2, hview⟩
    refine same henv.2.1 henv.1 ?_ (hsameB rfl) ?_
    · show (if recorded (F k).st ops then (F k).gh.app (appCommit (F k).st ops).env.lastTxn
        else (F k).gh).uncap = [] → Mirrored (appCommit (F k).st ops).env
      cases hr : recorded (F k).st ops with
      | true => exact nofun
      | false =>
        intro hu
        have hm := hrel.cap k hu
        exact ⟨fun key => by rw [henv.2.2 hr, henv.2.1]; exact hm.1 key, by rw [henv.2.1]; exact hm.2⟩
    · intro who t ts sn hpc
      exact hrel.pending k who t ts sn ((appCommit_facts _ _).1.symm.trans hpc)
  | go i =>
    subst hg
    obtain ⟨hT, hnow, hclk, hboot⟩ := hok
    have hT : (F k).st.env.lastTxn + 2 < two64 := hT
    have hclk' : ∀ key x, absShadow (F k).st.env key = some x → x.ts < i.now :=
      fun key x hx => shadowAll_abs (hrel.inv k).ok hclk key x hx
    cases step_segTxn (cs k) (F k) i with
    | quiet h1 h2 h3 hu _ =>
      obtain ⟨b1, b2, b3, _⟩ := h1.shadow (hrel.inv k) hboot (by omega)
      exact same b3 b1 (fun hu' => b2 (hrel.cap k (hu ▸ hu'))) (hsameB h2)
        (fun who t ts sn hpc => by rw [hpc] at h3; cases h3)
    | store who t ts sn t' hpc _ _ h1 h2 h3 hu _ =>
      refine same (by rw [h1]) (by rw [h1]; exact hrel.inv k) ?_ ?_
        (fun who' t'' ts' sn' hpc' => by rw [h2] at hpc'; cases hpc')
      · rw [h1, hu]; exact hrel.cap k
      · intro blob hb
        rw [h3, hBk] at hb
        rcases List.mem_append.mp hb with hb | hb
        · exact .inl hb
        · rw [List.mem_singleton.mp hb]; exact .inr (hrel.pending k who t ts sn hpc)
    | load s1 n inst ts blob r h1 h2 _ hy h4 h5 h6 h7 _ =>
      obtain ⟨hsi, idx, o, hidx⟩ := hblobs blob (hBk ▸ (findBlob_some hy).1)
      have hhon := honest_of_inv (hrel.i0 k) (hrel.i1 k) (hrel.cap k) h1
      rw [h2] at hhon
      obtain ⟨he, hmir, heq⟩ := load_env_inv (cs k).txn (F k).st.env blob.snap s1.lastSynced i.now r
        (hn k) (hh k) (hcb k) (by omega) hnow (hrel.inv k) hsi hclk' hhon h4
      obtain ⟨hrun, hwf, hmono⟩ := capWrites_then (hrel.inv k) k i.now hclk' A (hrel.db k)
        (.load k idx) nofun
      refine ⟨capWrites k (F k).st.env i.now ++ [.load k idx], ?_, hwf, hmono⟩
      rw [hrun]
      simp only [Abs.step, hidx, if_true]
      refine finish _ [] ?_ (fun j hj => by simp only [if_neg hj]) (List.append_nil _).symm nofun
        (h5 ▸ he) (fun _ => h5 ▸ hmir) (hsameB h7)
        (fun who t' ts' sn hpc => by rw [h6] at hpc; cases hpc)
      simp only [if_true]; rw [h5, heq]
    | dump env1 r who _ h0 hs h1 h2 h3 _ =>
      obtain ⟨b1, _, b3, b4⟩ := h0.shadow (hrel.inv k) hboot (by omega)
      have hclk1 : ∀ key x, absShadow env1 key = some x → x.ts < i.now := by rw [b3]; exact hclk'
      obtain ⟨he, hsn, hmir, hsh, hsnap⟩ := send_env_inv (cs k).txn env1 i.now 0 r (hn k) (hro k)
        (by omega) hnow b1 hclk1 hs
      obtain ⟨hrun, hwf, hmono⟩ := capWrites_then b1 k i.now hclk1 A
        (by rw [hrel.db k, b3]) (.send k) nofun
      refine ⟨capWrites k env1 i.now ++ [.send k], ?_, hwf, hmono⟩
      rw [hrun]
      simp only [Abs.step, if_true]
      refine finish _ [(k, capture (absShadow env1) (appView env1) i.now)] ?_
        (fun j hj => by simp only [if_neg hj]) rfl ?_ (h1 ▸ he) (fun _ => h1 ▸ hmir)
        (hsameB h3) ?_
      · simp only [if_true]; rw [h1, hsh]
      · intro p hp
        rw [List.mem_singleton.mp hp, ← hsh]; exact absShD_wf he.ok
      · intro who' t' ts' sn' hpc'
        rw [h2] at hpc'
        injection hpc' with _ _ _ e4
        subst e4
        exact Held.last (A := { A with db := _ }) (k := k) hsn (by rw [hsnap])

theorem loop_run_refines_shadow (cs : Nat → LoopCfg) (hn : ∀ j, (cs j).txn.native = false)
    (hh : ∀ j, (cs j).txn.hack = false) (hro : ∀ j, (cs j).txn.receiveOnly = false)
    (hcb : ∀ j, CfgByte (cs j).txn) :
    ∀ (evs : List (Nat × Ev)) (F : Fleet) (A : Abs.Fleet), RelS cs F A → LoopRunOkS cs F evs →
      ∃ steps, RelS cs (fleetRun cs F evs) (Abs.run A steps) ∧ Abs.StepsWF steps ∧
        Abs.MonotoneFrom A steps := by
  intro evs
  induction evs with
  | nil =>
    intro F A hrel _
    exact ⟨[], hrel, nofun, trivial⟩
  | cons ke es ih =>
    intro F A hrel hok
    obtain ⟨hok1, hok2⟩ := hok
    obtain ⟨st1, hr1, hw1, hm1⟩ := loop_step_refines_shadow cs hn hh hro hcb F A ke hrel hok1
    obtain ⟨st2, hr2, hw2, hm2⟩ := ih (fleetStep cs F ke) (Abs.run A st1) hr1 hok2
    refine ⟨st1 ++ st2, ?_, (Abs.stepsWF_append _ _).mpr ⟨hw1, hw2⟩,
      (Abs.monotoneFrom_append _ _ _).mpr ⟨hm1, hm2⟩⟩
    rw [Abs.run_append]; exact hr2

theorem relS_fleetWF {cs : Nat → LoopCfg} {F : Fleet} {A : Abs.Fleet} (h : RelS cs F A) :
    Abs.FleetWF A :=
  ⟨fun j => by rw [h.db j]; exact absShD_wf (h.inv j).ok, h.bwf⟩

end Ls.Loop
