import LsLemmas.Bytes
import LsModel.Wire
/-
  The wire primitives: a small logic of outcomes (`Post`: no panic, no hang, results satisfy P),
  Go slice expressions and integer conversions in range, bounds of csproto.DecodeVarint and
  EncodeVarint, SizeOfVarint.
-/
namespace Ls.Wire
open Ls

@[simp] theorem bind_ok {α β : Type} (a : α) (f : α → Outcome β) : (Outcome.ok a >>= f) = f a := rfl
@[simp] theorem bind_err {α β : Type} (e : Err) (f : α → Outcome β) :
    ((Outcome.err e : Outcome α) >>= f) = .err e := rfl
@[simp] theorem bind_panic {α β : Type} (f : α → Outcome β) :
    ((Outcome.panic : Outcome α) >>= f) = .panic := rfl
@[simp] theorem bind_hang {α β : Type} (f : α → Outcome β) :
    ((Outcome.hang : Outcome α) >>= f) = .hang := rfl
@[simp] theorem pure_eq {α : Type} (a : α) : (pure a : Outcome α) = .ok a := rfl

/-- an outcome that is a result or an error — neither a panic nor a hang -/
def Outcome.Safe {α : Type} : Outcome α → Prop
  | .ok _ => True
  | .err _ => True
  | .panic => False
  | .hang => False

@[simp] theorem safe_ok {α : Type} (a : α) : (Outcome.ok a).Safe := trivial
@[simp] theorem safe_err {α : Type} (e : Err) : (Outcome.err e : Outcome α).Safe := trivial
@[simp] theorem safe_panic {α : Type} : ¬ (Outcome.panic : Outcome α).Safe := id
@[simp] theorem safe_hang {α : Type} : ¬ (Outcome.hang : Outcome α).Safe := id

theorem Outcome.Safe.ne_hang {α : Type} {o : Outcome α} (h : o.Safe) : o ≠ .hang := by
  rintro rfl; exact h

theorem safe_iff {α : Type} (o : Outcome α) : o.Safe ↔ (∃ a, o = .ok a) ∨ (∃ e, o = .err e) := by
  cases o <;> simp [Outcome.Safe]

/-- neither a panic nor a hang, and a result satisfies `P` -/
def Outcome.Post {α : Type} (P : α → Prop) : Outcome α → Prop
  | .ok a => P a
  | .err _ => True
  | .panic => False
  | .hang => False

theorem Outcome.Post.safe {α : Type} {P : α → Prop} {o : Outcome α} (h : o.Post P) : o.Safe := by
  cases o <;> first | trivial | exact h

theorem Outcome.Safe.post {α : Type} {o : Outcome α} (h : o.Safe) : o.Post fun _ => True := by
  cases o <;> exact h

theorem Outcome.Post.of_ok {α : Type} {P : α → Prop} {o : Outcome α} {a : α} (h : o.Post P)
    (e : o = .ok a) : P a := by
  subst e; exact h

@[elab_as_elim]
theorem Outcome.Post.elim {α : Type} {P : α → Prop} {o : Outcome α} {motive : Outcome α → Prop}
    (h : o.Post P) (ok : ∀ a, P a → motive (.ok a)) (err : ∀ e, motive (.err e)) : motive o := by
  cases o with
  | ok a => exact ok a h
  | err e => exact err e
  | panic => exact False.elim h
  | hang => exact False.elim h

theorem Outcome.Post.mono {α : Type} {P Q : α → Prop} {o : Outcome α} (h : o.Post P)
    (hPQ : ∀ a, P a → Q a) : o.Post Q :=
  h.elim hPQ fun _ => trivial

theorem post_bind {α β : Type} {P : α → Prop} {Q : β → Prop} {x : Outcome α} {f : α → Outcome β}
    (hx : x.Post P) (hf : ∀ a, P a → (f a).Post Q) : (x >>= f).Post Q :=
  hx.elim hf fun _ => trivial

theorem post_ite {α : Type} {P : α → Prop} {c : Prop} [Decidable c] {t e : Outcome α}
    (ht : c → t.Post P) (he : ¬ c → e.Post P) : (if c then t else e).Post P := by
  split
  · exact ht ‹c›
  · exact he ‹¬ c›

theorem post_guard {α : Type} {P : α → Prop} {c : Prop} [Decidable c] {e : Err} {x : Outcome α}
    (h : ¬ c → x.Post P) : (if c then .err e else x).Post P :=
  post_ite (fun _ => trivial) h

theorem bind_congr_ok {α β : Type} {x : Outcome α} {f g : α → Outcome β}
    (h : ∀ a, x = .ok a → f a = g a) : (x >>= f) = (x >>= g) := by
  cases x with
  | ok a => exact h a rfl
  | err e => rfl
  | panic => rfl
  | hang => rfl

theorem sliceFrom_eq (data : Bytes) (off : Int) (m : Nat) (h : off = m) (hm : m ≤ data.length) :
    sliceFrom data off = .ok (data.drop m) := by
  subst h
  simp [sliceFrom, hm]

theorem sliceLH_eq (data : Bytes) (lo hi : Int) (a b : Nat) (ha : lo = a) (hb : hi = b)
    (hab : a ≤ b) (hbl : b ≤ data.length) :
    sliceLH data lo hi = .ok ((data.drop a).take (b - a)) := by
  subst ha hb
  have h1 : ((a : Int) ≤ (b : Int)) := by omega
  have h2 : ((b : Int) ≤ (data.length : Int)) := by omega
  have h3 : ((b : Int) - (a : Int)).toNat = b - a := by omega
  simp [sliceLH, h1, h2, h3]

theorem toInt64_small (v : Nat) (h : v < two63) : toInt64 v = (v : Int) := by
  have h2 : v % two64 = v := Nat.mod_eq_of_lt (Nat.lt_trans h (by decide))
  simp [toInt64, h2, h]

theorem toUInt64_nat (n : Nat) (h : n < two64) : toUInt64 (n : Int) = n := by
  unfold toUInt64
  have : ((n : Int) % ((two64 : Nat) : Int)) = (n : Int) :=
    Int.emod_eq_of_lt (by omega) (by omega)
  rw [this]; simp

/-- `uint64(len - off)` for an offset inside the data -/
theorem toUInt64_sub (len a : Nat) (ha : a ≤ len) (h : len < two64) :
    toUInt64 ((len : Int) - (a : Int)) = len - a := by
  rw [show (len : Int) - (a : Int) = ((len - a : Nat) : Int) by omega, toUInt64_nat _ (by omega)]

theorem wrapInt64_small (i : Int) (h0 : 0 ≤ i) (h1 : i < (two63 : Nat)) : wrapInt64 i = i := by
  obtain ⟨n, rfl⟩ := Int.eq_ofNat_of_zero_le h0
  have hn : n < two63 := by exact_mod_cast h1
  unfold wrapInt64
  rw [toUInt64_nat n (Nat.lt_trans hn (by decide)), toInt64_small n hn]

theorem dvLoop_post (k : Nat) (p : Bytes) (i acc : Nat) :
    (dvLoop k p i acc).Post fun x => ∃ m, x.2 = i + m ∧ 1 ≤ m ∧ m ≤ p.length ∧ m ≤ k ∧ x.1 < two64 := by
  induction k generalizing p i acc with
  | zero => trivial
  | succ k ih =>
    cases p with
    | nil => trivial
    | cons b rest =>
      unfold dvLoop
      refine post_ite (fun _ => ⟨1, rfl, Nat.le_refl _, by simp, by omega, Nat.mod_lt _ (by decide)⟩) fun _ => ?_
      refine (ih rest (i + 1) _).mono fun x ⟨m, hm, h1, h2, h3, h4⟩ => ?_
      exact ⟨m + 1, by omega, by omega, by simp; omega, by omega, h4⟩

theorem decodeVarint_post (p : Bytes) :
    (decodeVarint p).Post fun x => 1 ≤ x.2 ∧ x.2 ≤ p.length ∧ x.2 ≤ 10 ∧ x.1 < two64 := by
  cases p with
  | nil => trivial
  | cons b rest =>
    unfold decodeVarint
    refine post_ite (fun _ => ⟨Nat.le_refl _, by simp, by omega, ?_⟩) fun _ => ?_
    · exact Nat.lt_trans b.toNat_lt (by decide)
    · exact (dvLoop_post 10 _ 0 0).mono fun x ⟨m, hm, h1, h2, h3, h4⟩ => ⟨by omega, by omega, by omega, h4⟩

theorem decodeVarint_bounds (p : Bytes) (v n : Nat) (h : decodeVarint p = .ok (v, n)) :
    1 ≤ n ∧ n ≤ p.length ∧ n ≤ 10 ∧ v < two64 :=
  (decodeVarint_post p).of_ok h

theorem evLoop_length_le (k v : Nat) : (evLoop k v).length ≤ k + 1 := by
  induction k generalizing v with
  | zero => simp [evLoop]
  | succ k ih =>
    simp only [evLoop]; split
    · simp
    · simp; exact ih _

theorem encodeVarint_length_le (v : Nat) : (encodeVarint v).length ≤ 10 := evLoop_length_le 9 _
theorem encodeVarint_length_pos (v : Nat) : 1 ≤ (encodeVarint v).length := by
  unfold encodeVarint
  rw [evLoop]
  split <;> exact Nat.succ_le_succ (Nat.zero_le _)

theorem div128_lt {v k : Nat} (hv : v < 128 ^ (k + 1 + 1)) : v / 128 < 128 ^ (k + 1) := by
  rw [Nat.div_lt_iff_lt_mul (by decide)]
  rw [Nat.pow_succ] at hv; exact hv

theorem log2_shift (x j : Nat) (h : 2 ^ j ≤ x) : Nat.log2 x = Nat.log2 (x / 2 ^ j) + j := by
  induction j generalizing x with
  | zero => simp
  | succ j ih =>
    have h2 : 2 ≤ x := by
      have : 2 ^ 1 ≤ 2 ^ (j + 1) := Nat.pow_le_pow_right (by decide) (by omega)
      omega
    rw [Nat.log2_def x, if_pos h2]
    have h3 : 2 ^ j ≤ x / 2 := by
      rw [Nat.le_div_iff_mul_le (by decide)]
      rw [Nat.pow_succ] at h; exact h
    rw [ih (x / 2) h3, Nat.div_div_eq_div_mul, Nat.pow_succ, Nat.mul_comm 2]
    omega

theorem log2_or_one (x : Nat) (h : 1 ≤ x) : Nat.log2 (x ||| 1) = Nat.log2 x := by
  have hx : x ≠ 0 := by omega
  have hx1 : x ||| 1 ≠ 0 := by
    have := @Nat.left_le_or x 1; omega
  apply Nat.le_antisymm
  · have h1 : x < 2 ^ (Nat.log2 x + 1) := Nat.lt_log2_self
    have := Nat.or_lt_two_pow h1 (Nat.one_lt_two_pow (Nat.succ_ne_zero _))
    have := (Nat.log2_lt hx1).mpr this
    omega
  · have h1 : 2 ^ Nat.log2 x ≤ x := Nat.log2_self_le hx
    have h2 : x ≤ x ||| 1 := Nat.left_le_or
    have h3 : ¬ (Nat.log2 (x ||| 1) < Nat.log2 x) := by
      intro hlt
      have := (Nat.log2_lt hx1).mp hlt
      omega
    omega

theorem or_one_div (v : Nat) : (v ||| 1) / 128 = v / 128 := by
  have : (v ||| 1) >>> 7 = v >>> 7 ||| 1 >>> 7 := Nat.shiftRight_or_distrib
  simp [Nat.shiftRight_eq_div_pow] at this
  exact this

theorem log2_or_one_small {v : Nat} (h : v < 128) : Nat.log2 (v ||| 1) / 7 = 0 := by
  have h1 : v ||| 1 < 2 ^ 7 := Nat.or_lt_two_pow (by omega) (by decide)
  have hne : v ||| 1 ≠ 0 := by have := @Nat.right_le_or v 1; omega
  have := (Nat.log2_lt hne).mpr h1
  omega

theorem evLoop_length (k v : Nat) (hv : v < 128 ^ (k + 1)) :
    (evLoop k v).length = Nat.log2 (v ||| 1) / 7 + 1 := by
  induction k generalizing v with
  | zero => rw [log2_or_one_small (by simpa using hv)]; rfl
  | succ k ih =>
    rw [evLoop]
    split
    · rw [log2_or_one_small ‹v < 128›]; rfl
    · have hdiv := div128_lt hv
      have hge' : 2 ^ 7 ≤ v ||| 1 := by
        have := @Nat.left_le_or v 1; omega
      rw [List.length_cons, ih (v / 128) hdiv, log2_shift (v ||| 1) 7 hge',
        show (v ||| 1) / 2 ^ 7 = v / 128 from or_one_div v, log2_or_one (v / 128) (by omega)]
      omega

theorem sizeOfVarint_eq (v : Nat) (hv : v < two64) : sizeOfVarint v = (encodeVarint v).length := by
  have h1 : v % two64 = v := Nat.mod_eq_of_lt hv
  have h2 : v < 128 ^ 10 := by simp [two64] at hv; omega
  unfold sizeOfVarint encodeVarint
  rw [h1, evLoop_length 9 v h2]
  omega

theorem encodeTag_small (f wt : Nat) (hf : f ≤ 15) (hw : wt ≤ 7) :
    encodeTag f wt = [UInt8.ofNat (f * 8 + wt)] := by
  have h1 : (f * 8 + wt) % two64 = f * 8 + wt := Nat.mod_eq_of_lt (by simp [two64]; omega)
  have h2 : f * 8 + wt < 128 := by omega
  simp [encodeTag, encodeVarint, h1, evLoop, h2]

theorem encodeTag_length_small (f wt : Nat) (hf : f ≤ 15) (hw : wt ≤ 7) : (encodeTag f wt).length = 1 := by
  rw [encodeTag_small f wt hf hw]; rfl

end Ls.Wire
