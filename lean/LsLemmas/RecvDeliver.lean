import LsLemmas.RecvTokens
/-
  Receiver model: what is delivered was the newest listed name (`InvL`); corrupt names are never
  loaded again (`InvK`); with immutable blobs a corrupt name is never pending (`InvF`).
  Core Lean only.
-/
namespace Ls.Recv
variable {ι : Type} [DecidableEq ι]

/-- `(d, t)` names a blob of `bk`, is not in `ig`, and no blob of `d` in `bk` outside `ig` is newer -/
def NewestIn (bk : List (Blob ι)) (ig : List (ι × Nat)) (d : ι) (t : Nat) : Prop :=
  (∃ b ∈ bk, b.name = (d, t)) ∧ (d, t) ∉ ig ∧ ∀ b ∈ bk, b.inst = d → b.name ∉ ig → b.ts ≤ t

/-- at some successful listing so far `(d, t)` was the newest non-ignored name of `d` -/
def Listed (s : St ι) (d : ι) (t : Nat) : Prop := ∃ e ∈ s.hist, NewestIn e.1 e.2 d t

omit [DecidableEq ι] in
theorem Blob.name_eq {b : Blob ι} {d : ι} {t : Nat} : b.name = (d, t) ↔ b.inst = d ∧ b.ts = t := by
  simp [Blob.name]

theorem seenOf_some {s : St ι} {d : ι} {t : Nat} :
    AL.get (seenOf s) d = some t ↔ NewestIn s.bucket (ignoredNow s) d t := by
  rw [seenOf, mkLastSeen_some, MaxOf, NewestIn, mem_listedNames, and_assoc]
  refine and_congr_right fun _ => and_congr_right fun _ => ⟨fun h b hb hi hn => ?_, fun h t' ht' => ?_⟩
  · have e : b.name = (d, b.ts) := Blob.name_eq.mpr ⟨hi, rfl⟩
    exact h b.ts (mem_listedNames.mpr ⟨⟨b, hb, e⟩, e ▸ hn⟩)
  · obtain ⟨⟨b, hb, e⟩, hn⟩ := mem_listedNames.mp ht'
    exact (Blob.name_eq.mp e).2 ▸ h b hb (Blob.name_eq.mp e).1 (e ▸ hn)

theorem seenOf_none {s : St ι} {d : ι} :
    AL.get (seenOf s) d = none ↔ ∀ b ∈ s.bucket, b.inst = d → b.name ∈ ignoredNow s := by
  rw [seenOf, mkLastSeen_none]
  refine ⟨fun h b hb hi => Classical.byContradiction fun hn => ?_, fun h t ht => ?_⟩
  · have e : b.name = (d, b.ts) := Blob.name_eq.mpr ⟨hi, rfl⟩
    exact h b.ts (mem_listedNames.mpr ⟨⟨b, hb, e⟩, e ▸ hn⟩)
  · obtain ⟨⟨b, hb, e⟩, hn⟩ := mem_listedNames.mp ht
    exact hn (e ▸ h b hb (Blob.name_eq.mp e).1)

omit [DecidableEq ι] in
theorem NewestIn.unique {bk : List (Blob ι)} {ig : List (ι × Nat)} {d : ι} {t t' : Nat}
    (h : NewestIn bk ig d t) (h' : NewestIn bk ig d t') : t = t' := by
  obtain ⟨⟨b, hb, e⟩, hi, hm⟩ := h
  obtain ⟨⟨b', hb', e'⟩, hi', hm'⟩ := h'
  have a := hm b' hb' (Blob.name_eq.mp e').1 (e' ▸ hi')
  have c := hm' b hb (Blob.name_eq.mp e).1 (e ▸ hi)
  rw [(Blob.name_eq.mp e).2] at c; rw [(Blob.name_eq.mp e').2] at a
  exact Nat.le_antisymm c a

omit [DecidableEq ι] in
theorem NewestIn.congr {bk : List (Blob ι)} {ig ig' : List (ι × Nat)} {d : ι}
    (h : ∀ t, (d, t) ∈ ig ↔ (d, t) ∈ ig') {t : Nat} : NewestIn bk ig d t ↔ NewestIn bk ig' d t := by
  have hb : ∀ b : Blob ι, b.inst = d → (b.name ∈ ig ↔ b.name ∈ ig') := fun b hi =>
    (Blob.name_eq.mpr ⟨hi, rfl⟩ : b.name = (d, b.ts)) ▸ h b.ts
  exact and_congr_right fun _ => and_congr (not_congr (h t))
    (forall_congr' fun b => forall_congr' fun _ => forall_congr' fun hi => imp_congr_left (not_congr (hb b hi)))

/-- the `lastSeen` entry of instance `d` after a listing depends only on the bucket and on which
    names of `d` are ignored -/
theorem seenOf_congr {s s2 : St ι} (d : ι) (hb : s.bucket = s2.bucket)
    (hig : ∀ t, (d, t) ∈ ignoredNow s ↔ (d, t) ∈ ignoredNow s2) :
    AL.get (seenOf s) d = AL.get (seenOf s2) d :=
  Option.ext fun t => by rw [seenOf_some, seenOf_some, hb, NewestIn.congr hig]

/-! ### delivered names were listed as newest -/

structure InvL (s : St ι) : Prop where
  seen : ∀ d t, AL.get s.lastSeen d = some t → Listed s d t
  pc : ∀ d x t, getDl s d = some x → x.pc.ts? = some t → Listed s d t
  pend : ∀ n ∈ s.pending, Listed s n.1 n.2
  hold : ∀ n, s.holding = some n → Listed s n.1 n.2
  deliv : ∀ n ∈ s.delivered, Listed s n.1 n.2

omit [DecidableEq ι] in
theorem Listed.cons {s s' : St ι} {e : List (Blob ι) × List (ι × Nat)} (h : s'.hist = e :: s.hist) {d : ι} {t : Nat} :
    Listed s d t → Listed s' d t :=
  fun ⟨e', he, hn⟩ => ⟨e', h ▸ List.mem_cons_of_mem _ he, hn⟩

theorem invL_init (own : ι) (a b : Nat) : InvL (init own a b) := by
  constructor <;> simp [init, getDl]

theorem invL_step {s s' : St ι} {x : Step ι} (hi : InvL s) (h : step s x = some s') : InvL s' := by
  cases step_trans h with
  | list inc hr =>
    refine ⟨fun d t hs => ⟨_, List.mem_cons_self, seenOf_some.mp hs⟩, fun d z t hz hzt => ?_,
      fun n hn => Listed.cons rfl (hi.pend n hn), fun n hn => Listed.cons rfl (hi.hold n hn),
      fun n hn => Listed.cons rfl (hi.deliv n hn)⟩
    rw [← hr] at hz
    rcases runOnce_getDl hz with ⟨y, hy, hpc, _⟩ | ⟨hpc, _⟩ <;> rw [hpc] at hzt
    · exact Listed.cons rfl (hi.pc d y t hy hzt)
    · cases hzt
  | skip | put | rm => exact ⟨hi.seen, hi.pc, hi.pend, hi.hold, hi.deliv⟩
  | move hy m =>
    refine ⟨hi.seen, fun d0 z t hz hzt => ?_, hi.pend, hi.hold, hi.deliv⟩
    rcases AL.get_set_cases hz with ⟨rfl, rfl⟩ | ⟨_, hz⟩
    · rcases m.ts hzt with ⟨h1, _⟩ | ⟨_, h2, _⟩
      · exact hi.pc _ _ _ hy h1
      · exact hi.seen _ _ h2
    · exact hi.pc _ _ _ hz hzt
  | decodeBad hy hpc =>
    exact ⟨hi.seen, fun d0 z t hz hzt => hi.pc _ _ _ (get_set_ts rfl hz hzt).2 hzt, hi.pend, hi.hold, hi.deliv⟩
  | decodeGood hy hpc =>
    refine ⟨hi.seen, fun d0 z t hz hzt => hi.pc _ _ _ (get_set_ts rfl hz hzt).2 hzt, fun n hn => ?_,
      hi.hold, hi.deliv⟩
    rcases AL.mem_set hn with rfl | hn
    · exact hi.pc _ _ _ hy (by rw [hpc]; rfl)
    · exact hi.pend n hn
  | next hh hp =>
    have hl := hi.pend _ (AL.get_some_mem hp)
    exact ⟨hi.seen, hi.pc, fun n hn => hi.pend n (AL.mem_erase hn), fun n hn => by cases hn; exact hl,
      fun n hn => (List.mem_cons.mp hn).elim (· ▸ hl) (hi.deliv n)⟩
  | close hh => exact ⟨hi.seen, hi.pc, hi.pend, nofun, hi.deliv⟩

structure InvK (s : St ι) : Prop where
  /-- an ignored name is not `lastSeen` -/
  k1 : ∀ d t, (d, t) ∈ s.ignored → AL.get s.lastSeen d ≠ some t
  /-- a corrupt name that is still `lastSeen` (no listing since) is the downloader's `last`,
      and the downloader is not working on any name -/
  k2 : ∀ d t, (d, t) ∈ s.corrupt → (d, t) ∉ s.ignored → AL.get s.lastSeen d = some t →
        ∃ x, getDl s d = some x ∧ x.last = some t ∧ x.pc.ts? = none
  /-- no downloader works on a corrupt name -/
  k3 : ∀ d t x, (d, t) ∈ s.corrupt → getDl s d = some x → x.pc.ts? ≠ some t

theorem invK_init (own : ι) (a b : Nat) : InvK (init own a b) := by
  constructor <;> simp [init, getDl]

theorem InvK.fresh {s : St ι} (hi : InvK s) {d : ι} {y : Dl} {t : Nat} (hy : getDl s d = some y)
    (hs : AL.get s.lastSeen d = some t) (hl : y.last ≠ some t) : (d, t) ∉ s.corrupt := by
  intro hc
  by_cases hig : (d, t) ∈ s.ignored
  · exact hi.k1 d t hig hs
  · obtain ⟨z, hz, hzl, _⟩ := hi.k2 d t hc hig hs
    rw [hy] at hz; cases hz; exact hl hzl

/-- the downloader `k2` speaks of stays what it is when a downloader working on a name moves -/
theorem InvK.k2_set {s : St ι} (hi : InvK s) {d : ι} {y y' : Dl} {t : Nat} (hy : getDl s d = some y)
    (hts : y.pc.ts? = some t) {d0 : ι} {t0 : Nat} (hc : (d0, t0) ∈ s.corrupt) (hig : (d0, t0) ∉ s.ignored)
    (hs : AL.get s.lastSeen d0 = some t0) :
    ∃ z, AL.get (AL.set s.dls d y') d0 = some z ∧ z.last = some t0 ∧ z.pc.ts? = none := by
  refine AL.exists_get_set (hi.k2 d0 t0 hc hig hs) ?_
  rintro rfl
  obtain ⟨z, hz, _, hzt⟩ := hi.k2 d0 t0 hc hig hs
  rw [hy] at hz; cases hz; rw [hts] at hzt; cases hzt

theorem invK_step {s s' : St ι} {x : Step ι} (hi : InvK s) (h : step s x = some s') : InvK s' := by
  cases step_trans h with
  | list inc hr =>
    refine ⟨fun d t hm hs => (seenOf_some.mp hs).2.1 hm,
      fun d t hc hig => absurd ((mem_ignoredNow (s := s)).mpr (Or.inr hc)) hig, fun d t z hc hz hzt => ?_⟩
    rw [← hr] at hz
    rcases runOnce_getDl hz with ⟨y, hy, hpc, _⟩ | ⟨hpc, _⟩ <;> rw [hpc] at hzt
    · exact hi.k3 d t y hc hy hzt
    · cases hzt
  | skip | put | rm => exact ⟨hi.k1, hi.k2, hi.k3⟩
  | @move d y _ y' _ _ hy m =>
    refine ⟨hi.k1, fun d0 t hc hig hs => ?_, fun d0 t z hc hz hzt => ?_⟩
    · refine AL.exists_get_set (hi.k2 d0 t hc hig hs) fun e => ?_
      subst e
      obtain ⟨z, hz, hzl, hzt⟩ := hi.k2 d0 t hc hig hs
      rw [hy] at hz; cases hz
      refine ⟨m.last ▸ hzl, ?_⟩
      -- `y` worked on no name and its `last` is `lastSeen`, so `y'` does not start on one
      cases hts : y'.pc.ts? with
      | none => rfl
      | some t' =>
        rcases m.ts hts with ⟨h1, _⟩ | ⟨_, h2, h3⟩
        · rw [hzt] at h1; cases h1
        · rw [hs] at h2; cases h2; exact absurd hzl h3
    · rcases AL.get_set_cases hz with ⟨rfl, rfl⟩ | ⟨_, hz⟩
      · rcases m.ts hzt with ⟨h1, _⟩ | ⟨_, h2, h3⟩
        · exact hi.k3 _ _ _ hc hy h1
        · exact hi.fresh hy h2 h3 hc
      · exact hi.k3 _ _ _ hc hz hzt
  | @decodeBad d y t hy hpc =>
    have hts : y.pc.ts? = some t := by rw [hpc]; rfl
    refine ⟨hi.k1, fun d0 t0 hc hig hs => ?_, fun d0 t0 z hc hz hzt => ?_⟩
    · rcases mem_insertName.mp hc with hc | hc
      · exact hi.k2_set hy hts hc hig hs
      · cases hc; exact ⟨_, AL.get_set_self .., rfl, rfl⟩
    · obtain ⟨hd, hz⟩ := get_set_ts rfl hz hzt
      rcases mem_insertName.mp hc with hc | hc
      · exact hi.k3 _ _ _ hc hz hzt
      · cases hc; exact hd rfl
  | @decodeGood d y t hy hpc =>
    have hts : y.pc.ts? = some t := by rw [hpc]; rfl
    exact ⟨hi.k1, fun d0 t0 hc hig hs => hi.k2_set hy hts hc hig hs,
      fun d0 t0 z hc hz hzt => hi.k3 _ _ _ hc (get_set_ts rfl hz hzt).2 hzt⟩
  | next | close => exact ⟨hi.k1, hi.k2, hi.k3⟩

/-! ### immutable blobs: the decode result is a function of the name -/

structure InvF (f : ι × Nat → Bool) (s : St ι) : Prop where
  bk : ∀ b ∈ s.bucket, b.bad = f b.name
  pc : ∀ d x t bad, getDl s d = some x → (x.pc = .wantDc t bad ∨ x.pc = .decoding t bad) → bad = f (d, t)
  cor : ∀ n ∈ s.corrupt, f n = true
  pend : ∀ n ∈ s.pending, f n = false
  hold : ∀ n, s.holding = some n → f n = false
  deliv : ∀ n ∈ s.delivered, f n = false

/-- every stored blob decodes as `f` says -/
def PutsAgree (f : ι × Nat → Bool) : St ι → Step ι → Prop
  | _, .put b => b.bad = f b.name
  | _, _ => True

theorem invF_init (f : ι × Nat → Bool) (own : ι) (a b : Nat) : InvF f (init own a b) := by
  constructor <;> simp [init, getDl]

theorem hasBlob_some {s : St ι} {d : ι} {t : Nat} {b : Blob ι} (h : hasBlob s d t = some b) :
    b ∈ s.bucket ∧ b.name = (d, t) :=
  ⟨List.mem_of_find?_eq_some h, by simpa using List.find?_some h⟩

theorem hasBlob_none {s : St ι} {d : ι} {t : Nat} (h : hasBlob s d t = none) :
    ∀ b ∈ s.bucket, b.name ≠ (d, t) := by
  simpa [hasBlob] using h

theorem invF_step {f : ι × Nat → Bool} {s s' : St ι} {x : Step ι} (hi : InvF f s) (hok : PutsAgree f s x)
    (h : step s x = some s') : InvF f s' := by
  cases step_trans h with
  | list inc hr =>
    refine ⟨hi.bk, fun d z t bad hz hzp => ?_, hi.cor, hi.pend, hi.hold, hi.deliv⟩
    rw [← hr] at hz
    rcases runOnce_getDl hz with ⟨y, hy, hpc, _⟩ | ⟨hpc, _⟩ <;> rw [hpc] at hzp
    · exact hi.pc d y t bad hy hzp
    · simp at hzp
  | skip => exact hi
  | put b =>
    exact ⟨fun b0 hb0 => (List.mem_cons.mp hb0).elim (· ▸ hok) fun hm => hi.bk b0 (List.mem_filter.mp hm).1,
      hi.pc, hi.cor, hi.pend, hi.hold, hi.deliv⟩
  | rm d t =>
    exact ⟨fun b0 hb0 => hi.bk b0 (List.mem_filter.mp hb0).1, hi.pc, hi.cor, hi.pend, hi.hold, hi.deliv⟩
  | move hy m =>
    refine ⟨hi.bk, fun d0 z t bad hz hzp => ?_, hi.cor, hi.pend, hi.hold, hi.deliv⟩
    rcases AL.get_set_cases hz with ⟨rfl, rfl⟩ | ⟨_, hz⟩
    · cases m with
      | loadOk hpc hb =>
        obtain ⟨hbm, hbn⟩ := hasBlob_some hb
        rcases hzp with e | e <;> cases e
        rw [← hbn]; exact hi.bk _ hbm
      | acqDc hpc hf =>
        rcases hzp with e | e <;> cases e
        exact hi.pc _ _ _ _ hy (Or.inl hpc)
      | _ => simp at hzp
    · exact hi.pc _ _ _ _ hz hzp
  | decodeBad hy hpc =>
    refine ⟨hi.bk, fun d0 z t bad hz hzp => ?_, fun n hn => ?_, hi.pend, hi.hold, hi.deliv⟩
    · rcases AL.get_set_cases hz with ⟨rfl, rfl⟩ | ⟨_, hz⟩
      · simp at hzp
      · exact hi.pc _ _ _ _ hz hzp
    · rcases mem_insertName.mp hn with hn | rfl
      · exact hi.cor n hn
      · exact (hi.pc _ _ _ _ hy (Or.inr hpc)).symm
  | decodeGood hy hpc =>
    refine ⟨hi.bk, fun d0 z t bad hz hzp => ?_, hi.cor, fun n hn => ?_, hi.hold, hi.deliv⟩
    · rcases AL.get_set_cases hz with ⟨rfl, rfl⟩ | ⟨_, hz⟩
      · simp at hzp
      · exact hi.pc _ _ _ _ hz hzp
    · rcases AL.mem_set hn with rfl | hn
      · exact (hi.pc _ _ _ _ hy (Or.inr hpc)).symm
      · exact hi.pend n hn
  | next hh hp =>
    have hl := hi.pend _ (AL.get_some_mem hp)
    exact ⟨hi.bk, hi.pc, hi.cor, fun n hn => hi.pend n (AL.mem_erase hn), fun n hn => by cases hn; exact hl,
      fun n hn => (List.mem_cons.mp hn).elim (· ▸ hl) (hi.deliv n)⟩
  | close hh => exact ⟨hi.bk, hi.pc, hi.cor, hi.pend, nofun, hi.deliv⟩

end Ls.Recv
