import LsLemmas.Sweeper
import LsLemmas.TxnBase
/-
  The tomb sweeper, a whole pass: `passDbi` (the slices of one DBI, the application committing in
  between) and `pass` (one `passDbi` per swept DBI). Everything about a pass with an application
  goes through one invariant rule, `passDbi_rule`.
-/
namespace Ls.Sweeper
open Ls Ls.Lmdb Ls.Txn

theorem dbiKvs_eq {e : Env} {name : Bytes} {d : Dbi} (h : findDbi e.dbis name = some d) :
    dbiKvs e name = some d.kvs := by simp [dbiKvs, h]

theorem dbiKvs_some {e : Env} {name : Bytes} {kvs : KVs} (h : dbiKvs e name = some kvs) :
    ∃ d, findDbi e.dbis name = some d ∧ d.kvs = kvs := by
  simpa [dbiKvs] using h

theorem dbiKvs_set_same {e : Env} {name : Bytes} {d : Dbi} (h : findDbi e.dbis name = some d) (kvs : KVs) (t : Nat) :
    dbiKvs { dbis := setKvs e.dbis name kvs, lastTxn := t } name = some kvs := by
  simp [dbiKvs, findDbi_setKvs, h, findDbi_name h]

theorem dbiKvs_set_other (e : Env) {name name' : Bytes} (hne : name' ≠ name) (kvs : KVs) (t : Nat) :
    dbiKvs { dbis := setKvs e.dbis name kvs, lastTxn := t } name' = dbiKvs e name' := by
  simp only [dbiKvs, findDbi_setKvs]
  cases hf : findDbi e.dbis name' with
  | none => rfl
  | some d =>
    have : d.name ≠ name := by rw [findDbi_name hf]; exact hne
    simp [this]

theorem appPart_setKvs (e : Env) {name : Bytes} (hp : isPrivate name = true) (kvs : KVs) (t : Nat) :
    appPart { dbis := setKvs e.dbis name kvs, lastTxn := t } = appPart e := by
  unfold appPart setKvs
  simp only
  induction e.dbis with
  | nil => rfl
  | cons d rest ih =>
    rw [List.map_cons, List.filter_cons, List.filter_cons, ih]
    by_cases h : d.name = name
    · simp [h, hp]
    · simp [h]

/-- the environment the sweeper commits after a slice: the record `e'` that `passDbi` and
    `boundaries` build in place -/
def commitSlice (e : Env) (name : Bytes) (r : SliceRes) : Env :=
  { dbis := setKvs e.dbis name r.db, lastTxn := if r.cleaned > 0 then e.lastTxn + 1 else e.lastTxn }

theorem commitSlice_lastTxn (e : Env) (name : Bytes) (r : SliceRes) :
    e.lastTxn ≤ (commitSlice e name r).lastTxn ∧ ((commitSlice e name r).lastTxn = e.lastTxn ↔ r.cleaned = 0) := by
  simp only [commitSlice]
  split <;> omega

theorem lastTxn_trans {a b c x y : Nat} (h1 : a ≤ b ∧ (b = a ↔ x = 0)) (h2 : b ≤ c ∧ (c = b ↔ y = 0)) :
    a ≤ c ∧ (c = a ↔ x + y = 0) := by omega

section
variable {ik : Bool} {cutoff n : Nat} {app : Nat → Env → Env} {name : Bytes}

theorem passDbi_succ {e : Env} {last : Option (Bytes × Bytes)} {d : Dbi} {r : SliceRes}
    (hd : findDbi e.dbis name = some d) (hr : slice ik cutoff d.kvs last (some n) = .ok r) (fuel bi nt nc : Nat) :
    passDbi ik cutoff n app name (fuel + 1) e last bi nt nc =
      if r.limitReached then
        passDbi ik cutoff n app name fuel (app bi (commitSlice e name r)) r.last (bi + 1) (nt + 1) (nc + r.cleaned)
      else .ok (commitSlice e name r, bi, nt + 1, nc + r.cleaned) := by
  simp only [passDbi, hd, hr, commitSlice]

theorem passDbi_succ_inv {e : Env} {last : Option (Bytes × Bytes)} {fuel bi nt nc : Nat}
    {res : Env × Nat × Nat × Nat} (h : passDbi ik cutoff n app name (fuel + 1) e last bi nt nc = .ok res) :
    ∃ d r, findDbi e.dbis name = some d ∧ slice ik cutoff d.kvs last (some n) = .ok r := by
  cases hd : findDbi e.dbis name with
  | none => simp [passDbi, hd] at h
  | some d =>
    cases hr : slice ik cutoff d.kvs last (some n) with
    | error err => simp [passDbi, hd, hr] at h
    | ok r => exact ⟨d, r, rfl, hr⟩

theorem boundaries_succ {e : Env} {last : Option (Bytes × Bytes)} {d : Dbi} {r : SliceRes}
    (hd : findDbi e.dbis name = some d) (hr : slice ik cutoff d.kvs last (some n) = .ok r) (fuel bi : Nat) :
    boundaries ik cutoff n app name (fuel + 1) e last bi =
      if r.limitReached then
        (bi, commitSlice e name r) ::
          boundaries ik cutoff n app name fuel (app bi (commitSlice e name r)) r.last (bi + 1)
      else [] := by
  simp only [boundaries, hd, hr, commitSlice]

/-- Invariant rule for a pass over one DBI. `I e last bi` is to hold wherever a slice starts (on
    `e`, with cursor `last`, after `bi` boundaries), `F e' bi` where the pass ends by itself: at the
    sweeper's commit `e'` of a slice that did not reach its limit. A slice that reached its limit,
    its commit and the application's commit at the boundary lead from `I` to `I`; this is asked
    only at the boundaries the pass reaches (the list `boundaries`), so that a hypothesis on those
    alone (`Untouched`) can be used. A pass cut short by the fuel ends where a slice would start,
    having opened `fuel` transactions. -/
theorem passDbi_rule {I : Env → Option (Bytes × Bytes) → Nat → Prop} {F : Env → Nat → Prop}
    (hstop : ∀ e last i d r, I e last i → findDbi e.dbis name = some d →
      slice ik cutoff d.kvs last (some n) = .ok r → r.limitReached = false → F (commitSlice e name r) i) :
    ∀ (fuel : Nat) (e : Env) (last : Option (Bytes × Bytes)) (bi nt nc : Nat) (res : Env × Nat × Nat × Nat),
    (∀ e₁ last₁ i d r, I e₁ last₁ i → findDbi e₁.dbis name = some d →
      slice ik cutoff d.kvs last₁ (some n) = .ok r → r.limitReached = true →
      (i, commitSlice e₁ name r) ∈ boundaries ik cutoff n app name fuel e last bi →
      I (app i (commitSlice e₁ name r)) r.last (i + 1)) →
    passDbi ik cutoff n app name fuel e last bi nt nc = .ok res → I e last bi →
    res.2.2.1 = nt + fuel ∧ (∃ l, I res.1 l res.2.1) ∨ F res.1 res.2.1 := by
  intro fuel
  induction fuel with
  | zero =>
    intro e last bi nt nc res _ h hI
    cases h
    exact .inl ⟨rfl, last, hI⟩
  | succ fuel ih =>
    intro e last bi nt nc res hgo h hI
    obtain ⟨d, r, hd, hr⟩ := passDbi_succ_inv h
    rw [passDbi_succ hd hr] at h
    rw [boundaries_succ hd hr] at hgo
    by_cases hl : r.limitReached = true
    · rw [if_pos hl] at h hgo
      rcases ih _ _ _ _ _ _
        (fun e₁ last₁ i d₁ r₁ h1 h2 h3 h4 hm => hgo e₁ last₁ i d₁ r₁ h1 h2 h3 h4 (List.mem_cons_of_mem _ hm)) h
        (hgo e last bi d r hI hd hr hl (List.mem_cons_self ..)) with ⟨hnt, hx⟩ | hF
      · exact .inl ⟨by omega, hx⟩
      · exact .inr hF
    · rw [if_neg hl] at h
      cases h
      exact .inr (hstop e last bi d r hI hd hr (by simpa using hl))

variable {fuel : Nat} {e : Env} {last : Option (Bytes × Bytes)} {bi nt nc : Nat} {res : Env × Nat × Nat × Nat}
  (h : passDbi ik cutoff n app name fuel e last bi nt nc = .ok res)

include h in
/-- the rule for a property of the environment and the boundary count alone, kept by the
    sweeper's commits and by the application's -/
theorem passDbi_inv (Q : Env → Nat → Prop)
    (hc : ∀ e last i d r, Q e i → findDbi e.dbis name = some d →
      slice ik cutoff d.kvs last (some n) = .ok r → Q (commitSlice e name r) i)
    (ha : ∀ i e, Q e i → Q (app i e) (i + 1)) (hq : Q e bi) : Q res.1 res.2.1 := by
  rcases passDbi_rule (I := fun e _ i => Q e i) (F := Q) (fun e last i d r hI hd hr _ => hc e last i d r hI hd hr)
    fuel e last bi nt nc res (fun e₁ last₁ i d r hI hd hr _ _ => ha _ _ (hc e₁ last₁ i d r hI hd hr)) h hq with
    ⟨_, _, hI⟩ | hF
  · exact hI
  · exact hF

/-- key `k` of DBI `name` during a pass, against its binding `g0` at the start: the DBI is there,
    sorted, and `k` is bound as at the start unless an expired marker was removed -/
def KeySound (ik : Bool) (cutoff : Nat) (name k : Bytes) (g0 : Option Bytes) (e : Env) : Prop :=
  ∃ a, dbiKvs e name = some a ∧ Sorted ik a ∧ SameOrSwept cutoff g0 (get ik a k)

variable {k : Bytes} {g0 : Option Bytes}

theorem KeySound.commit (hk : KeySound ik cutoff name k g0 e) {d : Dbi} {last : Option (Bytes × Bytes)}
    {m : Option Nat} {r : SliceRes} (hd : findDbi e.dbis name = some d)
    (hr : slice ik cutoff d.kvs last m = .ok r) : KeySound ik cutoff name k g0 (commitSlice e name r) := by
  obtain ⟨a, ha, hs, hg⟩ := hk
  cases (dbiKvs_eq hd).symm.trans ha
  exact ⟨r.db, dbiKvs_set_same hd _ _, slice_sorted hs hr, hg.trans (slice_get hs hr k)⟩

theorem KeySound.commit_other (hk : KeySound ik cutoff name k g0 e) {name' : Bytes} (hne : name ≠ name')
    (r : SliceRes) : KeySound ik cutoff name k g0 (commitSlice e name' r) := by
  obtain ⟨a, ha, hs, hg⟩ := hk
  exact ⟨a, (dbiKvs_set_other e hne _ _).trans ha, hs, hg⟩

theorem KeySound.untouched (hk : KeySound ik cutoff name k g0 e) {bs : List (Nat × Env)} {i : Nat}
    (hu : Untouched ik name k app bs) (hm : (i, e) ∈ bs) (hb : dbiKvs (app i e) name ≠ none) :
    KeySound ik cutoff name k g0 (app i e) := by
  obtain ⟨a, ha, hs, hg⟩ := hk
  cases hb' : dbiKvs (app i e) name with
  | none => exact absurd hb' hb
  | some b =>
    have ⟨hsb, hgb⟩ := hu i e hm a b ha hb' hs
    exact ⟨b, hb', hsb, hgb ▸ hg⟩

include h in
/-- Soundness of a pass over one DBI with an arbitrary application: if the pass ended by itself,
    or the DBI is still there, `KeySound` holds at the end. -/
theorem passDbi_sound (hk : KeySound ik cutoff name k g0 e)
    (hu : Untouched ik name k app (boundaries ik cutoff n app name fuel e last bi))
    (hx : dbiKvs res.1 name ≠ none ∨ res.2.2.1 < nt + fuel) : KeySound ik cutoff name k g0 res.1 := by
  have hI : ∀ {e d}, (dbiKvs e name ≠ none → KeySound ik cutoff name k g0 e) → findDbi e.dbis name = some d →
      KeySound ik cutoff name k g0 e := fun hI hd => hI (by simp [dbiKvs_eq hd])
  rcases passDbi_rule (I := fun e _ _ => dbiKvs e name ≠ none → KeySound ik cutoff name k g0 e)
    (F := fun e _ => KeySound ik cutoff name k g0 e) (fun _ _ _ _ _ h1 hd hr _ => (hI h1 hd).commit hd hr)
    fuel e last bi nt nc res (fun _ _ _ _ _ h1 hd hr _ hm hb => ((hI h1 hd).commit hd hr).untouched hu hm hb)
    h (fun _ => hk) with ⟨hnt, _, hI'⟩ | hF
  · rcases hx with hx | hx
    · exact hI' hx
    · omega
  · exact hF

include h in
/-- Completeness of a pass over one DBI with an arbitrary application, from any point of the pass.
    Invariant at a slice start: `k` is already absent, or bound to the expired marker `v` in the
    part still ahead of the cursor. -/
theorem passDbi_complete {v : Bytes} (hn : 1 ≤ n) (hv : IsExpired cutoff v) {kvs : KVs}
    (hlt : res.2.2.1 < nt + fuel)
    (hk : dbiKvs e name = some kvs) (hs : Sorted ik kvs)
    (hinv : get ik kvs k = none ∨ get ik (startAt ik kvs last) k = some v)
    (hu : Untouched ik name k app (boundaries ik cutoff n app name fuel e last bi)) :
    ∃ kf, dbiKvs res.1 name = some kf ∧ get ik kf k = none := by
  refine (passDbi_rule
    (I := fun e last _ => ∀ a, dbiKvs e name = some a →
      Sorted ik a ∧ (get ik a k = none ∨ get ik (startAt ik a last) k = some v))
    (F := fun e _ => ∃ kf, dbiKvs e name = some kf ∧ get ik kf k = none) ?_
    fuel e last bi nt nc res ?_ h fun a ha => by cases hk.symm.trans ha; exact ⟨hs, hinv⟩).elim
    (fun ⟨hnt, _⟩ => by omega) id
  · intro e last _ d r hI hd hr hl
    have ⟨hs, hinv⟩ := hI _ (dbiKvs_eq hd)
    refine ⟨r.db, dbiKvs_set_same hd _ _, ?_⟩
    rcases slice_ahead hs hr hn hv hinv with h1 | ⟨h1, _⟩
    · exact h1
    · rw [hl] at h1; cases h1
  · intro e last i d r hI hd hr _ hm b hb
    have ⟨hs, hinv⟩ := hI _ (dbiKvs_eq hd)
    have ⟨hsb, hgb⟩ := hu i _ hm r.db b (dbiKvs_set_same hd _ _) hb (slice_sorted hs hr)
    refine ⟨hsb, ?_⟩
    rw [hgb]
    rcases slice_ahead hs hr hn hv hinv with h1 | ⟨_, h2, lk, lv, h3, h4⟩
    · exact .inl h1
    · exact .inr (h3 ▸ get_startAt_of_lt hsb (hgb ▸ h2) h4)

end

theorem passDbi_no_app {ik : Bool} {cutoff n : Nat} {name : Bytes} (hn : 1 ≤ n) :
    ∀ (fuel : Nat) (e : Env) (last : Option (Bytes × Bytes)) (bi nt nc : Nat) (d : Dbi) (pre todo : KVs),
    findDbi e.dbis name = some d → d.kvs = pre ++ todo → startAt ik d.kvs last = todo →
    Sorted ik d.kvs → (∀ kv ∈ todo, Parses kv.2) → todo.length < fuel * n →
    ∃ ef, passDbi ik cutoff n (fun _ e => e) name fuel e last bi nt nc =
        .ok (ef, bi + todo.length / n, nt + todo.length / n + 1,
             nc + (todo.filter (fun kv => decide (IsExpired cutoff kv.2))).length) ∧
      ef.dbis = setKvs e.dbis name (pre ++ todo.filter (keep cutoff)) ∧
      e.lastTxn ≤ ef.lastTxn ∧
      (ef.lastTxn = e.lastTxn ↔ (todo.filter (fun kv => decide (IsExpired cutoff kv.2))).length = 0) := by
  intro fuel
  induction fuel with
  | zero => intro e last bi nt nc d pre todo _ _ _ _ _ hf; simp at hf
  | succ fuel ih =>
    intro e last bi nt nc d pre todo hd hpt hst hs hp hf
    obtain ⟨r, hr⟩ : ∃ r, slice ik cutoff d.kvs last (some n) = .ok r :=
      slice_ok_iff.mpr fun kv hkv => hp kv (hst ▸ List.mem_of_mem_take hkv)
    have hres := slice_resume hs hr
    obtain ⟨pre', T, D, h0, hst', hT, hD, _, hr'⟩ := slice_pieces hs hr
    rw [hst] at hst' hT hD hr' hres
    obtain rfl : pre' = pre := by
      rw [hpt, hst'] at h0; exact (List.append_cancel_right h0).symm
    have hcnt : (todo.filter fun kv => decide (IsExpired cutoff kv.2)).length =
        r.cleaned + (D.filter fun kv => decide (IsExpired cutoff kv.2)).length := by
      rw [hr', hst', List.filter_append, List.length_append]
    have hkeep : todo.filter (keep cutoff) = T.filter (keep cutoff) ++ D.filter (keep cutoff) := by
      rw [hst', List.filter_append]
    have hdb : r.db = pre' ++ (T.filter (keep cutoff) ++ D) := by rw [hr']
    rw [passDbi_succ hd hr, hcnt, hkeep]
    by_cases hle : n ≤ todo.length
    · -- the limit is reached: `n` entries examined, the pass goes on with the rest `D`
      have hcov : covered (some n) todo = n := Nat.min_eq_left hle
      rw [hcov] at hD hres
      have hDlen : D.length = todo.length - n := by rw [hD, List.length_drop]
      obtain ⟨ef, he1, he2, he34⟩ := ih (commitSlice e name r) r.last (bi + 1) (nt + 1) (nc + r.cleaned)
        { d with kvs := r.db } (pre' ++ T.filter (keep cutoff)) D
        (by simp [commitSlice, findDbi_setKvs, hd, findDbi_name hd]) (by rw [hdb, List.append_assoc])
        (hres.trans hD.symm) (slice_sorted hs hr) (fun kv hkv => hp kv (hst' ▸ List.mem_append_right _ hkv))
        (hDlen ▸ Nat.sub_lt_right_of_lt_add hle (Nat.succ_mul .. ▸ hf))
      refine ⟨ef, ?_, ?_, lastTxn_trans (commitSlice_lastTxn e name r) he34⟩
      · rw [if_pos (by rw [hr']; exact decide_eq_true hle), he1, Nat.div_eq_sub_div hn hle, hDlen]
        simp only [Nat.add_assoc, Nat.add_comm 1]
      · rw [he2]
        simp only [commitSlice, setKvs_setKvs, List.append_assoc]
    · -- the last slice: everything ahead is examined
      have hcov : covered (some n) todo = todo.length := Nat.min_eq_right (Nat.le_of_not_le hle)
      rw [hcov, List.drop_length] at hD
      subst hD
      refine ⟨commitSlice e name r, ?_, ?_, by simpa using commitSlice_lastTxn e name r⟩
      · rw [if_neg (by rw [hr']; simpa [hitLimit] using hle), Nat.div_eq_of_lt (Nat.lt_of_not_le hle)]
        rfl
      · simp [commitSlice, hdb]

/-- The number of slices `pass` allows for one DBI (the fuel it hands to `passDbi` in
    LsModel/Sweeper.lean). With no application writes `len / n + 1 ≤ len + 1` slices are made
    (`passDbi_no_app`); the surplus only matters when the application inserts entries ahead of the
    cursor, and the model does not say why it is 1001. -/
def passFuel (d : Dbi) : Nat := d.kvs.length + 2 + 1000

theorem lt_passFuel_mul {n : Nat} (hn : 1 ≤ n) (d : Dbi) : d.kvs.length < passFuel d * n :=
  Nat.lt_of_lt_of_le (by unfold passFuel; omega) (Nat.le_mul_of_pos_right _ hn)

/-- the body of the fold in `pass` (`pass_eq`) -/
def passStep (cutoff n : Nat) (app : Nat → Env → Env) (acc : Env × Nat × Nat × Nat) (name : Bytes) :
    Except Err (Env × Nat × Nat × Nat) :=
  match findDbi acc.1.dbis name with
  | none => .error .dbiMissing
  | some d => passDbi (isIntKey d.flags) cutoff n app name (passFuel d) acc.1 none acc.2.1 acc.2.2.1 acc.2.2.2

section
variable {cutoff n : Nat} {app : Nat → Env → Env}

theorem passStep_ok_inv {acc acc' : Env × Nat × Nat × Nat} {name : Bytes}
    (h : passStep cutoff n app acc name = .ok acc') :
    ∃ d fuel, findDbi acc.1.dbis name = some d ∧
      passDbi (isIntKey d.flags) cutoff n app name fuel acc.1 none acc.2.1 acc.2.2.1 acc.2.2.2 = .ok acc' := by
  unfold passStep at h
  split at h
  · cases h
  · exact ⟨_, _, ‹_›, h⟩

theorem pass_eq (native : Bool) (cutoff n : Nat) (app : Nat → Env → Env) (e : Env) :
    pass native cutoff n app e =
      ((((e.dbis.map (·.name)).filter (swept native)).foldlM (passStep cutoff n app) (e, 0, 0, 0)).map
        (fun (r : Env × Nat × Nat × Nat) => (r.1, r.2.2.1, r.2.2.2))) := rfl

theorem pass_ok_inv {native : Bool} {e ef : Env} {nt nc : Nat}
    (h : pass native cutoff n app e = .ok (ef, nt, nc)) :
    ∃ nb, ((e.dbis.map (·.name)).filter (swept native)).foldlM (passStep cutoff n app) (e, 0, 0, 0) =
      .ok (ef, nb, nt, nc) := by
  rw [pass_eq] at h
  cases hr : ((e.dbis.map (·.name)).filter (swept native)).foldlM (passStep cutoff n app) (e, 0, 0, 0) with
  | error err => rw [hr] at h; cases h
  | ok res =>
    rw [hr] at h
    cases h
    exact ⟨res.2.1, rfl⟩

/-- a pass that sweeps private DBIs only: the application's DBIs are what the application's
    commits alone make of them -/
theorem fold_appPart (g : Nat → List Dbi → List Dbi) (happ : ∀ i e, appPart (app i e) = g i (appPart e))
    {names : List Bytes} (hp : ∀ name ∈ names, isPrivate name = true) {e : Env} {res : Env × Nat × Nat × Nat}
    (h : names.foldlM (passStep cutoff n app) (e, 0, 0, 0) = .ok res) :
    appPart res.1 = (List.range res.2.1).foldl (fun s i => g i s) (appPart e) :=
  foldlM_inv (fun acc => appPart acc.1 = (List.range acc.2.1).foldl (fun s i => g i s) (appPart e))
    (fun name hm _ _ hq hs =>
      have ⟨_, _, _, hpd⟩ := passStep_ok_inv hs
      passDbi_inv hpd (fun e' i => appPart e' = (List.range i).foldl (fun s i => g i s) (appPart e))
        (fun e' _ _ _ _ hq _ _ => (appPart_setKvs e' (hp name hm) _ _).trans hq)
        (fun i e' hq => by rw [happ, hq, List.range_succ, List.foldl_append]; rfl) hq) rfl h

/-- `KeySound`, and the DBI has kept its flags `fl`: what an application with `AppKeeps` maintains -/
def KeySoundFl (ik : Bool) (cutoff : Nat) (name k : Bytes) (fl : Nat) (g0 : Option Bytes) (e : Env) : Prop :=
  KeySound ik cutoff name k g0 e ∧ (findDbi e.dbis name).map (·.flags) = some fl

theorem KeySoundFl.appKeeps {ik : Bool} {name k : Bytes} {fl : Nat} {g0 : Option Bytes} {e : Env}
    (h : KeySoundFl ik cutoff name k fl g0 e) (happ : AppKeeps ik name k app) (i : Nat) :
    KeySoundFl ik cutoff name k fl g0 (app i e) := by
  obtain ⟨⟨a, ha, hs, hg⟩, hf⟩ := h
  obtain ⟨d, hd, rfl⟩ := dbiKvs_some ha
  obtain ⟨d', hd', hfl, hk⟩ := happ i e d hd
  have ⟨hs', hg'⟩ := hk hs
  rw [hd] at hf
  exact ⟨⟨d'.kvs, dbiKvs_eq hd', hs', hg' ▸ hg⟩, by rw [hd']; exact (congrArg some hfl).trans hf⟩

/-- Soundness of a whole pass, function-level: the pass over the DBI itself runs in its key order
    (its flags are kept) and keeps `KeySound` slice by slice; the passes over other DBIs do not touch it. -/
theorem fold_keySoundFl {ik : Bool} {name k : Bytes} {fl : Nat} {g0 : Option Bytes} (hik : ik = isIntKey fl)
    (happ : AppKeeps ik name k app) {names : List Bytes} {acc res : Env × Nat × Nat × Nat}
    (h : names.foldlM (passStep cutoff n app) acc = .ok res) (hk : KeySoundFl ik cutoff name k fl g0 acc.1) :
    KeySoundFl ik cutoff name k fl g0 res.1 := by
  refine foldlM_inv (fun acc => KeySoundFl ik cutoff name k fl g0 acc.1) (fun name' _ acc acc' hq hs => ?_) hk h
  obtain ⟨d', _, hd', hp⟩ := passStep_ok_inv hs
  have hik' : name = name' → isIntKey d'.flags = ik := fun hne => by
    have := hq.2
    rw [hne, hd'] at this
    rw [hik, ← Option.some.inj this]
  refine passDbi_inv hp (fun e _ => KeySoundFl ik cutoff name k fl g0 e) ?_ (fun i _ hq => hq.appKeeps happ i) hq
  intro e last _ d r hq hd hr
  refine ⟨?_, (flags_setKvs ..).trans hq.2⟩
  by_cases hne : name = name'
  · subst hne
    rw [hik' rfl] at hr
    exact hq.1.commit hd hr
  · exact hq.1.commit_other hne r

end

/-- the result of sweeping the DBIs named in `done` -/
def sweepNamed (cutoff : Nat) (done : List Bytes) (dbis : List Dbi) : List Dbi :=
  dbis.map fun d => if d.name ∈ done then { d with kvs := d.kvs.filter (keep cutoff) } else d

theorem sweepNamed_congr {cutoff : Nat} {done : List Bytes} {dbis : List Dbi} {S : Bytes → Bool}
    (hS : ∀ d ∈ dbis, d.name ∈ done ↔ S d.name = true) :
    sweepNamed cutoff done dbis =
      dbis.map fun d => if S d.name then { d with kvs := d.kvs.filter (keep cutoff) } else d :=
  List.map_congr_left fun d hd => by simp only [hS d hd]

theorem findDbi_sweepNamed_notin {cutoff : Nat} {done : List Bytes} {dbis : List Dbi} {name : Bytes}
    (h : name ∉ done) : findDbi (sweepNamed cutoff done dbis) name = findDbi dbis name := by
  unfold sweepNamed
  rw [findDbi_map fun d => by split <;> rfl]
  cases hf : findDbi dbis name with
  | none => rfl
  | some d => simp [findDbi_name hf, h]

theorem setKvs_sweepNamed {cutoff : Nat} {done : List Bytes} {dbis : List Dbi} {name : Bytes} {d : Dbi}
    (hnd : (dbis.map (·.name)).Nodup) (hd : findDbi dbis name = some d) :
    setKvs (sweepNamed cutoff done dbis) name (d.kvs.filter (keep cutoff)) =
      sweepNamed cutoff (name :: done) dbis := by
  unfold setKvs sweepNamed
  rw [List.map_map]
  apply List.map_congr_left
  intro x hx
  have hn : (if x.name ∈ done then { x with kvs := x.kvs.filter (keep cutoff) } else x).name = x.name := by
    split <;> rfl
  simp only [Function.comp, hn, List.mem_cons]
  by_cases hxn : x.name = name
  · cases eq_of_nodup_map (·.name) hnd hx (findDbi_mem hd) (hxn.trans (findDbi_name hd).symm)
    simp [hxn]
    split <;> rfl
  · rw [if_neg hxn]
    simp only [hxn, false_or]

theorem fold_no_app {cutoff n : Nat} (hn : 1 ≤ n) (e0 : Env) (hnd : (e0.dbis.map (·.name)).Nodup) :
    ∀ (names done : List Bytes) (acc : Env × Nat × Nat × Nat),
    (∀ x ∈ names, ∃ d, findDbi e0.dbis x = some d ∧ Sorted (isIntKey d.flags) d.kvs ∧ ∀ kv ∈ d.kvs, Parses kv.2) →
    names.Nodup → (∀ x ∈ names, x ∉ done) →
    acc.1.dbis = sweepNamed cutoff done e0.dbis →
    ∃ res, names.foldlM (passStep cutoff n (fun _ e => e)) acc = .ok res ∧
      res.1.dbis = sweepNamed cutoff (names.reverse ++ done) e0.dbis := by
  intro names
  induction names with
  | nil => intro done acc _ _ _ hacc; exact ⟨acc, rfl, by simpa using hacc⟩
  | cons name rest ih =>
    intro done acc hnames hnod hdone hacc
    obtain ⟨d, hd0, hsd, hpd⟩ := hnames _ (List.mem_cons_self ..)
    have hfd : findDbi acc.1.dbis name = some d := by
      rw [hacc, findDbi_sweepNamed_notin (hdone _ (List.mem_cons_self ..)), hd0]
    obtain ⟨ef, he1, he2, _⟩ := passDbi_no_app (cutoff := cutoff) hn (passFuel d) acc.1 none
      acc.2.1 acc.2.2.1 acc.2.2.2 d [] d.kvs hfd rfl rfl hsd hpd (lt_passFuel_mul hn d)
    obtain ⟨acc', hstep, rfl⟩ : ∃ acc', passStep cutoff n (fun _ e => e) acc name = .ok acc' ∧ acc'.1 = ef :=
      ⟨_, by unfold passStep; rw [hfd]; exact he1, rfl⟩
    have hnod' := List.nodup_cons.mp hnod
    obtain ⟨res, hr1, hr2⟩ := ih (name :: done) acc'
      (fun x hx => hnames x (List.mem_cons_of_mem _ hx)) hnod'.2
      (fun x hx hxd => (List.mem_cons.mp hxd).elim (fun h => hnod'.1 (h ▸ hx)) (hdone x (List.mem_cons_of_mem _ hx)))
      (by rw [he2, hacc]; exact setKvs_sweepNamed hnd hd0)
    exact ⟨res, by rw [List.foldlM_cons, hstep]; exact hr1, by rw [hr2]; simp⟩

end Ls.Sweeper
