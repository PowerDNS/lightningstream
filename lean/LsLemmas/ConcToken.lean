import LsLemmas.ConcUtil
/-
  Invariants of the Token model (LsModel/Conc.lean): any capacity, any number of goroutines.
-/
namespace Ls.Conc.Token

/-- the token whose mutex a goroutine holds -/
def holdsTok : GPc → Option Nat
  | .rCheck t | .rSend t | .rSet t | .rUnlock t => some t
  | _ => none

/-- what the token looks like at each program counter of the goroutine holding its mutex -/
def pcTok : GPc → Tok → Prop
  | .rSend _, tk => tk.nSends = 0 ∧ tk.released = false
  | .rSet _, tk => tk.nSends = 1 ∧ tk.released = false
  | _, tk => tk.nSends = tk.released.toNat

structure Inv (s : St) : Prop where
  cnt : s.free + unsent s.toks = s.limit
  go : ∀ (g : Nat) (pc : GPc), s.gs[g]? = some pc →
    (∀ t, holdsTok pc = some t → ∃ tk, s.toks[t]? = some tk ∧ tk.mu = some g ∧ pcTok pc tk) ∧
    (∀ t, pc = .rLock t → t < s.toks.length)
  tok : ∀ (t : Nat) (tk : Tok), s.toks[t]? = some tk →
    (tk.mu = none → tk.nSends = tk.released.toNat) ∧
    (∀ g, tk.mu = some g → ∃ pc, s.gs[g]? = some pc ∧ holdsTok pc = some t)

theorem inv_init (limit n : Nat) : Inv (init limit n) := by
  refine ⟨by simp [init, unsent], ?_, ?_⟩
  · intro g pc hg
    simp [init, List.getElem?_replicate] at hg
    obtain ⟨_, rfl⟩ := hg
    simp [holdsTok]
  · intro t tk ht; simp [init] at ht

/-- a step that only moves goroutine `g`, keeps the mutex it holds and respects the token -/
theorem inv_move {s : St} (h : Inv s) {g : Nat} {pc pc' : GPc} (hg : s.gs[g]? = some pc)
    (a1 : ∀ t, holdsTok pc' = some t → holdsTok pc = some t ∧
      ∀ tk, s.toks[t]? = some tk → pcTok pc tk → pcTok pc' tk)
    (a2 : ∀ t, holdsTok pc = some t → holdsTok pc' = some t)
    (a3 : ∀ t, pc' = .rLock t → t < s.toks.length) :
    Inv { s with gs := s.gs.set g pc' } := by
  have hgl := (List.getElem_of_getElem? hg).1
  refine ⟨h.cnt, ?_, ?_⟩
  · intro g' q hq
    rcases getElem?_set_some hq with ⟨rfl, rfl⟩ | ⟨_, hq'⟩
    · refine ⟨fun t ht => ?_, a3⟩
      obtain ⟨h1, h2⟩ := a1 t ht
      obtain ⟨tk, htk, hm, hp⟩ := (h.go g' pc hg).1 t h1
      exact ⟨tk, htk, hm, h2 tk htk hp⟩
    · exact h.go g' q hq'
  · intro t tk ht
    refine ⟨(h.tok t tk ht).1, fun g' hm => ?_⟩
    obtain ⟨q, hq, hh⟩ := (h.tok t tk ht).2 g' hm
    by_cases e : g' = g
    · subst e
      rw [hg] at hq; cases hq
      exact ⟨pc', by simp [hgl], a2 t hh⟩
    · exact ⟨q, by rw [List.getElem?_set_ne (fun e' => e e'.symm)]; exact hq, hh⟩

/-- a step of goroutine `g` on token `t` whose mutex nobody else holds; `b0`: the channel gains what
    the count of tokens with nothing sent back loses -/
theorem inv_tok {s : St} (h : Inv s) {g t : Nat} {pc pc' : GPc} {tk tk' : Tok} {f' : Nat}
    (hg : s.gs[g]? = some pc) (ht : s.toks[t]? = some tk)
    (b0 : f' + (if tk'.nSends = 0 then 1 else 0) = s.free + (if tk.nSends = 0 then 1 else 0))
    (b1 : tk.mu = none ∨ tk.mu = some g)
    (b2 : (tk'.mu = some g ∧ holdsTok pc' = some t ∧ pcTok pc' tk') ∨
          (tk'.mu = none ∧ holdsTok pc' = none ∧ tk'.nSends = tk'.released.toNat))
    (b3 : holdsTok pc = none ∨ holdsTok pc = some t)
    (b4 : ∀ t', pc' ≠ .rLock t') :
    Inv { s with free := f', toks := s.toks.set t tk', gs := s.gs.set g pc' } := by
  have hgl := (List.getElem_of_getElem? hg).1
  have htl := (List.getElem_of_getElem? ht).1
  refine ⟨?_, ?_, ?_⟩
  · have h1 := countP_set (fun tk : Tok => decide (tk.nSends = 0)) (y := tk') ht
    have h2 := h.cnt
    simp only [unsent, decide_eq_true_eq] at h1 h2 ⊢
    omega
  · intro g' q hq
    rcases getElem?_set_some hq with ⟨rfl, rfl⟩ | ⟨hne, hq'⟩
    · refine ⟨fun u hu => ?_, fun u hu => absurd hu (b4 u)⟩
      rcases b2 with ⟨c1, c2, c3⟩ | ⟨_, c2, _⟩
      · rw [c2] at hu; cases hu
        exact ⟨tk', by simp [htl], c1, c3⟩
      · rw [c2] at hu; cases hu
    · obtain ⟨o1, o2⟩ := h.go g' q hq'
      refine ⟨fun u hu => ?_, fun u hu => by rw [List.length_set]; exact o2 u hu⟩
      obtain ⟨x, hx, hm, hp⟩ := o1 u hu
      have hut : u ≠ t := by
        intro e; subst e
        rw [ht] at hx; cases hx
        rcases b1 with b | b
        · rw [b] at hm; cases hm
        · rw [b] at hm; cases hm; exact hne rfl
      exact ⟨x, by rw [List.getElem?_set_ne (fun e => hut e.symm)]; exact hx, hm, hp⟩
  · intro u x hx
    rcases getElem?_set_some hx with ⟨rfl, rfl⟩ | ⟨hne, hx'⟩
    · rcases b2 with ⟨c1, c2, _⟩ | ⟨c1, _, c3⟩
      · refine ⟨fun e => (by rw [c1] at e; cases e), fun g' e => ?_⟩
        rw [c1] at e; cases e
        exact ⟨pc', by simp [hgl], c2⟩
      · exact ⟨fun _ => c3, fun g' e => (by rw [c1] at e; cases e)⟩
    · refine ⟨(h.tok u x hx').1, fun g' hm => ?_⟩
      obtain ⟨q, hq, hh⟩ := (h.tok u x hx').2 g' hm
      have hgg : g' ≠ g := by
        intro e; subst e
        rw [hg] at hq; cases hq
        rcases b3 with b | b
        · rw [b] at hh; cases hh
        · rw [b] at hh; cases hh; exact hne rfl
      exact ⟨q, by rw [List.getElem?_set_ne (fun e => hgg e.symm)]; exact hq, hh⟩

theorem inv_acquire {s : St} (h : Inv s) {g : Nat} (hg : s.gs[g]? = some .acquiring) (hf : 0 < s.free) :
    Inv { s with free := s.free - 1, toks := s.toks ++ [({} : Tok)], gs := s.gs.set g .idle } := by
  have hgl := (List.getElem_of_getElem? hg).1
  refine ⟨?_, ?_, ?_⟩
  · have := h.cnt
    simp [unsent, List.countP_append] at this ⊢; omega
  · intro g' q hq
    rcases getElem?_set_some hq with ⟨rfl, rfl⟩ | ⟨_, hq'⟩
    · simp [holdsTok]
    · obtain ⟨o1, o2⟩ := h.go g' q hq'
      refine ⟨fun u hu => ?_, fun u hu => by have := o2 u hu; simp; omega⟩
      obtain ⟨x, hx, hm, hp⟩ := o1 u hu
      exact ⟨x, by rw [List.getElem?_append_left (List.getElem_of_getElem? hx).1]; exact hx, hm, hp⟩
  · intro u x hx
    rcases getElem?_concat_some.mp hx with hx' | ⟨_, rfl⟩
    · refine ⟨(h.tok u x hx').1, fun g' hm => ?_⟩
      obtain ⟨q, hq, hh⟩ := (h.tok u x hx').2 g' hm
      have hgg : g' ≠ g := by
        intro e; subst e
        rw [hg] at hq; cases hq; simp [holdsTok] at hh
      exact ⟨q, by rw [List.getElem?_set_ne (fun e => hgg e.symm)]; exact hq, hh⟩
    · simp

theorem inv_step {s : St} (h : Inv s) (x : Step) (he : enabled s x) : Inv (next s x) := by
  obtain ⟨g, a⟩ := x
  unfold enabled guard at he
  cases hg : s.gs[g]? with
  | none => simp [hg] at he
  | some pc =>
    simp only [hg] at he
    simp only [next, hg]
    cases a with
    | acquireCall | finish =>
      simp [actGuard] at he; subst he
      exact inv_move h hg (by simp [holdsTok]) (by simp [holdsTok]) (by simp)
    | releaseCall t =>
      simp [actGuard] at he; obtain ⟨rfl, hf⟩ := he
      exact inv_move h hg (by simp [holdsTok]) (by simp [holdsTok]) (by intro u e; cases e; exact hf)
    | acquire =>
      simp [actGuard] at he; obtain ⟨rfl, hf⟩ := he
      exact inv_acquire h hg hf
    | check =>
      cases pc <;> simp [actGuard] at he
      rename_i t
      obtain ⟨tk, ht, hm, hp⟩ := (h.go g _ hg).1 t rfl
      simp only [actNext, ht]
      cases hr : tk.released with
      | true =>
        exact inv_move h hg (by intro u hu; simp [holdsTok] at hu ⊢; exact ⟨hu, fun _ _ hp => hp⟩)
          (by simp [holdsTok]) (by simp)
      | false =>
        refine inv_move h hg ?_ (by simp [holdsTok]) (by simp)
        intro u hu; simp [holdsTok] at hu ⊢; subst hu
        refine ⟨rfl, fun tk' ht' hp' => ?_⟩
        rw [ht] at ht'; cases ht'
        simp [pcTok, hr] at hp' ⊢; exact hp'
    | lock =>
      cases pc <;> simp [actGuard] at he
      rename_i t
      simp only [tokMu, Option.map_eq_some_iff] at he
      obtain ⟨tk, ht, hm⟩ := he
      simp only [actNext, modTok, ht]
      exact inv_tok h hg ht rfl (Or.inl hm) (Or.inl ⟨rfl, rfl, (h.tok t tk ht).1 hm⟩) (Or.inl rfl) (by simp)
    | send =>
      cases pc <;> simp [actGuard] at he
      rename_i t
      obtain ⟨tk, ht, hm, hp⟩ := (h.go g _ hg).1 t rfl
      simp only [actNext, modTok, ht]
      simp only [pcTok] at hp
      exact inv_tok h hg ht (by simp [hp.1]) (Or.inr hm) (Or.inl ⟨hm, rfl, by simp [pcTok, hp.1, hp.2]⟩)
        (Or.inr rfl) (by simp)
    | setReleased =>
      cases pc <;> simp [actGuard] at he
      rename_i t
      obtain ⟨tk, ht, hm, hp⟩ := (h.go g _ hg).1 t rfl
      simp only [actNext, modTok, ht]
      simp only [pcTok] at hp
      exact inv_tok h hg ht rfl (Or.inr hm) (Or.inl ⟨hm, rfl, by simp [pcTok, hp.1]⟩) (Or.inr rfl) (by simp)
    | unlock =>
      cases pc <;> simp [actGuard] at he
      rename_i t
      obtain ⟨tk, ht, hm, hp⟩ := (h.go g _ hg).1 t rfl
      simp only [actNext, modTok, ht]
      simp only [pcTok] at hp
      exact inv_tok h hg ht rfl (Or.inr hm) (Or.inr ⟨rfl, rfl, hp⟩) (Or.inr rfl) (by simp)

theorem inv_reach {limit n : Nat} {s : St} (h : Reach limit n s) : Inv s := by
  induction h with
  | init => exact inv_init limit n
  | step x _ he ih => exact inv_step ih x he

/-- at the send inside `Release` the channel has room -/
theorem send_room {s : St} (h : Inv s) {g t : Nat} (hg : s.gs[g]? = some (.rSend t)) :
    s.free < s.limit := by
  obtain ⟨tk, ht, _, hp⟩ := (h.go g _ hg).1 t rfl
  simp only [pcTok] at hp
  have : 0 < unsent s.toks := by
    unfold unsent
    rw [List.countP_pos_iff]
    exact ⟨tk, List.mem_of_getElem? ht, by simp [hp.1]⟩
  have := h.cnt
  omega

theorem send_enabled {s : St} (h : Inv s) {g t : Nat} (hg : s.gs[g]? = some (.rSend t)) :
    guard s ⟨g, .send⟩ = true := by
  simp [guard, hg, actGuard, send_room h hg]

/-- per token: at most one send; released implies sent; with the mutex free the two agree -/
theorem tok_counts {s : St} (h : Inv s) {t : Nat} {tk : Tok} (ht : s.toks[t]? = some tk) :
    tk.nSends ≤ 1 ∧ (tk.released = true → tk.nSends = 1) ∧
    (tk.mu = none → tk.nSends = tk.released.toNat) := by
  have of_eq : tk.nSends = tk.released.toNat → tk.nSends ≤ 1 ∧ (tk.released = true → tk.nSends = 1) :=
    fun e => by rw [e]; cases tk.released <;> simp
  cases hm : tk.mu with
  | none =>
    have e := (h.tok t tk ht).1 hm
    exact ⟨(of_eq e).1, (of_eq e).2, fun _ => e⟩
  | some g =>
    -- the holder of the mutex is at a program counter that says where the token is
    obtain ⟨pc, hg, hh⟩ := (h.tok t tk ht).2 g hm
    obtain ⟨tk', ht', _, hp⟩ := (h.go g pc hg).1 t hh
    rw [ht] at ht'; cases ht'
    have hc : tk.nSends ≤ 1 ∧ (tk.released = true → tk.nSends = 1) := by
      cases pc with
      | rSend _ | rSet _ => simp only [pcTok] at hp; simp [hp.1, hp.2]
      | _ => exact of_eq hp
    exact ⟨hc.1, hc.2, nofun⟩

theorem free_le {s : St} (h : Inv s) : s.free ≤ s.limit := by have := h.cnt; omega

/-- when every token has been released the channel is full again -/
theorem all_released {s : St} (h : Inv s) (hall : ∀ tk ∈ s.toks, tk.released = true) :
    s.free = s.limit := by
  have : unsent s.toks = 0 := by
    unfold unsent
    rw [List.countP_eq_zero]
    intro tk htk
    obtain ⟨t, ht⟩ := List.mem_iff_getElem?.mp htk
    have := (tok_counts h ht).2.1 (hall tk htk)
    simp [this]
  have := h.cnt
  omega

theorem holder_progress {s : St} (h : Inv s) {g t : Nat} {pc : GPc} (hg : s.gs[g]? = some pc)
    (hh : holdsTok pc = some t) : ∃ a, guard s ⟨g, a⟩ = true := by
  cases pc <;> simp [holdsTok] at hh
  · exact ⟨.check, by simp [guard, hg, actGuard]⟩
  · exact ⟨.send, send_enabled h hg⟩
  · exact ⟨.setReleased, by simp [guard, hg, actGuard]⟩
  · exact ⟨.unlock, by simp [guard, hg, actGuard]⟩

theorem lock_wait {s : St} (h : Inv s) {g t : Nat} (hg : s.gs[g]? = some (.rLock t)) :
    guard s ⟨g, .lock⟩ = true ∨
    ∃ g' a, tokMu s t = some (some g') ∧ guard s ⟨g', a⟩ = true := by
  have htl := (h.go g _ hg).2 t rfl
  have ht : s.toks[t]? = some s.toks[t] := List.getElem?_eq_getElem htl
  cases hm : s.toks[t].mu with
  | none => exact Or.inl (by simp [guard, hg, actGuard, tokMu, ht, hm])
  | some g' =>
    obtain ⟨pc, hg', hh⟩ := (h.tok t _ ht).2 g' hm
    obtain ⟨a, ha⟩ := holder_progress h hg' hh
    exact Or.inr ⟨g', a, by simp [tokMu, ht, hm], ha⟩

/-- a goroutine that has not finished guarantees an enabled step, unless it is blocked in `Acquire`
    on the empty channel -/
theorem goroutine_progress {s : St} (h : Inv s) {g : Nat} {pc : GPc} (hg : s.gs[g]? = some pc)
    (hd : pc ≠ .done) : (∃ x, guard s x = true) ∨ (pc = .acquiring ∧ s.free = 0) := by
  cases hh : holdsTok pc with
  | some t => obtain ⟨a, ha⟩ := holder_progress h hg hh; exact Or.inl ⟨_, ha⟩
  | none =>
    cases pc <;> simp [holdsTok] at hh
    · exact Or.inl ⟨⟨g, .acquireCall⟩, by simp [guard, hg, actGuard]⟩
    · cases hf : s.free with
      | zero => exact Or.inr ⟨rfl, rfl⟩
      | succ n => exact Or.inl ⟨⟨g, .acquire⟩, by simp [guard, hg, actGuard, hf]⟩
    · rcases lock_wait h hg with hl | ⟨g', a, _, ha⟩
      · exact Or.inl ⟨_, hl⟩
      · exact Or.inl ⟨_, ha⟩
    · exact absurd rfl hd

/-- all tokens are out and nobody is going to return one: every unfinished goroutine is blocked
    in `Acquire` on the empty channel (the callers broke "a Token MUST be released") -/
def Starved (s : St) : Prop := s.free = 0 ∧ ∀ pc ∈ s.gs, pc = .done ∨ pc = .acquiring

theorem progress {s : St} (h : Inv s) (hnd : ¬ allDone s) : (∃ x, guard s x = true) ∨ Starved s :=
  progress_or_waiting (wait := fun pc => pc = .acquiring) (fun _ _ hg hd => goroutine_progress h hg hd) hnd

theorem reach_run {limit n : Nat} {s s' : St} (h : Reach limit n s) (l : List Step)
    (hr : run s l = some s') : Reach limit n s' :=
  run_preserves (fun _ => rfl) (fun _ _ _ => rfl) (fun _ a h hg => Reach.step a h hg) l h hr

end Ls.Conc.Token
