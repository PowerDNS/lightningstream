import LsLemmas.TxnAbsShadow
import LsLemmas.AbsFleetSettle
/-
  Run-level refinement for shadow (non-native) mode: a byte-level fleet of shadow-mode
  environments (application writes / deletes, `sendOnce`, `loadOnce`) refines the abstract
  last-writer-wins fleet of LsLemmas/AbsFleet.lean, the application's writes being materialised
  as abstract `write` steps at the moment the capture detects them (helper lemmas of
  `C01_shadow_run_refines` in LsProps/C01RefineShadow.lean).
-/
namespace Ls.Abs
open Ls

-- equality of abstract schedules is decided in the examples of LsProps/C01RefineShadow.lean
deriving instance DecidableEq for Step

/-- the schedule "instance `i` writes these (key, version) pairs, in order" -/
def writesBy (i : Nat) (l : List (Key × Ver)) : List Step := l.map fun p => Step.write i p.1 p.2

theorem run_writesBy (i : Nat) (G : Key → Option Ver) (l : List (Key × Ver)) :
    ∀ (f : Fleet), (∀ p ∈ l, G p.1 = some p.2) →
      run f (writesBy i l) =
        { f with db := fun j => if j = i then
            (fun key => if key ∈ l.map (·.1) then G key else f.db i key) else f.db j } := by
  induction l with
  | nil =>
    intro f _
    cases f with
    | mk n db bucket =>
      simp only [writesBy, List.map_nil, run, List.foldl_nil, List.not_mem_nil, if_false]
      congr 1
      funext j
      by_cases hj : j = i
      · rw [if_pos hj, hj]
      · rw [if_neg hj]
  | cons p rest ih =>
    intro f hG
    have h1 : run f (writesBy i (p :: rest)) = run (step f (.write i p.1 p.2)) (writesBy i rest) := rfl
    rw [h1, ih _ (fun q hq => hG q (List.mem_cons_of_mem _ hq))]
    cases f with
    | mk n db bucket =>
      simp only [step, Fleet.mk.injEq, true_and, and_true]
      funext j
      by_cases hj : j = i
      · simp only [hj, if_true]
        funext key
        by_cases hk : key ∈ rest.map (·.1)
        · simp [hk]
        · by_cases hkp : key = p.1
          · subst hkp
            simp [hk, upd_same, hG p (List.mem_cons_self ..)]
          · simp [hk, hkp, upd_other _ _ _ _ hkp]
      · simp only [hj, if_false]

theorem writesBy_stepsWF (i : Nat) (l : List (Key × Ver)) (h : ∀ p ∈ l, p.2.WF) :
    StepsWF (writesBy i l) := by
  intro s hs
  obtain ⟨p, hp, rfl⟩ := List.mem_map.mp hs
  exact h p hp

/-- such a schedule is monotone when every written version does not lose against what the
    instance held before the schedule (a key written twice is written with the same version) -/
theorem writesBy_monotone (i : Nat) (G : Key → Option Ver) (l : List (Key × Ver)) :
    ∀ (f : Fleet), (∀ p ∈ l, G p.1 = some p.2) →
      (∀ p ∈ l, join (f.db i p.1) (some p.2) = some p.2) → MonotoneFrom f (writesBy i l) := by
  induction l with
  | nil => intro _ _ _; trivial
  | cons p rest ih =>
    intro f hG hb
    refine ⟨hb p (List.mem_cons_self ..), ?_⟩
    apply ih _ (fun q hq => hG q (List.mem_cons_of_mem _ hq))
    intro q hq
    simp only [step, if_true]
    by_cases hk : q.1 = p.1
    · have : q.2 = p.2 := by
        have h1 := hG q (List.mem_cons_of_mem _ hq)
        have h2 := hG p (List.mem_cons_self ..)
        rw [hk, h2] at h1
        injection h1 with h1; exact h1.symm
      rw [hk, upd_same, this, join_idem]
    · rw [upd_other _ _ _ _ hk]
      exact hb q (List.mem_cons_of_mem _ hq)

end Ls.Abs

namespace Ls.Txn
open Ls Ls.Lmdb Ls.Strategy Ls.Merge

theorem captureO_none {o : Option Ver} {appv : Option Bytes} {now : Nat}
    (h : captureO o appv now = none) : o = none := by
  unfold captureO at h
  cases appv with
  | some a =>
    simp only at h
    split at h
    · rename_i hl
      rw [h] at hl; cases hl
    · cases h
  | none =>
    cases o with
    | none => rfl
    | some x => simp only at h; split at h <;> cases h

theorem captureO_beats {o : Option Ver} {appv : Option Bytes} {now : Nat} {v : Ver}
    (hclk : ∀ x, o = some x → x.ts < now) (h : captureO o appv now = some v) (hne : some v ≠ o) :
    v.WF ∧ join o (some v) = some v := by
  have key : ∀ (w : Ver), w.ts = now → join o (some w) = some w := by
    intro w hw
    cases o with
    | none => rfl
    | some x =>
      have hx := hclk x rfl
      have hb : w.beats x := Or.inl (by rw [hw]; exact hx)
      simp only [join, Ver.max, hb, if_true]
  unfold captureO at h
  cases appv with
  | some a =>
    simp only at h
    split at h
    · exact absurd h.symm hne
    · have h' := Option.some.inj h; subst h'
      exact ⟨fun hd => (by cases hd), key _ rfl⟩
  | none =>
    cases o with
    | none => cases h
    | some x =>
      simp only at h
      split at h
      · exact absurd h.symm hne
      · have h' := Option.some.inj h; subst h'
        exact ⟨fun _ => rfl, key _ rfl⟩

/-- the keys the capture can touch: the keys of the application DBIs and of their shadows -/
def capKeys (e : Env) : List Abs.Key :=
  e.dbis.flatMap fun d =>
    if isPrivate d.name then [] else
      (d.kvs.map fun p => (d.name, p.1)) ++
      (match findDbi e.dbis (shadowName d.name) with
       | none => []
       | some sd => sd.kvs.map fun p => (d.name, p.1))

/-- the changes of the capture at time `now`: the keys whose captured version differs from the
    stored one, with the captured version -/
def capPairs (e : Env) (now : Nat) : List (Abs.Key × Ver) :=
  (capKeys e).filterMap fun key =>
    match capture (absShadow e) (appView e) now key with
    | some v => if some v ≠ absShadow e key then some (key, v) else none
    | none => none

/-- **the abstract writes of a capture**: instance `i` writes, for exactly the captured keys,
    `(now, live, value)` resp. `(now, deleted, ∅)` -/
def capWrites (i : Nat) (e : Env) (now : Nat) : List Abs.Step := Abs.writesBy i (capPairs e now)

/-- all application DBIs (hence their shadows) are byte-ordered -/
def ByteOrd (dbis : List Dbi) : Prop :=
  ∀ n d, isPrivate n = false → findDbi dbis n = some d → isIntKey d.flags = false

theorem get_false_none {db : KVs} {k : Bytes} (h : k ∉ db.map (·.1)) : get false db k = none := by
  apply get_none_of_ne
  intro p hp h0
  exact h (kcmp_false_eq.mp h0 ▸ List.mem_map_of_mem hp)

theorem mem_capKeys {e : Env} {n : Bytes} {d : Dbi} (hp : isPrivate n = false)
    (hd : findDbi e.dbis n = some d) {k : Bytes}
    (hk : k ∈ d.kvs.map (·.1) ∨
      ∃ sd, findDbi e.dbis (shadowName n) = some sd ∧ k ∈ sd.kvs.map (·.1)) :
    (n, k) ∈ capKeys e := by
  unfold capKeys
  rw [List.mem_flatMap]
  refine ⟨d, findDbi_mem hd, ?_⟩
  rw [findDbi_name hd, hp]
  simp only [Bool.false_eq_true, if_false, List.mem_append]
  rcases hk with hk | ⟨sd, hsd, hk⟩
  · obtain ⟨p, hpm, rfl⟩ := List.mem_map.mp hk
    exact Or.inl (List.mem_map.mpr ⟨p, hpm, rfl⟩)
  · obtain ⟨p, hpm, rfl⟩ := List.mem_map.mp hk
    rw [hsd]
    exact Or.inr (List.mem_map.mpr ⟨p, hpm, rfl⟩)

theorem off_capKeys {e : Env} (hok : ShOk e.dbis) (hb : ByteOrd e.dbis) {key : Abs.Key}
    (h : key ∉ capKeys e) : appView e key = none ∧ absShadow e key = none := by
  obtain ⟨n, k⟩ := key
  cases hp : isPrivate n with
  | true => exact ⟨appVD_private hp k, absShD_private hp k⟩
  | false =>
    cases hd : findDbi e.dbis n with
    | none => exact ⟨appVD_of_none hd k, absShD_of_none (hok.no_orphan hp hd) k⟩
    | some d =>
      have hik := hb n d hp hd
      refine ⟨?_, ?_⟩
      · rw [appView, appVD_of_find hp hd, hik]
        exact get_false_none (fun hk => h (mem_capKeys hp hd (Or.inl hk)))
      · cases hsn : findDbi e.dbis (shadowName n) with
        | none => exact absShD_of_none hsn k
        | some sd =>
          rw [absShadow, absShD_of_find hp hsn, (hok.shadow hp hd hsn).1, hik, get_false_none
            (fun hk => h (mem_capKeys hp hd (Or.inr ⟨sd, hsn, hk⟩)))]
          rfl

theorem mem_capPairs {e : Env} {now : Nat} {p : Abs.Key × Ver} :
    p ∈ capPairs e now ↔ p.1 ∈ capKeys e ∧
      capture (absShadow e) (appView e) now p.1 = some p.2 ∧ some p.2 ≠ absShadow e p.1 := by
  unfold capPairs
  rw [List.mem_filterMap]
  constructor
  · rintro ⟨key, hk, h⟩
    split at h
    · rename_i v hv
      split at h
      · rename_i hne
        cases h
        exact ⟨hk, hv, hne⟩
      · cases h
    · cases h
  · rintro ⟨hk, hv, hne⟩
    exact ⟨p.1, hk, by rw [hv]; simp only [hne, ne_eq, not_false_eq_true, if_true]⟩

theorem capWrites_run {e : Env} (hok : ShOk e.dbis) (hb : ByteOrd e.dbis) (i now : Nat)
    (hclk : ∀ key x, absShadow e key = some x → x.ts < now)
    (F : Abs.Fleet) (hF : F.db i = absShadow e) :
    Abs.run F (capWrites i e now) =
      { F with db := fun j => if j = i then capture (absShadow e) (appView e) now else F.db j } ∧
    Abs.StepsWF (capWrites i e now) ∧ Abs.MonotoneFrom F (capWrites i e now) := by
  have hG : ∀ p ∈ capPairs e now, capture (absShadow e) (appView e) now p.1 = some p.2 :=
    fun p hp => (mem_capPairs.mp hp).2.1
  have hbeat : ∀ p ∈ capPairs e now, p.2.WF ∧ join (F.db i p.1) (some p.2) = some p.2 := by
    intro p hp
    obtain ⟨_, h1, h2⟩ := mem_capPairs.mp hp
    rw [hF]
    exact captureO_beats (fun x hx => hclk p.1 x hx) h1 h2
  refine ⟨?_, Abs.writesBy_stepsWF i _ (fun p hp => (hbeat p hp).1),
    Abs.writesBy_monotone i _ _ F hG (fun p hp => (hbeat p hp).2)⟩
  unfold capWrites
  rw [Abs.run_writesBy i (capture (absShadow e) (appView e) now) _ F hG]
  congr 1
  funext j
  by_cases hj : j = i
  · simp only [hj, if_true]
    funext key
    by_cases hm : key ∈ (capPairs e now).map (·.1)
    · rw [if_pos hm]
    · rw [if_neg hm, hF]
      by_cases hk : key ∈ capKeys e
      · cases hv : capture (absShadow e) (appView e) now key with
        | none => exact (captureO_none hv)
        | some v =>
          by_cases hne : some v = absShadow e key
          · exact hne.symm
          · exact absurd (List.mem_map.mpr ⟨(key, v), mem_capPairs.mpr ⟨hk, hv, hne⟩, rfl⟩) hm
      · obtain ⟨h1, h2⟩ := off_capKeys hok hb hk
        rw [capture_apply, h1, h2]; rfl
  · simp only [hj, if_false]

/-- **the invariant of a shadow-mode environment along a run**: well-formed (`ShadowWF`, here in
    lookup form), all application DBIs byte-ordered, no live shadow version and no application
    value empty (the D7 exclusions) -/
structure EnvInv (e : Env) : Prop where
  sorted : SortedNames e.dbis
  ok : ShOk e.dbis
  nodup : NoDupApp e.dbis
  bytes : ByteOrd e.dbis
  live : NoEmptyLive (absShadow e)
  appne : ∀ key v, appView e key = some v → v ≠ []

/-- **the invariant of a snapshot in the bucket**: `SnapOk`, messages for application DBIs
    announce byte order, no live entry with an empty value -/
structure SnapInv (s : Snap) : Prop where
  ok : SnapOk s
  bytes : ∀ m ∈ s.dbs, isPrivate m.name = false → isIntKey m.flags = false
  live : NoEmptyLive (absSnap s)

def ByteOrdD (e : Env) : Prop := ∀ d ∈ e.dbis, isPrivate d.name = false → isIntKey d.flags = false

instance (e : Env) : Decidable (ByteOrdD e) := by unfold ByteOrdD; exact inferInstance

theorem envInv_of_decidable {e : Env} (hwf : ShadowWF e) (hl : LiveNonEmpty e) (ha : AppNonEmpty e)
    (hb : ByteOrdD e) : EnvInv e := by
  obtain ⟨hs, hok, hnd⟩ := (shadowWF_iff e).mp hwf
  refine ⟨hs, hok, hnd, ?_, fun key o ho => shadowAll_abs hok hl key o ho, appNonEmpty_abs ha⟩
  intro n d hp hf
  have hn := findDbi_name hf
  exact hb d (findDbi_mem hf) (by rw [hn]; exact hp)

theorem envInv_decidable {e : Env} (h : EnvInv e) :
    ShadowWF e ∧ LiveNonEmpty e ∧ AppNonEmpty e ∧ ByteOrdD e := by
  refine ⟨(shadowWF_iff e).mpr ⟨h.sorted, h.ok, h.nodup⟩, shadowAll_of_abs h.ok h.live,
    fun d hd hp p hpm => ?_, fun d hd hp => h.bytes _ d hp (findDbi_of_mem h.sorted hd)⟩
  have hf := findDbi_of_mem h.sorted hd
  apply h.appne (d.name, p.1) p.2
  rw [appView, appVD_of_find hp hf]
  exact get_of_mem (h.ok.app _ d hp hf).1 hpm

/-- the configured create-flag overrides are byte-ordered (decidable) -/
def CfgByte (c : Cfg) : Prop := ∀ p ∈ c.override, isIntKey (p.2 % 2 ^ 16) = false

instance (c : Cfg) : Decidable (CfgByte c) := by unfold CfgByte; exact inferInstance

theorem isIntKey_mod (x : Nat) : isIntKey (x % 2 ^ 16) = isIntKey x := by
  unfold isIntKey Gen.lmdbIntegerKeyFlag
  rw [← Nat.and_two_pow_sub_one_eq_mod, Nat.and_assoc]
  rfl

theorem createFlags_byte {c : Cfg} {m : DbiMsg} (hc : CfgByte c) (hm : isIntKey m.flags = false) :
    isIntKey (createFlags c m) = false := by
  unfold createFlags ovrOf
  cases hf : c.override.find? (fun x => x.1 = m.name) with
  | none => simp only [Option.map_none, Option.getD_none]; rw [isIntKey_mod]; exact hm
  | some p =>
    simp only [Option.map_some, Option.getD_some]
    exact hc p (List.mem_of_find?_eq_some hf)

theorem flagsOkSh_of_bytes {c : Cfg} {dbis : List Dbi} {m : DbiMsg} (hc : CfgByte c)
    (hok : ShOk dbis) (hb : ByteOrd dbis) (hp : isPrivate m.name = false)
    (hm : isIntKey m.flags = false) : FlagsOkSh c dbis m := by
  have hcf := createFlags_byte hc hm
  constructor
  · rw [hm]
    cases hd : findDbi dbis m.name with
    | some d => exact hb _ d hp hd
    | none => exact hcf
  · rw [hm]
    cases hs : findDbi dbis (shadowName m.name) with
    | some sd =>
      obtain ⟨_, d, hd, hik⟩ := hok.sh _ sd hp hs
      simp only [Option.getD_some]
      rw [hik]; exact hb _ d hp hd
    | none =>
      simp only [Option.getD_none, newDbi, shadowCreateFlags]
      rw [isIntKey_mask]; exact hcf

theorem envInv_congr {e e' : Env} (hd : e'.dbis = e.dbis) (h : EnvInv e) : EnvInv e' := by
  cases e; cases e'
  cases hd
  exact ⟨h.sorted, h.ok, h.nodup, h.bytes, h.live, h.appne⟩

theorem setApp_inv {e : Env} (hinv : EnvInv e) {name : Bytes} {d : Dbi}
    (hp : isPrivate name = false) (hd : findDbi e.dbis name = some d) {kvs' : KVs}
    (hS : Sorted false kvs') (hK : DKeysOK kvs') (hne : ∀ p ∈ kvs', p.2 ≠ []) (lt : Nat) :
    EnvInv { dbis := setKvs e.dbis name kvs', lastTxn := lt } ∧
    absShadow { dbis := setKvs e.dbis name kvs', lastTxn := lt } = absShadow e := by
  have hik : isIntKey d.flags = false := hinv.bytes name d hp hd
  have hlook := findDbi_setKvs_of_find hd kvs'
  have hsh : ∀ n, findDbi (setKvs e.dbis name kvs') (shadowName n) = findDbi e.dbis (shadowName n) :=
    fun n => by rw [hlook, if_neg (shadowName_ne_of_not_private hp)]
  -- an application DBI afterwards is one from before, with the same flags
  have happ : ∀ n d', findDbi (setKvs e.dbis name kvs') n = some d' →
      ∃ d0, findDbi e.dbis n = some d0 ∧ d'.flags = d0.flags ∧ (d' = d0 ∨ n = name ∧ d'.kvs = kvs') := by
    intro n d' hf
    rw [hlook] at hf
    split at hf
    · rename_i hn
      cases hf
      exact ⟨d, hn ▸ hd, rfl, Or.inr ⟨hn, rfl⟩⟩
    · exact ⟨d', hf, rfl, Or.inl rfl⟩
  have habs : absShadow { dbis := setKvs e.dbis name kvs', lastTxn := lt } = absShadow e :=
    funext fun (n, k) => absShD_congr (hsh n) k
  refine ⟨⟨sortedNames_setKvs _ _ hinv.sorted, ⟨fun n d' hpn hf => ?_, fun n sd hpn hf => ?_⟩,
    fun n d' hpn hf => ?_, fun n d' hpn hf => ?_, habs ▸ hinv.live, fun (n, k) v hv => ?_⟩, habs⟩
  · obtain ⟨d0, hf0, hfl, hc⟩ := happ n d' hf
    rcases hc with rfl | ⟨rfl, hk⟩
    · exact hinv.ok.app n _ hpn hf0
    · cases hd.symm.trans hf0
      rw [hfl, hik, hk]; exact ⟨hS, hK⟩
  · rw [show findDbi _ (shadowName n) = _ from hsh n] at hf
    obtain ⟨hwf, d1, hd1, hik1⟩ := hinv.ok.sh n sd hpn hf
    refine ⟨hwf, ?_⟩
    by_cases hn : n = name
    · cases hn
      cases hd.symm.trans hd1
      exact ⟨{ d with kvs := kvs' }, by rw [hlook, if_pos rfl], hik1⟩
    · exact ⟨d1, by rw [hlook, if_neg hn]; exact hd1, hik1⟩
  · obtain ⟨d0, hf0, hfl, _⟩ := happ n d' hf
    rw [hfl]; exact hinv.nodup n d0 hpn hf0
  · obtain ⟨d0, hf0, hfl, _⟩ := happ n d' hf
    rw [hfl]; exact hinv.bytes n d0 hpn hf0
  · cases hpn : isPrivate n with
    | true => rw [appView, appVD_private hpn] at hv; cases hv
    | false =>
      cases hf : findDbi (setKvs e.dbis name kvs') n with
      | none => rw [appView, appVD_of_none hf] at hv; cases hv
      | some d' =>
        rw [appView, appVD_of_find hpn hf] at hv
        obtain ⟨d0, hf0, _, hc⟩ := happ n d' hf
        rcases hc with rfl | ⟨_, hk⟩
        · exact hinv.appne (n, k) v (by rw [appView, appVD_of_find hpn hf0]; exact hv)
        · rw [hk] at hv
          exact of_get (P := (· ≠ [])) hne hv

theorem EnvInv.values {e : Env} (hinv : EnvInv e) {name : Bytes} {d : Dbi} (hp : isPrivate name = false)
    (hd : findDbi e.dbis name = some d) : Sorted false d.kvs ∧ DKeysOK d.kvs ∧
    ∀ k b, get false d.kvs k = some b → b ≠ [] := by
  have hik := hinv.bytes name d hp hd
  obtain ⟨hA, hAK⟩ := hinv.ok.app name d hp hd
  exact ⟨hik ▸ hA, hAK, fun k b hg =>
    hinv.appne (name, k) b (by rw [appView, appVD_of_find hp hd, hik]; exact hg)⟩

theorem appPut_env_inv {e e' : Env} (hinv : EnvInv e) {name k v : Bytes}
    (hp : isPrivate name = false) (hv : v ≠ []) (h : appTxn e [.put name k v] = some e') :
    EnvInv e' ∧ absShadow e' = absShadow e := by
  cases hd : findDbi e.dbis name with
  | none =>
    rw [(appTxn_missing hd k v).1] at h
    cases h
    exact ⟨envInv_congr rfl hinv, rfl⟩
  | some d =>
    rw [appTxn_put hd (hinv.nodup name d hp hd) (hinv.bytes name d hp hd)] at h
    split at h
    · cases h
    · rename_i hk
      cases h
      obtain ⟨hA, hAK, hne⟩ := hinv.values hp hd
      refine setApp_inv hinv hp hd (sorted_put hA k v)
        (put_forall (fun k => badKey k = false) hAK (Bool.eq_false_iff.mpr hk))
        (values_of_get (P := (· ≠ [])) (sorted_put hA k v) fun k' b hg => ?_) _
      rw [get_put] at hg
      split at hg
      · cases hg; exact hv
      · exact hne k' b hg

theorem appDel_env_inv {e e' : Env} (hinv : EnvInv e) {name k : Bytes}
    (hp : isPrivate name = false) (h : appTxn e [.del name k] = some e') :
    EnvInv e' ∧ absShadow e' = absShadow e := by
  cases hd : findDbi e.dbis name with
  | none =>
    rw [(appTxn_missing hd k []).2] at h
    cases h
    exact ⟨envInv_congr rfl hinv, rfl⟩
  | some d =>
    rw [appTxn_del hd (hinv.nodup name d hp hd) (hinv.bytes name d hp hd)] at h
    cases h
    obtain ⟨hA, hAK, hne⟩ := hinv.values hp hd
    exact setApp_inv hinv hp hd (sorted_del hA k) (fun p hpm => hAK p (del_mem p hpm))
      (fun p hpm => hne p.1 p.2 (get_of_mem hA (del_mem p hpm))) _

theorem capture_commit_inv {c : Cfg} {e : Env} {w : W} {txnID now cutoff : Nat}
    (hinv : EnvInv e) (hm : Mirrored e) (hnow : now < two64) (ht : txnID < two64)
    (h : mainToShadow c { dbis := e.dbis, dirty := false } txnID now cutoff = .ok w) :
    EnvInv (commit e w) ∧ Mirrored (commit e w) ∧ absShadow (commit e w) = absShadow e ∧
    appView (commit e w) = appView e := by
  obtain ⟨a1, a2, a3, _, a5⟩ := mainToShadow_abs (w := ⟨e.dbis, false⟩) hinv.sorted hinv.ok hinv.nodup
    hnow ht hinv.appne (fun key o v ho hv hne => (mirrored_no_change hm key o v ho hv hne).elim) h
  have hsh : absShadow (commit e w) = absShadow e := by
    funext key
    show absShD w.dbis key = _
    rw [a5 key]
    show capture (absShadow e) (appView e) now key = _
    rw [capture_of_mirrored now hm.1]
  have happ : appView (commit e w) = appView e := appVD_congr a3
  refine ⟨⟨a1, a2, ?_, ?_, by rw [hsh]; exact hinv.live, by rw [happ]; exact hinv.appne⟩,
    ⟨fun key => by rw [happ, hsh]; exact hm.1 key, by rw [hsh]; exact hm.2⟩, hsh, happ⟩
  · intro n d hp hf; exact hinv.nodup n d hp (by rw [← a3 n hp]; exact hf)
  · intro n d hp hf; exact hinv.bytes n d hp (by rw [← a3 n hp]; exact hf)

theorem app_unrecorded_view {e e' : Env} (hinv : EnvInv e) {ops : List AppOp}
    (hops : (∃ name key val, ops = [.put name key val] ∧ isPrivate name = false) ∨
            (∃ name key, ops = [.del name key] ∧ isPrivate name = false))
    (h : appTxn e ops = some e') (hl : e'.lastTxn = e.lastTxn) : appView e' = appView e := by
  rcases hops with ⟨name, key, val, rfl, hp⟩ | ⟨name, key, rfl, hp⟩
  · cases hd : findDbi e.dbis name with
    | none =>
      rw [(appTxn_missing hd key val).1] at h
      cases h
      rfl
    | some d =>
      rw [appTxn_put hd (hinv.nodup name d hp hd) (hinv.bytes name d hp hd)] at h
      split at h
      · cases h
      · cases h
        exact absurd hl (Nat.succ_ne_self _)
  · cases hd : findDbi e.dbis name with
    | none =>
      rw [(appTxn_missing hd key []).2] at h
      cases h
      rfl
    | some d =>
      rw [appTxn_del hd (hinv.nodup name d hp hd) (hinv.bytes name d hp hd)] at h
      cases h
      -- an unrecorded delete found nothing to delete
      have hget : get false d.kvs key = none := by
        cases hg : get false d.kvs key with
        | none => rfl
        | some v =>
          simp only [del_snd, hg, Option.isSome_some, if_true] at hl
          exact absurd hl (Nat.succ_ne_self _)
      show appVD (setKvs e.dbis name (Lmdb.del false d.kvs key).1) = appVD e.dbis
      rw [del_of_get_none hget]
      refine appVD_congr fun n _ => ?_
      rw [findDbi_setKvs_of_find hd]
      split
      · rename_i hn
        rw [hn, hd]
      · rfl

theorem projVer_ne_nil {o : Option Ver} {v : Bytes} (h : projVer o = some v) : v ≠ [] := by
  cases o with
  | none => cases h
  | some x =>
    simp only [projVer] at h
    split at h
    · cases h
    · rename_i hc
      injection h with h
      rw [← h]
      exact fun h0 => hc (Or.inr h0)

theorem send_env_inv (c : Cfg) (e : Env) (now cutoff : Nat) (r : SendRes)
    (hn : c.native = false) (hro : c.receiveOnly = false)
    (hT : e.lastTxn + 1 < two64) (hnow : now < two64)
    (hinv : EnvInv e) (hclk : ∀ key x, absShadow e key = some x → x.ts < now)
    (h : sendOnce c e now cutoff = .ok r) :
    EnvInv r.env ∧ SnapInv r.snap ∧ Mirrored r.env ∧
    absShadow r.env = capture (absShadow e) (appView e) now ∧
    absSnap r.snap = capture (absShadow e) (appView e) now := by
  obtain ⟨a1, a2, a3, a4, happ, hsh, hsn, hmir, a6, a7⟩ := sendOnce_abs_sh c e now cutoff r hn hro
    hT hnow hinv.sorted hinv.ok hinv.nodup hinv.appne (fun key o v ho _ _ => hclk key o ho) h
  have hlive : NoEmptyLive (absShadow r.env) := hsh ▸ noEmptyLive_capture now hinv.live hinv.appne
  refine ⟨⟨a1, a2, a3, fun n d hp hf => hinv.bytes n d hp (a4 n hp ▸ hf), hlive, happ ▸ hinv.appne⟩,
    ⟨a6, fun m hm _ => ?_, hsn ▸ hsh ▸ hlive⟩, ⟨hmir, hlive⟩, hsh, hsn⟩
  obtain ⟨hp, d, hd, hf⟩ := a7 m hm
  rw [hf]; exact hinv.bytes _ d hp hd

theorem load_env_inv (c : Cfg) (e : Env) (snap : Snap) (lastSynced now : Nat) (r : LoadRes)
    (hn : c.native = false) (hh : c.hack = false) (hcb : CfgByte c)
    (hT : e.lastTxn + 1 < two64) (hnow : now < two64)
    (hinv : EnvInv e) (hsi : SnapInv snap)
    (hclk : ∀ key x, absShadow e key = some x → x.ts < now)
    (hhon : lastSynced < e.lastTxn ∨ Mirrored e)
    (h : loadOnce c e snap lastSynced now 0 = .ok r) :
    EnvInv r.env ∧ Mirrored r.env ∧
    absShadow r.env = (capture (absShadow e) (appView e) now).join (absSnap snap) := by
  obtain ⟨b1, b2, b3, hbytes, b4, b5⟩ := loadOnce_abs_sh (F := fun fl => isIntKey fl = false) c e snap
    lastSynced now r hn hh hT hnow
    hinv.sorted hinv.ok hinv.nodup hsi.ok
    (fun m hm hp => flagsOkSh_of_bytes hcb hinv.ok hinv.bytes hp (hsi.bytes m hm hp))
    (fun _ => hinv.appne) (fun _ key o v ho _ _ => hclk key o ho)
    hinv.bytes (fun m hm hp => createFlags_byte hcb (hsi.bytes m hm hp)) h
  have heq : absShadow r.env = (capture (absShadow e) (appView e) now).join (absSnap snap) := by
    rw [b4]
    split
    · rfl
    · rename_i hl
      rw [capture_of_mirrored now (hhon.resolve_left hl).1]
  have hlive : NoEmptyLive (absShadow r.env) :=
    heq ▸ noEmptyLive_join (noEmptyLive_capture now hinv.live hinv.appne) hsi.live
  exact ⟨⟨b1, b2, b3, hbytes, hlive, fun key v hv => projVer_ne_nil (b5 key ▸ hv)⟩,
    mirrored_of_proj b5 hlive, heq⟩

/-- a byte-level step of a shadow-mode fleet: an application transaction putting one value or
    deleting one key; `sendOnce` at time `now` (cut-off 0; the snapshot goes to the bucket);
    `loadOnce` of the bucket's snapshot number `idx` at time `now` with the given `lastSynced`
    (cut-off 0) -/
inductive SStep where
  | appWrite (i : Nat) (name key val : Bytes)
  | appDelete (i : Nat) (name key : Bytes)
  | send (i : Nat) (now : Nat)
  | load (i : Nat) (idx : Nat) (lastSynced now : Nat)

/-- one step; a failing (or refused) transaction leaves everything as it was, `done` says
    whether it took place -/
def sstepD (c : Cfg) (f : BFleet) : SStep → BFleet × Bool
  | .appWrite i name key val =>
    match appTxn (f.env i) [.put name key val] with
    | some e' => (setEnv f i e', true)
    | none => (f, false)
  | .appDelete i name key =>
    match appTxn (f.env i) [.del name key] with
    | some e' => (setEnv f i e', true)
    | none => (f, false)
  | .send i now =>
    match sendOnce c (f.env i) now 0 with
    | .ok r => ({ setEnv f i r.env with bucket := f.bucket ++ [(i, r.snap)] }, true)
    | .error _ => (f, false)
  | .load i idx lastSynced now =>
    match f.bucket[idx]? with
    | none => (f, false)
    | some p =>
      match loadOnce c (f.env i) p.2 lastSynced now 0 with
      | .ok r => (setEnv f i r.env, true)
      | .error _ => (f, false)

def sstep (c : Cfg) (f : BFleet) (s : SStep) : BFleet := (sstepD c f s).1

def srun (c : Cfg) (f : BFleet) (steps : List SStep) : BFleet := steps.foldl (sstep c) f

/-- **the abstract fleet a shadow-mode byte-level fleet denotes**: every instance holds the
    logical content of its shadows, the bucket the logical content of the snapshots. The
    application's pending writes are not part of it until a capture detects them. -/
def absShadowFleet (f : BFleet) : Abs.Fleet :=
  { n := f.n, db := fun i => absShadow (f.env i), bucket := f.bucket.map (fun p => (p.1, absSnap p.2)) }

/-- the abstract steps a byte-level step that took place denotes: nothing for an application
    transaction (its writes are materialised when the next capture detects them); for `send` and
    `load` the abstract writes of the capture (`capWrites`: exactly the keys the capture stamps,
    with `(now, live, value)` / `(now, deleted, ∅)`), then the abstract `send` / `load` -/
def absStepsShadow (f : BFleet) : SStep → List Abs.Step
  | .appWrite _ _ _ _ => []
  | .appDelete _ _ _ => []
  | .send i now => capWrites i (f.env i) now ++ [.send i]
  | .load i idx _ now => capWrites i (f.env i) now ++ [.load i idx]

/-- **the abstract schedule of a shadow-mode byte-level run** -/
def absRunShadow (c : Cfg) : BFleet → List SStep → List Abs.Step
  | _, [] => []
  | f, s :: rest =>
    (if (sstepD c f s).2 then absStepsShadow f s else []) ++ absRunShadow c (sstep c f s) rest

/-- side conditions of a step (nothing about its success). An application write puts a NON-EMPTY
    value (D7) into a non-private DBI, a delete concerns a non-private DBI. A Lightning Stream
    transaction happens below transaction id 2^64 at a time `now` below 2^64 that is above every
    timestamp stored in the instance's shadows (shared monotone clock). A load is moreover told
    the truth about local changes: the capture runs (`lastSynced < lastTxn`) or the environment
    is `Mirrored` — this is exactly the discipline finding D9 violates. -/
def SStepOk (f : BFleet) : SStep → Prop
  | .appWrite _ name _ val => isPrivate name = false ∧ val ≠ []
  | .appDelete _ name _ => isPrivate name = false
  | .send i now =>
    (f.env i).lastTxn + 1 < two64 ∧ now < two64 ∧ ClockBelow (f.env i) now
  | .load i _ lastSynced now =>
    (f.env i).lastTxn + 1 < two64 ∧ now < two64 ∧ ClockBelow (f.env i) now ∧
    (lastSynced < (f.env i).lastTxn ∨ Mirrored (f.env i))

def SRunOk (c : Cfg) : BFleet → List SStep → Prop
  | _, [] => True
  | f, s :: rest => SStepOk f s ∧ SRunOk c (sstep c f s) rest

/-- the invariant of a shadow-mode byte-level fleet -/
def SInv (f : BFleet) : Prop := (∀ i, EnvInv (f.env i)) ∧ ∀ p ∈ f.bucket, SnapInv p.2

/-- the instance of a Lightning Stream transaction (`send`, `load`) is `Mirrored` in the fleet `f'`
    (nothing is said for an application transaction) -/
def MirroredAfter (f' : BFleet) : SStep → Prop
  | .send i _ => Mirrored (f'.env i)
  | .load i _ _ _ => Mirrored (f'.env i)
  | _ => True

/-- after every Lightning Stream transaction of the run that took place, its instance is
    `Mirrored` -/
def LsMirrored (c : Cfg) : BFleet → List SStep → Prop
  | _, [] => True
  | f, s :: rest =>
    ((sstepD c f s).2 = true → MirroredAfter (sstep c f s) s) ∧ LsMirrored c (sstep c f s) rest

theorem absShadowFleet_setEnv (f : BFleet) (i : Nat) (e : Env) :
    absShadowFleet (setEnv f i e) =
      { absShadowFleet f with db := fun j => if j = i then absShadow e else (absShadowFleet f).db j } := by
  unfold absShadowFleet setEnv
  simp only [Abs.Fleet.mk.injEq, true_and, and_true]
  funext j
  by_cases hj : j = i <;> simp [hj]

/-- an application transaction is invisible in the abstract fleet -/
theorem absShadowFleet_setEnv_same {f : BFleet} {i : Nat} {e : Env} (h : absShadow e = absShadow (f.env i)) :
    absShadowFleet (setEnv f i e) = absShadowFleet f := by
  rw [absShadowFleet_setEnv, h]
  cases f
  simp only [absShadowFleet, Abs.Fleet.mk.injEq, true_and, and_true]
  funext j
  by_cases hj : j = i <;> simp [hj]

theorem setEnv_inv {f : BFleet} {i : Nat} {e : Env} (hinv : SInv f) (he : EnvInv e) :
    SInv (setEnv f i e) := ⟨forall_setEnv hinv.1 i he, hinv.2⟩

theorem absShadowFleet_wf {f : BFleet} (hinv : SInv f) : Abs.FleetWF (absShadowFleet f) := by
  refine ⟨fun i => absShD_wf (hinv.1 i).ok, ?_⟩
  intro p hp
  simp only [absShadowFleet, List.mem_map] at hp
  obtain ⟨q, _, rfl⟩ := hp
  exact absSnap_wf q.2

/-- a Lightning Stream transaction in the abstract fleet: the capture's writes, then `send` or
    `load` on the captured content -/
theorem capWrites_then {e : Env} (hinv : EnvInv e) (i now : Nat)
    (hclk : ∀ key x, absShadow e key = some x → x.ts < now) (F : Abs.Fleet) (hF : F.db i = absShadow e)
    (a : Abs.Step) (ha : ∀ j k v, a ≠ .write j k v) :
    Abs.run F (capWrites i e now ++ [a]) =
      Abs.step { F with db := fun j => if j = i then capture (absShadow e) (appView e) now else F.db j } a ∧
    Abs.StepsWF (capWrites i e now ++ [a]) ∧ Abs.MonotoneFrom F (capWrites i e now ++ [a]) := by
  obtain ⟨hrun, hwf, hmono⟩ := capWrites_run hinv.ok hinv.bytes i now hclk F hF
  refine ⟨by rw [Abs.run_append, hrun]; rfl, (Abs.stepsWF_append _ _).mpr ⟨hwf, fun s hs => ?_⟩,
    (Abs.monotoneFrom_append _ _ _).mpr ⟨hmono, ?_, trivial⟩⟩
  · cases List.mem_singleton.mp hs
    cases a with
    | write j k v => exact absurd rfl (ha j k v)
    | send j => trivial
    | load j idx => trivial
  · cases a with
    | write j k v => exact absurd rfl (ha j k v)
    | send j => trivial
    | load j idx => trivial

theorem sstep_refines (c : Cfg) (hn : c.native = false) (hh : c.hack = false)
    (hro : c.receiveOnly = false) (hcb : CfgByte c)
    (f : BFleet) (s : SStep) (hinv : SInv f) (hok : SStepOk f s) :
    SInv (sstep c f s) ∧
    absShadowFleet (sstep c f s) =
      Abs.run (absShadowFleet f) (if (sstepD c f s).2 then absStepsShadow f s else []) ∧
    Abs.StepsWF (if (sstepD c f s).2 then absStepsShadow f s else []) ∧
    Abs.MonotoneFrom (absShadowFleet f) (if (sstepD c f s).2 then absStepsShadow f s else []) ∧
    ((sstepD c f s).2 = true → MirroredAfter (sstep c f s) s) := by
  have hnone : SInv f ∧ absShadowFleet f = Abs.run (absShadowFleet f) [] ∧ Abs.StepsWF [] ∧
      Abs.MonotoneFrom (absShadowFleet f) [] ∧ (false = true → MirroredAfter f s) :=
    ⟨hinv, rfl, fun _ h => (nomatch h), trivial, fun h => (nomatch h)⟩
  cases s with
  | appWrite i name key val =>
    cases ht : appTxn (f.env i) [.put name key val] with
    | none => simpa only [sstep, sstepD, ht, Bool.false_eq_true, if_false] using hnone
    | some e' =>
      obtain ⟨he, habs⟩ := appPut_env_inv (hinv.1 i) hok.1 hok.2 ht
      simp only [sstep, sstepD, ht, if_true, absStepsShadow]
      rw [absShadowFleet_setEnv_same habs]
      exact ⟨setEnv_inv hinv he, rfl, fun _ h => (nomatch h), trivial, fun _ => trivial⟩
  | appDelete i name key =>
    cases ht : appTxn (f.env i) [.del name key] with
    | none => simpa only [sstep, sstepD, ht, Bool.false_eq_true, if_false] using hnone
    | some e' =>
      obtain ⟨he, habs⟩ := appDel_env_inv (hinv.1 i) hok ht
      simp only [sstep, sstepD, ht, if_true, absStepsShadow]
      rw [absShadowFleet_setEnv_same habs]
      exact ⟨setEnv_inv hinv he, rfl, fun _ h => (nomatch h), trivial, fun _ => trivial⟩
  | send i now =>
    obtain ⟨hT, hnow, hclk⟩ := hok
    have hclk' := shadowAll_abs (hinv.1 i).ok hclk
    cases hs : sendOnce c (f.env i) now 0 with
    | error err => simpa only [sstep, sstepD, hs, Bool.false_eq_true, if_false] using hnone
    | ok r =>
      obtain ⟨he, hsn, hmir, hsh, hsnap⟩ := send_env_inv c (f.env i) now 0 r hn hro hT hnow
        (hinv.1 i) hclk' hs
      obtain ⟨hrun, hwf, hmono⟩ := capWrites_then (hinv.1 i) i now hclk' (absShadowFleet f) rfl
        (.send i) (fun _ _ _ h => nomatch h)
      simp only [sstep, sstepD, hs, if_true, absStepsShadow]
      refine ⟨⟨forall_setEnv hinv.1 i he, fun p hp => ?_⟩, ?_, hwf, hmono, ?_⟩
      · rcases List.mem_append.mp hp with hp | hp
        · exact hinv.2 p hp
        · cases List.mem_singleton.mp hp; exact hsn
      · rw [hrun]
        simp only [absShadowFleet, setEnv, Abs.step, List.map_append, List.map_cons, List.map_nil,
          if_true, hsnap, Abs.Fleet.mk.injEq, true_and, and_true]
        funext j
        split
        · exact hsh
        · rfl
      · simp only [MirroredAfter, setEnv, if_true]; exact fun _ => hmir
  | load i idx lastSynced now =>
    obtain ⟨hT, hnow, hclk, hhon⟩ := hok
    have hclk' := shadowAll_abs (hinv.1 i).ok hclk
    cases hb : f.bucket[idx]? with
    | none => simpa only [sstep, sstepD, hb, Bool.false_eq_true, if_false] using hnone
    | some p =>
      cases hl : loadOnce c (f.env i) p.2 lastSynced now 0 with
      | error err => simpa only [sstep, sstepD, hb, hl, Bool.false_eq_true, if_false] using hnone
      | ok r =>
        obtain ⟨he, hmir, heq⟩ := load_env_inv c (f.env i) p.2 lastSynced now r hn hh hcb hT hnow
          (hinv.1 i) (hinv.2 p (List.mem_of_getElem? hb)) hclk' hhon hl
        obtain ⟨hrun, hwf, hmono⟩ := capWrites_then (hinv.1 i) i now hclk' (absShadowFleet f) rfl
          (.load i idx) (fun _ _ _ h => nomatch h)
        simp only [sstep, sstepD, hb, hl, if_true, absStepsShadow]
        refine ⟨setEnv_inv hinv he, ?_, hwf, hmono, by simp only [MirroredAfter, setEnv, if_true]; exact fun _ => hmir⟩
        have hb' : (absShadowFleet f).bucket[idx]? = some (p.1, absSnap p.2) := by
          simp [absShadowFleet, hb]
        rw [hrun, absShadowFleet_setEnv, heq]
        simp only [Abs.step, hb', if_true, Abs.Fleet.mk.injEq, true_and, and_true]
        funext j
        split <;> rfl

def SnapInvD (s : Snap) : Prop :=
  SnapOk s ∧ (∀ m ∈ s.dbs, isPrivate m.name = false → isIntKey m.flags = false) ∧ SnapLiveNonEmpty s

instance (s : Snap) : Decidable (SnapInvD s) := by unfold SnapInvD; exact inferInstance

/-- decidable form of the side conditions of a step: the honesty condition of a load decided by
    its first alternative (the capture runs) -/
def SStepOkD (f : BFleet) : SStep → Prop
  | .load i _ lastSynced now =>
    (f.env i).lastTxn + 1 < two64 ∧ now < two64 ∧ ClockBelow (f.env i) now ∧
    lastSynced < (f.env i).lastTxn
  | s => SStepOk f s

instance (f : BFleet) (s : SStep) : Decidable (SStepOkD f s) := by
  cases s <;> (simp only [SStepOkD, SStepOk]; exact inferInstance)

def SRunOkD (c : Cfg) : BFleet → List SStep → Prop
  | _, [] => True
  | f, s :: rest => SStepOkD f s ∧ SRunOkD c (sstep c f s) rest

instance decSRunOkD (c : Cfg) : ∀ (f : BFleet) (steps : List SStep), Decidable (SRunOkD c f steps)
  | _, [] => isTrue trivial
  | f, s :: rest => @instDecidableAnd _ _ _ (decSRunOkD c (sstep c f s) rest)

theorem sRunOk_of_decidable {c : Cfg} :
    ∀ {steps : List SStep} {f : BFleet}, SRunOkD c f steps → SRunOk c f steps
  | [], _, _ => trivial
  | s :: _, _, ⟨h, hr⟩ => ⟨by
      cases s with
      | load i idx ls now => exact ⟨h.1, h.2.1, h.2.2.1, Or.inl h.2.2.2⟩
      | _ => exact h, sRunOk_of_decidable hr⟩


end Ls.Txn
