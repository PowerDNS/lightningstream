import LsLemmas.Lww
/-
  Layer D: the abstract fleet. Every instance holds a map from keys to optional versions; the
  bucket holds published images of such maps; merging a snapshot is the pointwise join.
  The byte-level transactions refine these steps (LsProps/C02: merge = join; LsProps/C19: Update
  applies the decision per key; LsProps/C06: a snapshot is the complete image; LsProps/C11 for
  the non-native mirror); the trace-level correspondence ties the real sync loops to them.
-/
namespace Ls.Abs
open Ls

/-- (DBI name, key) -/
abbrev Key := Bytes × Bytes
abbrev DB := Key → Option Ver

def DB.join (a b : DB) : DB := fun k => Ls.join (a k) (b k)
/-- `a ≤ b`: b holds, for every key, a version at least as new as a's -/
def DB.le (a b : DB) : Prop := ∀ k, Ls.join (a k) (b k) = b k
def DB.WF (a : DB) : Prop := ∀ k, OWF (a k)
def DB.empty : DB := fun _ => none

theorem le_refl (a : DB) : a.le a := fun k => join_idem (a k)

theorem empty_wf : DB.empty.WF := fun _ => trivial

theorem empty_le (c : DB) : DB.empty.le c := fun k => join_none_left (c k)

/- `DB.le` is a partial order and `DB.join` its least upper bound for all databases, pointwise from
   the laws of `join`. `le_join_left` … `join_le` further down are the same laws in the form that
   carries the well-formedness of the databases involved. -/

theorem DB.le.trans {a b c : DB} (h1 : a.le b) (h2 : b.le c) : a.le c := fun k => by
  rw [← h2 k, ← join_assoc, h1 k]

theorem DB.le.antisymm {a b : DB} (h1 : a.le b) (h2 : b.le a) : a = b :=
  funext fun k => (h2 k).symm.trans ((join_comm _ _).trans (h1 k))

theorem DB.le_join_left (a b : DB) : a.le (a.join b) := fun k => by
  show Ls.join (a k) (Ls.join (a k) (b k)) = Ls.join (a k) (b k)
  rw [← join_assoc, join_idem]

theorem DB.le_join_right (a b : DB) : b.le (a.join b) := fun k => by
  show Ls.join (b k) (Ls.join (a k) (b k)) = Ls.join (a k) (b k)
  rw [join_comm (a k), ← join_assoc, join_idem]

theorem DB.join_le {a b c : DB} (h1 : a.le c) (h2 : b.le c) : (a.join b).le c := fun k => by
  show Ls.join (Ls.join (a k) (b k)) (c k) = c k
  rw [join_assoc, h2 k, h1 k]

theorem le_join_left {a b : DB} (ha : a.WF) (hb : b.WF) : a.le (a.join b) := DB.le_join_left a b

theorem le_join_right {a b : DB} (ha : a.WF) (hb : b.WF) : b.le (a.join b) := DB.le_join_right a b

theorem le_trans {a b c : DB} (ha : a.WF) (hb : b.WF) (hc : c.WF) (h1 : a.le b) (h2 : b.le c) : a.le c :=
  h1.trans h2

theorem le_antisymm {a b : DB} (ha : a.WF) (hb : b.WF) (h1 : a.le b) (h2 : b.le a) : a = b :=
  h1.antisymm h2

theorem join_wf' {a b : DB} (ha : a.WF) (hb : b.WF) : (a.join b).WF := fun k => join_wf (ha k) (hb k)

theorem join_le {a b c : DB} (ha : a.WF) (hb : b.WF) (hc : c.WF) (h1 : a.le c) (h2 : b.le c) :
    (a.join b).le c := DB.join_le h1 h2

theorem foldl_join_wf {l : List DB} {d : DB} (hd : d.WF) (hl : ∀ x ∈ l, x.WF) :
    (l.foldl DB.join d).WF := by
  induction l generalizing d with
  | nil => exact hd
  | cons y ys ih =>
    exact ih (join_wf' hd (hl y (List.mem_cons_self ..))) (fun x hx => hl x (List.mem_cons_of_mem _ hx))

/-- a left fold of `join` is the least upper bound of its start value and the list -/
theorem foldl_join_lub (l : List DB) (d : DB) :
    d.le (l.foldl DB.join d) ∧ (∀ x ∈ l, x.le (l.foldl DB.join d)) ∧
    ∀ c : DB, d.le c → (∀ x ∈ l, x.le c) → (l.foldl DB.join d).le c := by
  induction l generalizing d with
  | nil => exact ⟨le_refl d, fun _ h => absurd h List.not_mem_nil, fun _ h _ => h⟩
  | cons y ys ih =>
    obtain ⟨h0, h1, h2⟩ := ih (d.join y)
    refine ⟨(DB.le_join_left d y).trans h0, ?_, fun c hd hc => ?_⟩
    · intro x hx
      rcases List.mem_cons.mp hx with rfl | hx
      · exact (DB.le_join_right d x).trans h0
      · exact h1 x hx
    · exact h2 c (DB.join_le hd (hc y (List.mem_cons_self ..))) (fun x hx => hc x (List.mem_cons_of_mem _ hx))

/-- a fleet: instance databases and the bucket (instance id, published image), oldest first -/
structure Fleet where
  n : Nat
  db : Nat → DB
  bucket : List (Nat × DB)

/-- the newest snapshot of an instance -/
def newest (b : List (Nat × DB)) (j : Nat) : Option DB :=
  ((b.filter (·.1 = j)).getLast?).map (·.2)

inductive Step where
  | write (i : Nat) (k : Key) (v : Ver)     -- the application at i commits a version (any)
  | send (i : Nat)                           -- i uploads the image of its database
  | load (i : Nat) (idx : Nat)               -- i merges ANY snapshot of the bucket (not only newest)

/-- overwrite one key -/
def upd (d : DB) (k : Key) (v : Ver) : DB := fun k' => if k' = k then some v else d k'

theorem upd_same (d : DB) (k : Key) (v : Ver) : upd d k v k = some v := by simp [upd]
theorem upd_other (d : DB) (k k' : Key) (v : Ver) (h : k' ≠ k) : upd d k v k' = d k' := by simp [upd, h]

theorem upd_wf {d : DB} (hd : d.WF) {v : Ver} (hv : v.WF) (k : Key) : (upd d k v).WF := by
  intro k'
  by_cases hk : k' = k
  · subst hk; rw [upd_same]; exact hv
  · rw [upd_other _ _ _ _ hk]; exact hd k'

/-- a monotone application write only grows the database -/
theorem le_upd {d : DB} {k : Key} {v : Ver} (hm : join (d k) (some v) = some v) :
    d.le (upd d k v) := by
  intro k'
  by_cases hk : k' = k
  · subst hk; rw [upd_same]; exact hm
  · rw [upd_other _ _ _ _ hk]; exact join_idem _

def step (f : Fleet) : Step → Fleet
  | .write i k v => { f with db := fun j => if j = i then upd (f.db i) k v else f.db j }
  | .send i => { f with bucket := f.bucket ++ [(i, f.db i)] }
  | .load i idx =>
    match f.bucket[idx]? with
    | none => f
    | some (_, s) => { f with db := fun j => if j = i then (f.db i).join s else f.db j }

def run (f : Fleet) (steps : List Step) : Fleet := steps.foldl step f

theorem run_append (f : Fleet) (a b : List Step) : run f (a ++ b) = run (run f a) b :=
  List.foldl_append ..

def init (n : Nat) : Fleet := { n := n, db := fun _ => DB.empty, bucket := [] }

/-- all versions the applications wrote are well-formed (deleted ⇒ no value) -/
def StepsWF (steps : List Step) : Prop :=
  ∀ s ∈ steps, match s with | .write _ _ v => v.WF | _ => True

def FleetWF (f : Fleet) : Prop := (∀ i, (f.db i).WF) ∧ ∀ p ∈ f.bucket, p.2.WF

theorem FleetWF.setDb {f : Fleet} (hf : FleetWF f) (i : Nat) {d : DB} (hd : d.WF) :
    FleetWF { f with db := fun j => if j = i then d else f.db j } := by
  refine ⟨fun j => ?_, hf.2⟩
  show (if j = i then d else f.db j).WF
  split
  · exact hd
  · exact hf.1 j

theorem step_wf {f : Fleet} {s : Step} (hf : FleetWF f)
    (hs : match s with | .write _ _ v => v.WF | _ => True) : FleetWF (step f s) := by
  cases s with
  | write i k v =>
    refine hf.setDb i fun k' => ?_
    unfold upd
    split
    · exact hs
    · exact hf.1 i k'
  | send i =>
    refine ⟨hf.1, fun p hp => ?_⟩
    rcases List.mem_append.mp hp with hp | hp
    · exact hf.2 p hp
    · rw [List.mem_singleton.mp hp]; exact hf.1 i
  | load i idx =>
    simp only [step]
    split
    · exact hf
    · rename_i hget
      exact hf.setDb i (join_wf' (hf.1 i) (hf.2 _ (List.mem_of_getElem? hget)))

theorem run_wf {f : Fleet} {steps : List Step} (hf : FleetWF f) (hs : StepsWF steps) :
    FleetWF (run f steps) := by
  induction steps generalizing f with
  | nil => exact hf
  | cons s rest ih =>
    simp only [run, List.foldl_cons]
    exact ih (step_wf hf (hs s (by simp))) (fun s' h' => hs s' (by simp [h']))

theorem init_wf (n : Nat) : FleetWF (init n) :=
  ⟨fun _ _ => trivial, fun _ h => by simp [init] at h⟩

/-- quiescent: every instance's newest snapshot is exactly its database (nothing unpublished)
    and every instance has merged every other instance's newest snapshot -/
def Quiescent (f : Fleet) : Prop :=
  ∀ j, j < f.n → ∃ s, newest f.bucket j = some s ∧ s = f.db j ∧ ∀ i, i < f.n → s.le (f.db i)

end Ls.Abs
