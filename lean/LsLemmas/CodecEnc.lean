import LsLemmas.Wire
import LsModel.Codec
/-
  The encoder writes exactly the concatenation of its fields: the size computation of
  DBI.Append is exact (no panic, no stale bytes), the 1000-byte field buffer of doFlushFields
  suffices for names ≤ 511 and transforms ≤ 64 bytes, Meta.Marshal's buffer estimate is safe.
-/
namespace Ls.Codec
open Ls Ls.Wire

/-- the fields of one KV message, as written -/
def kvBytes (kv : KV) : Bytes :=
  (if kv.key.length > 0 then encodeTag Gen.fieldKVKey wtLen ++ encodeVarint kv.key.length ++ kv.key else [])
  ++ (if kv.val.length > 0 then encodeTag Gen.fieldKVValue wtLen ++ encodeVarint kv.val.length ++ kv.val else [])
  ++ (if kv.flags > 0 then encodeTag Gen.fieldKVFlags wtVarint ++ encodeVarint kv.flags else [])
  ++ (if kv.ts > 0 then encodeTag Gen.fieldKVTimestampNano wtFixed64 ++ le64 kv.ts else [])

/-- one `entries` field of a DBI message (nothing at all for an entirely empty entry) -/
def entryBytes (kv : KV) : Bytes :=
  if (kvBytes kv).length = 0 then []
  else encodeTag Gen.fieldDBIEntries wtLen ++ encodeVarint (kvBytes kv).length ++ kvBytes kv

def hdrBytes (h : DBIHdr) : Bytes :=
  (if h.name.length > 0 then encodeTag Gen.fieldDBIName wtLen ++ encodeVarint h.name.length ++ h.name else [])
  ++ (if h.flags > 0 then encodeTag Gen.fieldDBIFlags wtVarint ++ encodeVarint h.flags else [])
  ++ (if h.transform.length > 0 then encodeTag Gen.fieldDBITransform wtLen ++ encodeVarint h.transform.length ++ h.transform else [])

def entriesBytes : List KV → Bytes
  | [] => []
  | kv :: kvs => entryBytes kv ++ entriesBytes kvs

def dbiBytes (d : DBI') : Bytes :=
  hdrBytes { name := d.name, flags := d.flags, transform := d.transform } ++ entriesBytes d.entries

def dbisBytes : List DBI' → Bytes
  | [] => []
  | d :: ds => lenField Gen.fieldSnapshotDBI (dbiBytes d) ++ dbisBytes ds

def snapBytes (s : Snapshot') : Bytes :=
  varintField Gen.fieldSnapshotFormatVersion s.formatVersion
  ++ varintField Gen.fieldSnapshotCompatVersion s.compatVersion
  ++ lenField Gen.fieldSnapshotMeta (metaMarshal s.info)
  ++ dbisBytes s.dbis

/-- A piece of an encoder as a function of what follows it (the encoders are `do` blocks with
    join points, i.e. in this form): started on a buffer with room for `f` under the capacity
    `cap`, it appends exactly `f` and goes on. -/
def Seg (cap : Nat) (A : (Bytes → Outcome Bytes) → Bytes → Outcome Bytes) (f : Bytes) : Prop :=
  ∀ K w, w.length + f.length ≤ cap → A K w = K (w ++ f)

theorem Seg.putB (cap : Nat) (bs : Bytes) : Seg cap (fun K w => putB cap w bs >>= K) bs := by
  intro K w h
  show (Codec.putB cap w bs >>= K) = _
  unfold Codec.putB; rw [if_neg (by omega)]; rfl

theorem Seg.putCopy (cap : Nat) (s : Bytes) : Seg cap (fun K w => .ok (putCopy cap w s) >>= K) s := by
  intro K w h
  show K (Codec.putCopy cap w s) = _
  unfold Codec.putCopy; rw [List.take_of_length_le (by omega)]

theorem Seg.seq {cap : Nat} {A B : (Bytes → Outcome Bytes) → Bytes → Outcome Bytes} {fa fb : Bytes}
    (ha : Seg cap A fa) (hb : Seg cap B fb) : Seg cap (fun K => A (B K)) (fa ++ fb) := by
  intro K w h
  rw [List.length_append] at h
  show A (B K) w = _
  rw [ha _ w (by omega), hb _ _ (by rw [List.length_append]; omega), List.append_assoc]

/-- an optional field: `if c then … else pure w`, both branches running into the join point -/
theorem Seg.opt {cap : Nat} {A : (Bytes → Outcome Bytes) → Bytes → Outcome Bytes} {f : Bytes}
    (c : Prop) [Decidable c] (h : Seg cap A f) :
    Seg cap (fun K w => if c then A K w else .ok w >>= K) (if c then f else []) := by
  intro K w hw
  show (if c then A K w else K w) = _
  split
  · rw [if_pos ‹c›] at hw; exact h K w hw
  · rw [List.append_nil]

theorem length_ite_nil (c : Prop) [Decidable c] (l : Bytes) :
    (if c then l else []).length = if c then l.length else 0 := by
  split <;> rfl

theorem length_ite_le (c : Prop) [Decidable c] {l : Bytes} {n : Nat} (h : l.length ≤ n) :
    (if c then l else []).length ≤ n := by
  split
  · exact h
  · exact Nat.zero_le n

theorem varintFieldBytes_length_le (tag wt v : Nat) (ht : tag ≤ 15) (hw : wt ≤ 7) :
    (encodeTag tag wt ++ encodeVarint v).length ≤ 11 := by
  have := encodeVarint_length_le v
  rw [List.length_append, encodeTag_length_small tag wt ht hw]; omega

theorem lenFieldBytes_length_le (tag : Nat) (x : Bytes) (ht : tag ≤ 15) :
    (encodeTag tag wtLen ++ encodeVarint x.length ++ x).length ≤ x.length + 11 := by
  have := varintFieldBytes_length_le tag wtLen x.length ht (by decide)
  rw [List.length_append]; omega

/-- value ranges of the Go types of an entry -/
def KVRange (kv : KV) : Prop :=
  kv.key.length < two64 ∧ kv.val.length < two64 ∧ kv.flags < two32 ∧ kv.ts < two64

theorem kvMsgSize_eq (kv : KV) (hr : KVRange kv) : kvMsgSize kv = (kvBytes kv).length := by
  obtain ⟨h1, h2, h3, -⟩ := hr
  have h3' : kv.flags < two64 := Nat.lt_trans h3 (by decide)
  have t : ∀ f wt, f ≤ 15 → wt ≤ 7 → (encodeTag f wt).length = Gen.tagSize0To15 := encodeTag_length_small
  unfold kvMsgSize kvBytes
  simp only [List.length_append, length_ite_nil, sizeOfVarint_eq _ h1, sizeOfVarint_eq _ h2,
    sizeOfVarint_eq _ h3', le64_length,
    t Gen.fieldKVKey wtLen (by decide) (by decide), t Gen.fieldKVValue wtLen (by decide) (by decide),
    t Gen.fieldKVFlags wtVarint (by decide) (by decide),
    t Gen.fieldKVTimestampNano wtFixed64 (by decide) (by decide)]

/-- `DBI.Append` writes exactly one `entries` field: the size computed in advance is the size
    written (no index out of range, no unwritten tail) -/
theorem dbiAppend_eq (data : Bytes) (kv : KV) (hr : KVRange kv) (hsz : (kvBytes kv).length < two64) :
    dbiAppend data kv = .ok (data ++ entryBytes kv) := by
  have hms := kvMsgSize_eq kv hr
  unfold entryBytes
  rw [← hms] at hsz ⊢
  by_cases h0 : kvMsgSize kv = 0
  · rw [if_pos h0, List.append_nil]; exact if_pos h0
  · -- `W` follows the `do` block of `dbiAppend` write by write (`seq` = next statement, `opt` = `if`);
    -- Lean finds the strings from `kvBytes` and the function from the rules, and the final `exact`
    -- checks that function against the desugared `do` block by unfolding
    have W : Seg (Gen.tagSize0To15 + sizeOfVarint (kvMsgSize kv) + kvMsgSize kv) _
        (encodeTag Gen.fieldDBIEntries wtLen ++ encodeVarint (kvMsgSize kv) ++ kvBytes kv) :=
      .seq (.seq (.putB _ _) (.putB _ _)) <|
        .seq (.seq (.seq
          (.opt _ <| .seq (.seq (.putB _ _) (.putB _ _)) (.putCopy _ _))
          (.opt _ <| .seq (.seq (.putB _ _) (.putB _ _)) (.putCopy _ _)))
          (.opt _ <| .seq (.putB _ _) (.putB _ _)))
          (.opt _ <| .seq (.putB _ _) (.putB _ _))
    have hcap : Gen.tagSize0To15 + sizeOfVarint (kvMsgSize kv) + kvMsgSize kv
        = (encodeTag Gen.fieldDBIEntries wtLen ++ encodeVarint (kvMsgSize kv) ++ kvBytes kv).length := by
      rw [List.length_append, List.length_append, sizeOfVarint_eq _ hsz,
        encodeTag_length_small _ _ (by decide) (by decide), ← hms]; rfl
    rw [if_neg h0]
    -- the model's `if`, then `W` run on the empty buffer, then: the capacity is exact, no zero tail
    refine (if_neg h0).trans ((W _ [] ?_).trans (congrArg Outcome.ok ?_))
    · rw [hcap]; exact Nat.le_of_eq (Nat.zero_add _)
    · rw [hcap, List.nil_append, Nat.sub_self, List.replicate_zero, List.append_nil]

/-- `doFlushFields`: with a name of at most 511 bytes (LMDB's limit) and a transform of at most
    64 bytes the fixed 1000-byte buffer is never exceeded and nothing is truncated -/
theorem flushFields_eq (h : DBIHdr) (hn : h.name.length ≤ 511) (ht : h.transform.length ≤ 64) :
    flushFields h = .ok (hdrBytes h) := by
  have W : Seg 1000 _ (hdrBytes h) :=
    .seq (.seq
      (.opt _ <| .seq (.seq (.putB _ _) (.putB _ _)) (.putCopy _ _))
      (.opt _ <| .seq (.putB _ _) (.putB _ _)))
      (.opt _ <| .seq (.seq (.putB _ _) (.putB _ _)) (.putCopy _ _))
  refine (W _ [] ?_).trans (by rw [List.nil_append])
  have l1 := length_ite_le (h.name.length > 0) (lenFieldBytes_length_le Gen.fieldDBIName h.name (by decide))
  have l2 := length_ite_le (h.flags > 0)
    (varintFieldBytes_length_le Gen.fieldDBIFlags wtVarint h.flags (by decide) (by decide))
  have l3 := length_ite_le (h.transform.length > 0)
    (lenFieldBytes_length_le Gen.fieldDBITransform h.transform (by decide))
  unfold hdrBytes
  rw [List.length_append, List.length_append, List.length_nil]
  omega

theorem entryBytes_size (kv : KV) : (entryBytes kv).length ≤ 11 + (kvBytes kv).length := by
  have := lenFieldBytes_length_le Gen.fieldDBIEntries (kvBytes kv) (by decide)
  unfold entryBytes
  split
  · exact Nat.zero_le _
  · omega

theorem appendAll_eq : ∀ (kvs : List KV) (data : Bytes),
    (∀ kv ∈ kvs, KVRange kv ∧ (kvBytes kv).length < two64) →
    appendAll data kvs = .ok (data ++ entriesBytes kvs)
  | [], data, _ => by simp [appendAll, entriesBytes]
  | kv :: kvs, data, h => by
    unfold appendAll
    have hkv := h kv (by simp)
    rw [dbiAppend_eq data kv hkv.1 hkv.2]
    simp only [bind_ok]
    rw [appendAll_eq kvs _ (fun kv' hk' => h kv' (by simp [hk']))]
    simp [entriesBytes, List.append_assoc]

/-- range and size conditions of one DBI (Go types; LMDB's name limit; transform ≤ 64) -/
def DBIRange (d : DBI') : Prop :=
  d.name.length ≤ 511 ∧ d.transform.length ≤ 64 ∧ d.flags < two64 ∧
  ∀ kv ∈ d.entries, KVRange kv ∧ (kvBytes kv).length < two64

theorem dbiMarshal_eq (d : DBI') (hr : DBIRange d) : dbiMarshal d = .ok (dbiBytes d) := by
  unfold dbiMarshal dbiBytes
  rw [flushFields_eq _ hr.1 hr.2.1]
  simp only [bind_ok]
  exact appendAll_eq d.entries _ hr.2.2.2

theorem writeDBIs_eq : ∀ (ds : List DBI'), (∀ d ∈ ds, DBIRange d) → writeDBIs ds = .ok (dbisBytes ds)
  | [], _ => rfl
  | d :: ds, h => by
    unfold writeDBIs
    rw [dbiMarshal_eq d (h d (by simp)), writeDBIs_eq ds (fun d' hd' => h d' (by simp [hd']))]
    rfl

theorem encode_eq (s : Snapshot') (h : ∀ d ∈ s.dbis, DBIRange d) : encode s = .ok (snapBytes s) := by
  unfold encode snapBytes
  rw [writeDBIs_eq s.dbis h]
  rfl

theorem strField_length_le (tag : Nat) (x : Bytes) (ht : tag ≤ 15) : (strField tag x).length ≤ x.length + 11 :=
  length_ite_le _ (lenFieldBytes_length_le tag x ht)

theorem metaMarshal_fits (m : Meta) : (metaMarshal m).length ≤ metaBufSize m := by
  have s1 := strField_length_le Gen.fieldMetaGenerationID m.generationID (by decide)
  have s2 := strField_length_le Gen.fieldMetaInstanceID m.instanceID (by decide)
  have s3 := strField_length_le Gen.fieldMetaHostname m.hostname (by decide)
  have s4 := strField_length_le Gen.fieldMetaDatabaseName m.databaseName (by decide)
  have v4 := length_ite_le (m.lmdbTxnID > 0) (varintFieldBytes_length_le Gen.fieldMetaLMDBTxnID wtVarint
    (toUInt64 m.lmdbTxnID) (by decide) (by decide))
  have v5 := length_ite_le (m.timestampNano > 0) (l := encodeTag Gen.fieldMetaTimestampNano wtFixed64 ++ le64 m.timestampNano)
    (n := 9) (by rw [List.length_append, le64_length, encodeTag_length_small _ _ (by decide) (by decide)]; decide)
  have v8 := length_ite_le (m.fromLmdbTxnID > 0) (varintFieldBytes_length_le Gen.fieldMetaFromLMDBTxnID wtVarint
    (toUInt64 m.fromLmdbTxnID) (by decide) (by decide))
  unfold metaMarshal metaBufSize
  simp only [List.length_append]
  omega

end Ls.Codec
