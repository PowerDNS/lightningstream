import LsLemmas.Bytes
import LsModel.Ver
/-
  The last-writer-wins order and the join. `Ver.beats` is the lexicographic order on (timestamp,
  value reversed, deleted flag), hence a strict total order on ALL versions; `Ver.max` and `join`
  are idempotent, commutative and associative without any well-formedness assumption.
  Well-formedness (`Ver.WF`, `OWF`) is only preserved by them.
-/
namespace Ls
namespace Ver

theorem beats_irrefl (a : Ver) : ¬ a.beats a := by
  intro h
  rcases h with h | ⟨_, h | ⟨_, h1, h2⟩⟩
  · omega
  · exact bytes_lt_irrefl _ h
  · rw [h1] at h2; cases h2

theorem beats_trans {a b c : Ver} (h1 : a.beats b) (h2 : b.beats c) : a.beats c := by
  rcases h1 with h1 | ⟨t1, h1⟩
  · rcases h2 with h2 | ⟨t2, _⟩
    · exact Or.inl (by omega)
    · exact Or.inl (by omega)
  · rcases h2 with h2 | ⟨t2, h2⟩
    · exact Or.inl (by omega)
    · refine Or.inr ⟨by omega, ?_⟩
      rcases h1 with h1 | ⟨v1, d1, d1'⟩ <;> rcases h2 with h2 | ⟨v2, d2, d2'⟩
      · exact Or.inl (bytes_lt_trans h1 h2)
      · exact Or.inl (v2 ▸ h1)
      · exact Or.inl (v1 ▸ h2)
      · rw [d1'] at d2; cases d2

theorem beats_asymm {a b : Ver} (h : a.beats b) : ¬ b.beats a :=
  fun h' => beats_irrefl a (beats_trans h h')

theorem eq_of_fields {a b : Ver} (h1 : a.ts = b.ts) (h2 : a.val = b.val) (h3 : a.del = b.del) :
    a = b := by
  cases a
  cases b
  exact (Ver.mk.injEq ..).mpr ⟨h1, h3, h2⟩

/-- any two distinct versions are comparable -/
theorem beats_total (a b : Ver) : a = b ∨ a.beats b ∨ b.beats a := by
  rcases Nat.lt_trichotomy a.ts b.ts with h | h | h
  · exact Or.inr (Or.inr (Or.inl h))
  · rcases bytes_trichotomy a.val b.val with hv | hv | hv
    · exact Or.inr (Or.inl (Or.inr ⟨h, Or.inl hv⟩))
    · cases hda : a.del <;> cases hdb : b.del
      · exact Or.inl (eq_of_fields h hv (hda.trans hdb.symm))
      · exact Or.inr (Or.inr (Or.inr ⟨h.symm, Or.inr ⟨hv.symm, hdb, hda⟩⟩))
      · exact Or.inr (Or.inl (Or.inr ⟨h, Or.inr ⟨hv, hda, hdb⟩⟩))
      · exact Or.inl (eq_of_fields h hv (hda.trans hdb.symm))
    · exact Or.inr (Or.inr (Or.inr ⟨h.symm, Or.inl hv⟩))
  · exact Or.inr (Or.inl (Or.inl h))

/-- the non-strict order "`c` does not beat `a`" is transitive -/
theorem not_beats_trans {a b c : Ver} (h1 : ¬ b.beats a) (h2 : ¬ c.beats b) : ¬ c.beats a := by
  intro h3
  rcases beats_total a b with h | h | h
  · exact h2 (h ▸ h3)
  · rcases beats_total b c with h' | h' | h'
    · exact h1 (h' ▸ h3)
    · exact beats_asymm (beats_trans h h') h3
    · exact h2 h'
  · exact h1 h

theorem max_idem (a : Ver) : a.max a = a := if_neg (beats_irrefl a)

theorem max_comm (a b : Ver) : a.max b = b.max a := by
  unfold Ver.max
  rcases beats_total a b with h | h | h
  · rw [h]
  · rw [if_neg (beats_asymm h), if_pos h]
  · rw [if_pos h, if_neg (beats_asymm h)]

theorem max_eq_or (a b : Ver) : a.max b = a ∨ a.max b = b := by
  unfold Ver.max; split <;> simp

theorem max_assoc (a b c : Ver) : (a.max b).max c = a.max (b.max c) := by
  unfold Ver.max
  by_cases h1 : b.beats a <;> by_cases h2 : c.beats b <;> simp only [h1, h2, if_true, if_false]
  · rw [if_pos (beats_trans h2 h1)]
  · rw [if_neg (not_beats_trans h1 h2)]

end Ver

/-- well-formedness of an optional version: absent, or deleted ⇒ no value -/
def OWF : Option Ver → Prop
  | none => True
  | some v => v.WF

theorem join_none_left (b : Option Ver) : join none b = b := by cases b <;> rfl
theorem join_none_right (a : Option Ver) : join a none = a := by cases a <;> rfl

theorem join_idem (a : Option Ver) : join a a = a := by
  cases a with
  | none => rfl
  | some a => exact congrArg some (Ver.max_idem a)

theorem join_comm : ∀ a b : Option Ver, join a b = join b a
  | none, none | none, some _ | some _, none => rfl
  | some a, some b => congrArg some (Ver.max_comm a b)

theorem join_assoc : ∀ a b c : Option Ver, join (join a b) c = join a (join b c)
  | none, _, _ => by rw [join_none_left, join_none_left]
  | some _, none, _ => by rw [join_none_right, join_none_left]
  | some _, some _, none => by rw [join_none_right, join_none_right]
  | some a, some b, some c => congrArg some (Ver.max_assoc a b c)

theorem join_cases : ∀ a b : Option Ver, join a b = a ∨ join a b = b
  | none, _ => Or.inr (join_none_left _)
  | some _, none => Or.inl rfl
  | some a, some b => (Ver.max_eq_or a b).imp (congrArg some) (congrArg some)

theorem join_wf {a b : Option Ver} (ha : OWF a) (hb : OWF b) : OWF (join a b) := by
  rcases join_cases a b with h | h <;> rw [h] <;> assumption

/-- merging what is already in is a no-op -/
theorem join_absorb (o a : Option Ver) : join (join o a) a = join o a := by
  rw [join_assoc, join_idem]

/-- the join of a stored version with a list of versions, in list order -/
def joinAll (o : Option Ver) (l : List Ver) : Option Ver := l.foldl (fun acc v => join acc (some v)) o

theorem joinAll_wf {o : Option Ver} {l : List Ver} (ho : OWF o) (hl : ∀ v ∈ l, v.WF) : OWF (joinAll o l) := by
  induction l generalizing o with
  | nil => exact ho
  | cons x xs ih =>
    exact ih (join_wf ho (hl x (List.mem_cons_self ..))) (fun v hv => hl v (List.mem_cons_of_mem _ hv))

/-- the result of joining a list of versions does not depend on their order -/
theorem joinAll_eq_of_perm (o : Option Ver) {l1 l2 : List Ver} (hp : l1.Perm l2) :
    joinAll o l1 = joinAll o l2 :=
  hp.foldl_eq' (fun x _ y _ z => by rw [join_assoc, join_assoc, join_comm (some x)]) o

theorem joinAll_perm {o : Option Ver} {l1 l2 : List Ver} (hp : l1.Perm l2) (ho : OWF o)
    (hl : ∀ v ∈ l1, v.WF) : joinAll o l1 = joinAll o l2 := joinAll_eq_of_perm o hp

/-- joining a list into a stored version = joining the stored version with the join of the list -/
theorem joinAll_eq_join (o : Option Ver) (l : List Ver) : joinAll o l = join o (joinAll none l) := by
  induction l generalizing o with
  | nil => exact (join_none_right o).symm
  | cons x xs ih =>
    show joinAll (join o (some x)) xs = join o (joinAll (join none (some x)) xs)
    rw [ih, ih (join none (some x)), join_none_left, join_assoc]

end Ls
