import LsLemmas.SweeperDefs
/-
  The tomb sweeper, one slice: `expired`, `startAt` (the resume rule of the LimitScanner), `scan` /
  `slice` as an explicit function of the DBI content, and what a slice does to the binding of a key.
-/
namespace Ls.Sweeper
open Ls Ls.Lmdb Ls.Txn

theorem isExpired_iff (cutoff : Nat) (v : Bytes) :
    IsExpired cutoff v ↔
      ∃ h rest, Header.parse v = .ok (h, rest) ∧ Header.isDeleted h.flags = true ∧ h.ts < cutoff := by
  unfold IsExpired expired
  cases hp : Header.parse v with
  | error e => exact ⟨fun h => (by cases h), fun ⟨_, _, h, _⟩ => by cases h⟩
  | ok x =>
    refine ⟨fun hx => ⟨x.1, x.2, rfl, by simpa using hx⟩, ?_⟩
    rintro ⟨_, _, hp', hd, ht⟩
    cases hp'
    simp [hd, ht]

theorem expired_ok {cutoff : Nat} {v : Bytes} {b : Bool} (h : expired cutoff v = .ok b) :
    Parses v ∧ decide (IsExpired cutoff v) = b := by
  refine ⟨?_, by cases b <;> simp [IsExpired, h]⟩
  unfold expired at h
  split at h
  · cases h
  · exact ⟨_, _, ‹_›⟩

theorem expired_error {cutoff : Nat} {v : Bytes} {e : Err} (h : expired cutoff v = .error e) :
    e = .header ∧ ¬ Parses v := by
  unfold expired at h
  split at h
  · rename_i hp
    cases h
    exact ⟨rfl, fun ⟨_, _, hp'⟩ => by rw [hp] at hp'; cases hp'⟩
  · cases h

/-- the binding `g` of a key after the sweeper has been at work, against its binding `g0` before:
    the same, or an expired marker removed -/
def SameOrSwept (cutoff : Nat) (g0 g : Option Bytes) : Prop :=
  g = g0 ∨ ∃ v, g0 = some v ∧ IsExpired cutoff v ∧ g = none

theorem SameOrSwept.refl (cutoff : Nat) (g : Option Bytes) : SameOrSwept cutoff g g := .inl rfl

theorem SameOrSwept.of_none {cutoff : Nat} {g : Option Bytes} (h : SameOrSwept cutoff none g) : g = none := by
  rcases h with h | ⟨_, h, _⟩
  · exact h
  · cases h

theorem SameOrSwept.trans {cutoff : Nat} {a b c : Option Bytes} (h1 : SameOrSwept cutoff a b) (h2 : SameOrSwept cutoff b c) :
    SameOrSwept cutoff a c := by
  rcases h1 with rfl | ⟨v, ha, hv, rfl⟩
  · exact h2
  · exact .inr ⟨v, ha, hv, h2.of_none⟩

theorem sameOrSwept_filter (cutoff : Nat) (g : Option Bytes) :
    SameOrSwept cutoff g (g.filter fun v => !decide (IsExpired cutoff v)) := by
  cases g with
  | none => exact .refl ..
  | some v =>
    by_cases hv : IsExpired cutoff v
    · exact .inr ⟨v, rfl, hv, by simp [Option.filter, hv]⟩
    · exact .inl (by simp [Option.filter, hv])

theorem SameOrSwept.eq_filter {cutoff : Nat} {g0 g : Option Bytes} (h : SameOrSwept cutoff g0 g)
    (hc : ∀ v, g0 = some v → IsExpired cutoff v → g = none) :
    g = g0.filter fun v => !decide (IsExpired cutoff v) := by
  rcases h with rfl | ⟨v, rfl, hv, rfl⟩
  · cases g with
    | none => rfl
    | some v =>
      by_cases hv : IsExpired cutoff v
      · cases hc v rfl hv
      · simp [Option.filter, hv]
  · simp [Option.filter, hv]

theorem Sorted.sublist {ik : Bool} {l db : KVs} (hs : Sorted ik db) (h : l.Sublist db) : Sorted ik l :=
  List.Pairwise.sublist h hs

theorem get_some_of_sublist {ik : Bool} {l db : KVs} {k v : Bytes} (hs : Sorted ik db) (h : l.Sublist db)
    (hg : get ik l k = some v) : get ik db k = some v := by
  obtain ⟨k', hm, hk⟩ := get_some_mem hg
  exact (get_eq_some_iff hs).mpr ⟨k', h.subset hm, hk⟩

/-- in a sorted list, two stored pairs with equivalent keys are the same pair -/
theorem mem_unique {ik : Bool} {db : KVs} (hs : Sorted ik db) {p q : Bytes × Bytes}
    (hp : p ∈ db) (hq : q ∈ db) (h : kcmp ik p.1 q.1 = 0) : p = q := by
  induction db with
  | nil => cases hp
  | cons x rest ih =>
    have ⟨h1, h2⟩ := sorted_cons.mp hs
    rcases List.mem_cons.mp hp with rfl | hp' <;> rcases List.mem_cons.mp hq with rfl | hq'
    · rfl
    · have := h1 q hq'; omega
    · have := h1 p hp'; have := (kcmp_eq_comm ik p.1 q.1).mp h; omega
    · exact ih h2 hp' hq'

section
variable {ik : Bool}

theorem get_filter_keep {T : KVs} (hs : Sorted ik T) (cutoff : Nat) (k : Bytes) :
    get ik (T.filter (keep cutoff)) k = (get ik T k).filter (fun v => !decide (IsExpired cutoff v)) :=
  get_filter_val hs (fun v => !decide (IsExpired cutoff v)) k

theorem startAt_suffix (ik : Bool) (db : KVs) (last : Option (Bytes × Bytes)) :
    ∃ pre, db = pre ++ startAt ik db last := by
  cases last with
  | none => exact ⟨[], rfl⟩
  | some l =>
    simp only [startAt]
    have h := List.takeWhile_append_dropWhile (p := fun kv : Bytes × Bytes => decide (kcmp ik kv.1 l.1 < 0)) (l := db)
    generalize db.dropWhile _ = rest at h ⊢
    generalize db.takeWhile _ = tk at h
    cases rest with
    | nil => exact ⟨db, by simp⟩
    | cons p tl =>
      dsimp only
      split
      · exact ⟨tk ++ [p], by rw [← h]; simp⟩
      · exact ⟨tk, h.symm⟩

theorem startAt_sublist (ik : Bool) (db : KVs) (last : Option (Bytes × Bytes)) :
    (startAt ik db last).Sublist db := by
  obtain ⟨pre, h⟩ := startAt_suffix ik db last
  conv => rhs; rw [h]
  exact List.sublist_append_right _ _

theorem startAt_cons_lt {p : Bytes × Bytes} {db : KVs} {lk lv : Bytes}
    (h : kcmp ik p.1 lk < 0) : startAt ik (p :: db) (some (lk, lv)) = startAt ik db (some (lk, lv)) := by
  simp only [startAt, List.dropWhile_cons, h, decide_true, if_true]

theorem startAt_cons_ge {p : Bytes × Bytes} {db : KVs} {lk lv : Bytes}
    (h : ¬ kcmp ik p.1 lk < 0) :
    startAt ik (p :: db) (some (lk, lv)) = if p = (lk, lv) then db else p :: db := by
  obtain ⟨k, v⟩ := p
  simp only [startAt, List.dropWhile_cons, h, decide_false, Bool.false_eq_true, if_false, Prod.mk.injEq]

theorem startAt_eq_filter {db : KVs} (hs : Sorted ik db) (lk lv : Bytes) :
    startAt ik db (some (lk, lv)) =
      db.filter (fun kv => decide (kcmp ik lk kv.1 < 0) || (decide (kcmp ik kv.1 lk = 0) && decide (kv ≠ (lk, lv)))) := by
  induction db with
  | nil => rfl
  | cons p rest ih =>
    have ⟨h1, h2⟩ := sorted_cons.mp hs
    by_cases hlt : kcmp ik p.1 lk < 0
    · have := kcmp_lt_asymm ik hlt
      rw [startAt_cons_lt hlt, ih h2, List.filter_cons, if_neg (by simp; omega)]
    · -- from `p` on every key is at or above the resume key, the rest strictly above
      have hrest : ∀ q ∈ rest, kcmp ik lk q.1 < 0 := fun q hq =>
        if he : kcmp ik p.1 lk = 0 then kcmp_lt_of_eq_of_lt ik ((kcmp_eq_comm ik _ _).mp he) (h1 q hq)
        else kcmp_lt_trans ik (kcmp_lt_symm_of_not ik hlt he) (h1 q hq)
      rw [startAt_cons_ge hlt, List.filter_cons, List.filter_eq_self.mpr fun q hq => by simp [hrest q hq]]
      by_cases hp : p = (lk, lv)
      · subst hp
        simp [kcmp_refl]
      · rw [if_neg hp, if_pos]
        by_cases he : kcmp ik p.1 lk = 0
        · simp [he, hp]
        · simp [kcmp_lt_symm_of_not ik hlt he]

theorem mem_startAt {db : KVs} (hs : Sorted ik db) {lk lv : Bytes} {kv : Bytes × Bytes} :
    kv ∈ startAt ik db (some (lk, lv)) ↔
      kv ∈ db ∧ (kcmp ik lk kv.1 < 0 ∨ (kcmp ik kv.1 lk = 0 ∧ kv ≠ (lk, lv))) := by
  rw [startAt_eq_filter hs, List.mem_filter]
  simp

theorem startAt_append {A B : KVs} {lk lv : Bytes} (hs : Sorted ik (A ++ B))
    (hA : ∀ p ∈ A, kcmp ik p.1 lk < 0 ∨ p = (lk, lv)) (hB : ∀ p ∈ B, kcmp ik lk p.1 < 0) :
    startAt ik (A ++ B) (some (lk, lv)) = B := by
  rw [startAt_eq_filter hs, List.filter_append, List.filter_eq_nil_iff.mpr, List.filter_eq_self.mpr,
    List.nil_append]
  · exact fun p hp => by simp [hB p hp]
  · intro p hp
    rcases hA p hp with h | rfl
    · have := kcmp_lt_asymm ik h
      simp; omega
    · simp [kcmp_refl]

theorem get_startAt_of_lt {db' : KVs} (hs : Sorted ik db') {k v lk lv : Bytes}
    (hg : get ik db' k = some v) (hlt : kcmp ik lk k < 0) :
    get ik (startAt ik db' (some (lk, lv))) k = some v := by
  obtain ⟨k', hm, hk⟩ := get_some_mem hg
  exact (get_eq_some_iff (hs.sublist (startAt_sublist ..))).mpr
    ⟨k', (mem_startAt hs).mpr ⟨hm, .inl (kcmp_lt_of_lt_of_eq ik hlt hk)⟩, hk⟩

end

/-- the flag a slice with limit `lim` over `todo` returns -/
def hitLimit (lim : Option Nat) (todo : KVs) : Bool :=
  match lim with
  | none => false
  | some m => decide (m ≤ todo.length)

theorem hitLimit_iff (lim : Option Nat) (todo : KVs) :
    hitLimit lim todo = true ↔ ∃ l, lim = some l ∧ l ≤ todo.length := by
  cases lim <;> simp [hitLimit]

section
variable {ik : Bool} {cutoff : Nat} {lim : Option Nat}

theorem scan_zero (ik : Bool) (cutoff : Nat) (todo db : KVs) (last : Option (Bytes × Bytes)) (c : Nat) :
    scan ik cutoff (some 0) todo db last c = .ok { db := db, last := last, limitReached := true, cleaned := c } := by
  cases todo <;> rfl

theorem scan_nil (ik : Bool) (cutoff : Nat) (lim : Option Nat) (db : KVs) (last : Option (Bytes × Bytes)) (c : Nat) :
    scan ik cutoff lim [] db last c = .ok { db := db, last := last, limitReached := hitLimit lim [], cleaned := c } := by
  cases lim with
  | none => rfl
  | some m => cases m <;> rfl

theorem scan_cons (ik : Bool) (cutoff : Nat) (hl : lim ≠ some 0) (k v : Bytes) (rest db : KVs)
    (last : Option (Bytes × Bytes)) (c : Nat) :
    scan ik cutoff lim ((k, v) :: rest) db last c =
      match expired cutoff v with
      | .error e => .error e
      | .ok true => scan ik cutoff (lim.map (· - 1)) rest (del ik db k).1 (some (k, v)) (c + 1)
      | .ok false => scan ik cutoff (lim.map (· - 1)) rest db (some (k, v)) c := by
  cases lim with
  | none => rfl
  | some m =>
    cases m with
    | zero => exact absurd rfl hl
    | succ m => rfl

/-- the two outcomes of a parsable value written as one, through the filter for expired markers
    on the singleton, so that `scan_eq` needs no case split -/
theorem scan_cons_ok (hl : lim ≠ some 0) {k v : Bytes} {b : Bool} (hx : expired cutoff v = .ok b) (rest db : KVs)
    (last : Option (Bytes × Bytes)) (c : Nat) :
    scan ik cutoff lim ((k, v) :: rest) db last c =
      scan ik cutoff (lim.map (· - 1)) rest
        (([(k, v)].filter fun kv => decide (IsExpired cutoff kv.2)).foldl (fun db kv => (del ik db kv.1).1) db)
        (some (k, v)) (c + ([(k, v)].filter fun kv => decide (IsExpired cutoff kv.2)).length) := by
  rw [scan_cons ik cutoff hl, hx]
  cases b <;> simp [List.filter, (expired_ok hx).2]

theorem covered_zero (todo : KVs) : covered (some 0) todo = 0 := by simp [covered]

theorem covered_cons (hl : lim ≠ some 0) (p : Bytes × Bytes) (rest : KVs) :
    covered lim (p :: rest) = covered (lim.map (· - 1)) rest + 1 := by
  cases lim with
  | none => rfl
  | some m =>
    cases m with
    | zero => exact absurd rfl hl
    | succ m => exact Nat.succ_min_succ m rest.length

theorem hitLimit_cons (hl : lim ≠ some 0) (p : Bytes × Bytes) (rest : KVs) :
    hitLimit lim (p :: rest) = hitLimit (lim.map (· - 1)) rest := by
  cases lim with
  | none => rfl
  | some m =>
    cases m with
    | zero => exact absurd rfl hl
    | succ m => simp [hitLimit]

/-- A scan in closed form, on any `db`: it examines the first `covered lim todo` entries of `todo`;
    if one of their values does not parse it fails with the header error, else it has deleted the
    keys of the expired markers among them, in turn. -/
theorem scan_eq (ik : Bool) (cutoff : Nat) (todo : KVs) (lim : Option Nat) (db : KVs)
    (last : Option (Bytes × Bytes)) (c : Nat) :
    let T := todo.take (covered lim todo)
    let X := T.filter fun kv => decide (IsExpired cutoff kv.2)
    (∃ kv ∈ T, ¬ Parses kv.2) ∧ scan ik cutoff lim todo db last c = .error .header ∨
    (∀ kv ∈ T, Parses kv.2) ∧ scan ik cutoff lim todo db last c = .ok
      { db := X.foldl (fun db kv => (del ik db kv.1).1) db, last := T.getLast?.or last,
        limitReached := hitLimit lim todo, cleaned := c + X.length } := by
  induction todo generalizing lim db last c with
  | nil => exact .inr ⟨by simp, by simp [scan_nil]⟩
  | cons p rest ih =>
    obtain ⟨k, v⟩ := p
    by_cases hl : lim = some 0
    · subst hl
      exact .inr ⟨by simp [covered_zero], by simp [scan_zero, covered_zero, hitLimit]⟩
    · dsimp only
      rw [covered_cons hl, List.take_succ_cons, hitLimit_cons hl]
      cases hx : expired cutoff v with
      | error e =>
        obtain ⟨rfl, hp⟩ := expired_error hx
        exact .inl ⟨⟨_, List.mem_cons_self .., hp⟩, by rw [scan_cons ik cutoff hl, hx]⟩
      | ok b =>
        rw [scan_cons_ok hl hx]
        rcases ih (lim.map (· - 1)) _ (some (k, v)) _ with ⟨⟨kv, hm, hn⟩, he⟩ | ⟨hall, he⟩
        · exact .inl ⟨⟨kv, List.mem_cons_of_mem _ hm, hn⟩, he⟩
        · refine .inr ⟨List.forall_mem_cons.mpr ⟨(expired_ok hx).1, hall⟩, ?_⟩
          rw [he, ← List.singleton_append (x := (k, v)) (l := rest.take (covered (lim.map (· - 1)) rest)),
            List.filter_append, List.foldl_append, List.length_append, Nat.add_assoc, List.getLast?_append]
          cases (rest.take (covered (lim.map (· - 1)) rest)).getLast? <;> rfl

variable {db : KVs} {last : Option (Bytes × Bytes)} {n : Option Nat} {r : SliceRes}

theorem slice_ok_iff :
    (∃ r, slice ik cutoff db last n = .ok r) ↔
      ∀ kv ∈ (startAt ik db last).take (covered n (startAt ik db last)), Parses kv.2 := by
  rcases scan_eq ik cutoff (startAt ik db last) n db last 0 with ⟨⟨kv, hm, hn⟩, he⟩ | ⟨hall, he⟩
  · exact ⟨fun ⟨r, hr⟩ => (by rw [slice, he] at hr; cases hr), fun h => absurd (h kv hm) hn⟩
  · exact ⟨fun _ => hall, fun _ => ⟨_, he⟩⟩

theorem slice_error {e : Err} (h : slice ik cutoff db last n = .error e) : e = .header := by
  rcases scan_eq ik cutoff (startAt ik db last) n db last 0 with ⟨_, he⟩ | ⟨_, he⟩ <;>
    rw [slice, he] at h <;> cases h
  rfl

variable (hs : Sorted ik db) (h : slice ik cutoff db last n = .ok r)
include hs h

/-- One slice on a sorted DBI in closed form: `db = pre ++ T ++ D` with `T` the examined entries,
    all parsable, and `D` the unexamined rest of where the slice started; the expired markers of
    `T` are gone, everything else is in place. -/
theorem slice_pieces :
    ∃ pre T D, db = pre ++ (T ++ D) ∧ startAt ik db last = T ++ D ∧
      T = (startAt ik db last).take (covered n (startAt ik db last)) ∧
      D = (startAt ik db last).drop (covered n (startAt ik db last)) ∧
      (∀ kv ∈ T, Parses kv.2) ∧
      r = { db := pre ++ (T.filter (keep cutoff) ++ D), last := T.getLast?.or last,
            limitReached := hitLimit n (startAt ik db last),
            cleaned := (T.filter fun kv => decide (IsExpired cutoff kv.2)).length } := by
  obtain ⟨pre, h0⟩ := startAt_suffix ik db last
  rw [← List.take_append_drop (covered n (startAt ik db last)) (startAt ik db last)] at h0
  rcases scan_eq ik cutoff (startAt ik db last) n db last 0 with ⟨_, he⟩ | ⟨hall, he⟩ <;>
    rw [slice, he] at h <;> cases h
  exact ⟨pre, _, _, h0, (List.take_append_drop ..).symm, rfl, rfl, hall,
    by rw [foldl_del_filter _ h0 hs, Nat.zero_add]; rfl⟩

theorem slice_sublist : r.db.Sublist db := by
  obtain ⟨pre, T, D, h0, _, _, _, _, rfl⟩ := slice_pieces hs h
  rw [h0]
  exact ((List.filter_sublist ..).append_right _).append_left _

theorem slice_sorted : Sorted ik r.db :=
  hs.sublist (slice_sublist hs h)

theorem slice_removed {kv : Bytes × Bytes} (hm : kv ∈ db) (hr : kv ∉ r.db) : IsExpired cutoff kv.2 := by
  obtain ⟨pre, T, D, h0, _, _, _, _, rfl⟩ := slice_pieces hs h
  rw [h0] at hm
  simp only [List.mem_append, List.mem_filter, not_or, not_and] at hm hr
  rcases hm with hm | hm | hm
  · exact absurd hm hr.1
  · simpa [keep] using hr.2.1 hm
  · exact absurd hm hr.2.2

theorem slice_cleaned : r.cleaned + r.db.length = db.length := by
  obtain ⟨pre, T, D, h0, _, _, _, _, rfl⟩ := slice_pieces hs h
  have := List.length_eq_countP_add_countP (keep cutoff) (l := T)
  rw [h0]
  simp [List.countP_eq_length_filter, keep] at this ⊢
  omega

theorem slice_cleaned_pos : r.cleaned > 0 ↔ r.db ≠ db := by
  have hc := slice_cleaned hs h
  refine ⟨fun hp he => by rw [he] at hc; omega, fun hne => Nat.pos_of_ne_zero fun hz => ?_⟩
  exact hne ((slice_sublist hs h).eq_of_length (by omega))

theorem slice_get (k : Bytes) : SameOrSwept cutoff (get ik db k) (get ik r.db k) := by
  obtain ⟨pre, T, D, rfl, _, _, _, _, rfl⟩ := slice_pieces hs h
  have hsTD : Sorted ik (T ++ D) := (sorted_append.mp hs).2.1
  dsimp only
  rw [get_append, get_append, get_append, get_append, get_filter_keep (sorted_append.mp hsTD).1]
  cases get ik pre k with
  | some x => exact .refl ..
  | none =>
    cases hT : get ik T k with
    | none => exact .refl ..
    | some v =>
      rw [get_right_none hsTD hT]
      simpa using sameOrSwept_filter cutoff (some v)

theorem slice_resume :
    startAt ik r.db r.last = (startAt ik db last).drop (covered n (startAt ik db last)) := by
  have hsr := slice_sorted hs h
  obtain ⟨pre, T, D, rfl, hst, _, hD, _, rfl⟩ := slice_pieces hs h
  rw [← hD]
  dsimp only at hsr ⊢
  cases hl : T.getLast? with
  | none =>
    rw [List.getLast?_eq_none_iff] at hl
    subst hl
    exact hst
  | some l =>
    obtain ⟨lk, lv⟩ := l
    obtain ⟨ini, rfl⟩ := List.getLast?_eq_some_iff.mp hl
    have ⟨_, hTD, hc⟩ := sorted_append.mp hs
    rw [← List.append_assoc] at hsr ⊢
    refine startAt_append hsr (fun p hp => ?_) fun p hp => (sorted_append.mp hTD).2.2 (lk, lv) (by simp) p hp
    rcases List.mem_append.mp hp with hp | hp
    · exact .inl (hc p hp (lk, lv) (by simp))
    · rcases List.mem_append.mp (List.mem_filter.mp hp).1 with hp | hp
      · exact .inl ((sorted_append.mp (sorted_append.mp hTD).1).2.2 p hp (lk, lv) (by simp))
      · exact .inr (by simpa using hp)

omit hs h in
/-- a key that is absent stays absent; one that is still ahead of the scan (bound to the expired
    marker `v` in the part the slice starts at) is removed by the slice, or the slice stopped
    below it -/
theorem slice_ahead {n : Nat} (hs : Sorted ik db) (h : slice ik cutoff db last (some n) = .ok r) (hn : 1 ≤ n)
    {k v : Bytes} (hv : IsExpired cutoff v)
    (ha : get ik db k = none ∨ get ik (startAt ik db last) k = some v) :
    get ik r.db k = none ∨
      (r.limitReached = true ∧ get ik r.db k = some v ∧ ∃ lk lv, r.last = some (lk, lv) ∧ kcmp ik lk k < 0) := by
  rcases ha with ha | ha
  · exact .inl (ha ▸ slice_get hs h k).of_none
  obtain ⟨pre, T, D, h0, hst, hT, hD, _, rfl⟩ := slice_pieces hs h
  rw [h0] at hs
  have hsTD : Sorted ik (T ++ D) := (sorted_append.mp hs).2.1
  rw [hst] at ha
  have hpre : get ik pre k = none := get_left_none hs ha
  rw [get_append] at ha
  dsimp only
  rw [get_append, get_append, hpre, get_filter_keep (sorted_append.mp hsTD).1]
  cases hTk : get ik T k with
  | some v' =>
    -- examined: removed
    rw [hTk] at ha
    cases ha
    exact .inl (by simp [Option.filter, hv, get_right_none hsTD hTk])
  | none =>
    -- in the unexamined rest, which is not empty: the limit was hit after `n ≥ 1` entries
    rw [hTk] at ha
    have hDk : get ik D k = some v := by simpa using ha
    obtain ⟨k', hm, hk⟩ := get_some_mem hDk
    have hlen : n < (startAt ik db last).length := Nat.lt_of_not_le fun hle => by
      have hcov : covered (some n) (startAt ik db last) = _ := Nat.min_eq_right hle
      rw [hD, hcov, List.drop_length] at hm
      cases hm
    have hcov : covered (some n) (startAt ik db last) = n := Nat.min_eq_left (Nat.le_of_lt hlen)
    have hTlen : T.length = n := by rw [hT, hcov, List.length_take]; exact hcov
    refine .inr ⟨decide_eq_true (Nat.le_of_lt hlen), by simp [hDk], ?_⟩
    cases hl : T.getLast? with
    | none =>
      rw [List.getLast?_eq_none_iff.mp hl] at hTlen
      exact absurd hTlen.symm (Nat.ne_of_gt hn)
    | some l =>
      exact ⟨l.1, l.2, rfl, kcmp_lt_of_lt_of_eq ik
        ((sorted_append.mp hsTD).2.2 _ (List.mem_of_getLast? hl) _ hm) ((kcmp_eq_comm ik _ _).mp hk)⟩

end

end Ls.Sweeper
