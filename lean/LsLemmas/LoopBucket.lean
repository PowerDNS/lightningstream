import LsLemmas.LoopAbs
import LsLemmas.CleanerHist
/-
  The product fleet of native-mode sync loops (LsLemmas/LoopBound.lean) extended with the real
  cleaner model (LsModel/Cleaner.lean): a cleaner run of instance `k` lists the names of the
  shared bucket, is told `St.committed` of its loop, and what it deletes leaves the bucket.
  Helper lemmas of LsProps/C05Fleet.lean: what a cleaner run deletes, the invariants of the
  extended fleet, and the monotonicity of the join over the newest blobs (`bucketJoin`).
-/
namespace Ls.Abs
open Ls

def joinList (l : List DB) : DB := l.foldl DB.join DB.empty

theorem le_joinList {l : List DB} {x : DB} (hx : x ∈ l) : x.le (joinList l) :=
  (foldl_join_lub l DB.empty).2.1 x hx

theorem joinList_le {l : List DB} {D : DB} (hle : ∀ x ∈ l, x.le D) : (joinList l).le D :=
  (foldl_join_lub l DB.empty).2.2 D (fun k => join_none_left (D k)) hle

end Ls.Abs

namespace Ls.Loop
open Ls Ls.Lmdb Ls.Txn Ls.SyncLoop

/-- the logical content of a blob -/
def blobDB (x : Blob) : Abs.DB := absSnap x.snap

/-- `x` is the newest blob of its instance in `B` (no blob of the instance has a larger timestamp) -/
def isNewest (B : Bucket) (x : Blob) : Bool := B.all fun y => y.inst != x.inst || decide (y.ts ≤ x.ts)

theorem isNewest_iff {B : Bucket} {x : Blob} :
    isNewest B x = true ↔ ∀ y ∈ B, y.inst = x.inst → y.ts ≤ x.ts := by
  unfold isNewest
  rw [List.all_eq_true]
  constructor
  · intro h y hy hi
    have := h y hy
    simp only [Bool.or_eq_true, bne_iff_ne, ne_eq, decide_eq_true_eq] at this
    rcases this with h1 | h1
    · exact absurd hi h1
    · exact h1
  · intro h y hy
    simp only [Bool.or_eq_true, bne_iff_ne, ne_eq, decide_eq_true_eq]
    by_cases hi : y.inst = x.inst
    · exact Or.inr (h y hy hi)
    · exact Or.inl hi

/-- the newest blob of every instance that has a blob in the bucket -/
def newestBlobs (B : Bucket) : List Blob := B.filter (isNewest B)

/-- **the join over the newest snapshots**: the last-writer-wins join, over all instances with a
    blob in the bucket, of the logical content of the instance's newest blob -/
def bucketJoin (B : Bucket) : Abs.DB := Abs.joinList ((newestBlobs B).map blobDB)

theorem le_bucketJoin {B : Bucket} {x : Blob} (hx : x ∈ B) (hn : isNewest B x = true) :
    (blobDB x).le (bucketJoin B) :=
  Abs.le_joinList (List.mem_map_of_mem (List.mem_filter.mpr ⟨hx, hn⟩))

/-- the join over the newest snapshots does not decrease from `B` to `B'` if every newest blob
    of `B` is dominated by some newest blob of `B'` (a witness) -/
theorem bucketJoin_le_of_witness {B B' : Bucket}
    (h : ∀ x ∈ B, isNewest B x = true → ∃ w ∈ B', isNewest B' w = true ∧ (blobDB x).le (blobDB w)) :
    (bucketJoin B).le (bucketJoin B') := by
  refine Abs.joinList_le ?_
  intro d hd
  obtain ⟨x, hx, rfl⟩ := List.mem_map.mp hd
  obtain ⟨hxB, hxn⟩ := List.mem_filter.mp hx
  obtain ⟨w, hw, hwn, hle⟩ := h x hxB hxn
  exact hle.trans (le_bucketJoin hw hwn)

/-- how blobs are named in the store and how the cleaner parses the names back (`ParseName`):
    parsing a blob's name yields a snapshot of its instance with its timestamp -/
structure Naming where
  nm : InstId → Nat → String
  parse : Cleaner.Parse
  law : ∀ a t, parse (nm a t) = some { kind := Gen.kindSnapshot, inst := a, ts := (t : Int) }

def Naming.nameOf (N : Naming) (x : Blob) : String := N.nm x.inst x.ts

theorem Naming.inj (N : Naming) {a b : InstId} {t u : Nat} (h : N.nm a t = N.nm b u) : a = b ∧ t = u := by
  have h1 := N.law a t
  rw [h, N.law b u] at h1
  injection h1 with h1
  injection h1 with _ h2 h3
  exact ⟨h2.symm, by omega⟩

/-- the extended fleet: the loop fleet (every `G` carries its view of the one bucket), the
    cleaners' own states, and the ghost history of every blob ever stored, in storage order -/
structure XF where
  F : Fleet
  cl : Nat → Cleaner.St
  ever : List Blob

inductive XEv where
  | loop (ke : Nat × Ev)
  | clean (k : Nat) (now : Nat)

/-- the state instance `k`'s cleaner runs with: its own bookkeeping, and as `lastByInstance` what
    the selector `sel` reads off the loop's state — `St.committed` in the real system -/
def cleanerSt (sel : SyncLoop.St → List (InstId × Nat)) (X : XF) (k : Nat) : Cleaner.St :=
  { X.cl k with committed := (sel (X.F k).st).map fun p => (p.1, (p.2 : Int)) }

/-- one `Worker.RunOnce` of instance `k`'s cleaner on the names of the shared bucket (every
    `Delete` succeeds) -/
def cleanRun (N : Naming) (ccfg : Nat → Cleaner.Cfg) (sel : SyncLoop.St → List (InstId × Nat))
    (X : XF) (k now : Nat) : Cleaner.St × Cleaner.Out :=
  Cleaner.runOnce N.parse (ccfg k) (cleanerSt sel X k) (now : Int)
    (some ((X.F k).bucket.map N.nameOf)) (fun _ => false)

/-- was the blob deleted by the run? -/
def dead (N : Naming) (out : Cleaner.Out) (x : Blob) : Bool := decide (N.nameOf x ∈ out.deleted)

/-- one event of the extended fleet: an event of the loop fleet (what is stored is also recorded
    in the ghost history), or a cleaner run, after which the deleted blobs are gone from the one
    bucket every instance sees -/
def xstep (N : Naming) (cs : Nat → LoopCfg) (ccfg : Nat → Cleaner.Cfg)
    (sel : SyncLoop.St → List (InstId × Nat)) (X : XF) : XEv → XF
  | .loop ke =>
    { X with F := fleetStep cs X.F ke, ever := X.ever ++ delta (cs ke.1) (X.F ke.1) ke.2 }
  | .clean k now =>
    let r := cleanRun N ccfg sel X k now
    { F := fun j => { X.F j with bucket := (X.F j).bucket.filter fun x => !dead N r.2 x },
      cl := fun j => if j = k then r.1 else X.cl j,
      ever := X.ever }

def xrun (N : Naming) (cs : Nat → LoopCfg) (ccfg : Nat → Cleaner.Cfg)
    (sel : SyncLoop.St → List (InstId × Nat)) (X : XF) (evs : List XEv) : XF :=
  evs.foldl (xstep N cs ccfg sel) X

/-- the one bucket (as instance 0 sees it; all instances see the same, `XInv.shared`) -/
def XF.bucket (X : XF) : Bucket := (X.F 0).bucket

/-- in the bucket, two different blobs of one instance carry different timestamps -/
def DistinctTs (B : Bucket) : Prop := B.Pairwise fun x y => x.inst = y.inst → x.ts ≠ y.ts

/-- the cleaner's first-seen times respect the timestamp order of the blobs of one instance -/
def FsOrdered (N : Naming) (fs : List (String × Int)) (B : Bucket) : Prop :=
  ∀ e ∈ B, ∀ c ∈ B, e.inst = c.inst → e.ts < c.ts → ∀ t u,
    Cleaner.look (N.nameOf e) fs = some t → Cleaner.look (N.nameOf c) fs = some u → t ≤ u

theorem distinctTimes_of (N : Naming) {B : Bucket} (h : DistinctTs B) :
    Cleaner.DistinctTimes N.parse (B.map N.nameOf) := by
  unfold Cleaner.DistinctTimes
  rw [List.pairwise_map]
  refine h.imp ?_
  intro x y hxy i j hi hj hij
  have h1 := hi.1; have h2 := hj.1
  unfold Naming.nameOf at h1 h2
  rw [N.law] at h1 h2
  injection h1 with h1; injection h2 with h2
  subst h1 h2
  simp only at hij ⊢
  intro he
  exact hxy hij (by omega)

theorem mem_candidates_bucket (N : Naming) {st : Cleaner.St} (hig : ∀ n ∈ st.ignored, N.parse n = none)
    {B : Bucket} {c : Cleaner.Cand} :
    c ∈ Cleaner.candidates N.parse st (B.map N.nameOf) ↔
      ∃ x ∈ B, c = { name := N.nameOf x, inst := x.inst, ts := (x.ts : Int) } := by
  rw [Cleaner.mem_candidates]
  constructor
  · rintro ⟨hn, _, i, hp, _, hi, ht⟩
    obtain ⟨x, hx, hxe⟩ := List.mem_map.mp hn
    refine ⟨x, hx, ?_⟩
    rw [← hxe] at hp
    unfold Naming.nameOf at hp
    rw [N.law] at hp
    injection hp with hp
    subst hp
    obtain ⟨nme, a, t⟩ := c
    simp only at hxe hi ht ⊢
    rw [hxe, hi, ht]
  · rintro ⟨x, hx, rfl⟩
    refine ⟨List.mem_map_of_mem hx, ?_, _, N.law x.inst x.ts, rfl, rfl, rfl⟩
    intro hin
    have := hig _ hin
    unfold Naming.nameOf at this
    rw [N.law] at this; cases this

theorem clean_deletes_guarded (N : Naming) (cfg : Cleaner.Cfg) (st : Cleaner.St) (now : Int) (B : Bucket)
    (hig : ∀ n ∈ st.ignored, N.parse n = none) (hdist : DistinctTs B)
    (hord : FsOrdered N st.firstSeen B) (x : Blob)
    (hdel : N.nameOf x ∈ (Cleaner.runOnce N.parse cfg st now (some (B.map N.nameOf)) (fun _ => false)).2.delCalls) :
    (∃ y ∈ B, y.inst = x.inst ∧ x.ts < y.ts) ∨
    (∃ T, Cleaner.look x.inst st.committed = some T ∧ (x.ts : Int) ≤ T) := by
  by_cases hnew : ∃ y ∈ B, y.inst = x.inst ∧ x.ts < y.ts
  · exact Or.inl hnew
  · right
    obtain ⟨_, names, hl, c, hc, hcn⟩ := Cleaner.mem_delCalls hdel
    cases hl
    have hcs := Cleaner.toDelete_sub hc
    obtain ⟨y, hy, hcy⟩ := (mem_candidates_bucket N hig).mp hcs
    have hyx : y.inst = x.inst ∧ y.ts = x.ts := by
      rw [hcy] at hcn
      exact N.inj hcn
    have hdt := distinctTimes_of N hdist
    have hres := Cleaner.toDelete_newest (Cleaner.candidates_nodup hdt) hc
      (by
        intro e he hne hinst
        obtain ⟨z, hz, hez⟩ := (mem_candidates_bucket N hig).mp he
        rw [hez, hcy] at hne hinst ⊢
        simp only at hne hinst ⊢
        have hzi : z.inst = x.inst := by rw [hinst]; exact hyx.1
        have hle : ¬ x.ts < z.ts := fun hlt => hnew ⟨z, hz, hzi, hlt⟩
        have hne' : z.ts ≠ y.ts := by
          intro he'
          apply hne
          unfold Naming.nameOf
          rw [hinst, he']
        rw [hyx.2] at hne' ⊢
        omega)
      (by
        intro e he hinst hlt t u ht hu
        obtain ⟨z, hz, hez⟩ := (mem_candidates_bucket N hig).mp he
        rw [hez] at hinst hlt ht
        rw [hcy] at hinst hlt hu
        simp only at hinst hlt ht hu
        exact hord z hz y hy hinst (by omega) t u ht hu)
    obtain ⟨T, hT, hle⟩ := Cleaner.provenMerged_iff.mp hres.2
    rw [hcy] at hT hle
    simp only at hT hle
    rw [hyx.1] at hT
    rw [hyx.2] at hle
    exact ⟨T, hT, hle⟩

/-- the fields of the state this file tracks besides the environment -/
structure Books (s s' : St) : Prop where
  lastBy : s'.lastBy = s.lastBy
  committed : s'.committed = s.committed

theorem Books.refl (s : St) : Books s s := ⟨rfl, rfl⟩
theorem Books.trans {a b c : St} (h1 : Books a b) (h2 : Books b c) : Books a c :=
  ⟨h2.lastBy.trans h1.lastBy, h2.committed.trans h1.committed⟩

/-- what the loop has told its cleaner after a segment -/
def committedAfter (s : St) : List (InstId × Nat) :=
  match s.pc with
  | .sendStored _ _ => s.lastBy.foldl (fun acc p => setAssoc acc p.1 p.2) s.committed
  | _ => s.committed

/-- the bookkeeping of one segment: `lastBy` gains the blob named by a `loadAfterTxn` yield point;
    `committed` takes in `lastBy` exactly in the segment after the store -/
theorem go_books (c : LoopCfg) (b : Bucket) (s : St) (i : In) :
    (go c b s i).1.lastBy = loadLastBy s ∧ (go c b s i).1.committed = committedAfter s := by
  have h := go_seg c b s i Gh.init
  generalize (go c b s i).1 = s' at h ⊢
  generalize (go c b s i).2 = b' at h
  generalize Gh.init.afterGo b s i s'.pc s'.waiting = gh' at h
  cases h with
  | endLoads hin _ | unknown _ _ hin _ _ | loadFailed _ _ hin _ | loaded _ _ _ _ _ hin _ _ _ =>
    unfold committedAfter
    rcases hin with hpc | ⟨_, _, _, _, _, hpc⟩
    · rw [hpc]; exact ⟨rfl, rfl⟩
    · rw [hpc]; exact ⟨rfl, rfl⟩
  -- every other path starts outside the load part and names its yield point
  | _ => unfold loadLastBy committedAfter; rw [‹s.pc = _›]; exact ⟨rfl, rfl⟩

theorem mem_setAssoc {l : List (InstId × Nat)} {k : InstId} {v : Nat} {p : InstId × Nat}
    (h : p ∈ setAssoc l k v) : p = (k, v) ∨ p ∈ l := by
  unfold setAssoc at h
  rcases List.mem_cons.mp h with h | h
  · exact Or.inl h
  · exact Or.inr (List.mem_filter.mp h).1

theorem mem_foldl_setAssoc (m : List (InstId × Nat)) : ∀ (acc : List (InstId × Nat)) (p : InstId × Nat),
    p ∈ m.foldl (fun acc q => setAssoc acc q.1 q.2) acc → p ∈ m ∨ p ∈ acc := by
  induction m with
  | nil => intro acc p h; exact Or.inr h
  | cons q rest ih =>
    intro acc p h
    rw [List.foldl_cons] at h
    rcases ih _ p h with h1 | h1
    · exact Or.inl (List.mem_cons_of_mem _ h1)
    · rcases mem_setAssoc h1 with h2 | h2
      · left; rw [h2]; exact List.mem_cons_self ..
      · exact Or.inr h2

/-- the real selector: the cleaner is told `St.committed` -/
def selCommitted : SyncLoop.St → List (InstId × Nat) := fun s => s.committed

/-- the aliasing bug: the cleaner is told what was merged (`lastBy`), uploaded or not -/
def selLastBy : SyncLoop.St → List (InstId × Nat) := fun s => s.lastBy

/-- the logical content of instance `j` -/
def XF.db (X : XF) (j : Nat) : Abs.DB := absEnv (X.F j).st.env

/-- a blob of instance `a` with timestamp `T` was stored, and its content is below `D` -/
def StoredBelow (E : List Blob) (a : InstId) (T : Nat) (D : Abs.DB) : Prop :=
  ∃ z ∈ E, z.inst = a ∧ z.ts = T ∧ (blobDB z).le D

/-- a blob of instance `a` with timestamp `T` was stored, and a blob `d` stored LATER dominates it -/
def StoredBefore (E : List Blob) (a : InstId) (T : Nat) (q : Nat) (d : Blob) : Prop :=
  ∃ (i : Nat) (z : Blob), i < q ∧ E[i]? = some z ∧ z.inst = a ∧ z.ts = T ∧ (blobDB z).le (blobDB d)

/-- **the invariant of the extended fleet** (`n` native-mode instances with distinct names) -/
structure XInv (N : Naming) (cs : Nat → LoopCfg) (n : Nat) (X : XF) : Prop where
  /-- one bucket -/
  shared : ∀ j, (X.F j).bucket = X.bucket
  nodup : X.bucket.Nodup
  wf : ∀ j, EnvWF (X.F j).st.env
  /-- the bucket holds blobs that were stored -/
  sub : ∀ x ∈ X.bucket, x ∈ X.ever
  ok : ∀ x ∈ X.ever, SnapOk x.snap
  /-- the blobs of one instance were stored in timestamp order, with growing content -/
  ord : ∀ (p q : Nat) (x y : Blob), p < q → X.ever[p]? = some x → X.ever[q]? = some y → x.inst = y.inst →
    x.ts < y.ts ∧ (blobDB x).le (blobDB y)
  /-- an instance holds what it published -/
  own : ∀ j, j < n → ∀ x ∈ X.ever, x.inst = (cs j).own → (blobDB x).le (X.db j)
  /-- a dump in flight: newer and larger than everything the instance stored, below its content,
      above everything it has recorded as merged -/
  pend : ∀ j, j < n → ∀ who t ts sn, (X.F j).st.pc = .sendAfterTxn who t ts sn →
    SnapOk sn ∧ (absSnap sn).le (X.db j) ∧
    (∀ x ∈ X.ever, x.inst = (cs j).own → x.ts < ts ∧ (blobDB x).le (absSnap sn)) ∧
    (∀ p ∈ (X.F j).st.lastBy, StoredBelow X.ever p.1 p.2 (absSnap sn))
  /-- what the loop recorded as merged was stored and is in its content -/
  lastBy : ∀ j, j < n → ∀ p ∈ (X.F j).st.lastBy, StoredBelow X.ever p.1 p.2 (X.db j)
  loadpc : ∀ j, j < n → ∀ t lc a T m, (X.F j).st.pc = .loadAfterTxn t lc a T m →
    StoredBelow X.ever a T (X.db j)
  /-- right after the store: the stored dump dominates everything recorded as merged -/
  storedpc : ∀ j, j < n → ∀ who t, (X.F j).st.pc = .sendStored who t →
    ∃ (q : Nat) (d : Blob), X.ever[q]? = some d ∧ ∀ p ∈ (X.F j).st.lastBy, StoredBefore X.ever p.1 p.2 q d
  /-- **`committed` ⊆ `lastBy` at the latest store**: what the cleaner is told was merged BEFORE a
      dump that was then stored (and dominates it) -/
  comm : ∀ j, j < n → ∀ p ∈ (X.F j).st.committed,
    ∃ (q : Nat) (d : Blob), X.ever[q]? = some d ∧ StoredBefore X.ever p.1 p.2 q d
  /-- the witness invariant: every blob ever stored is dominated by a blob stored no earlier
      that is in the bucket and is the newest of its instance there -/
  wit : ∀ (p : Nat) (x : Blob), X.ever[p]? = some x → ∃ (q : Nat) (w : Blob), p ≤ q ∧ X.ever[q]? = some w ∧ w ∈ X.bucket ∧
    isNewest X.bucket w = true ∧ (blobDB x).le (blobDB w)
  /-- the cleaners: only unparsable names are ignored; first-seen times respect the storage order
      per instance (and an older blob in the bucket is known whenever a newer one is); only names
      of stored blobs are known -/
  clig : ∀ k, ∀ nme ∈ (X.cl k).ignored, N.parse nme = none
  clfs : ∀ k, ∀ e ∈ X.bucket, ∀ c ∈ X.bucket, e.inst = c.inst → e.ts < c.ts → ∀ u,
    Cleaner.look (N.nameOf c) (X.cl k).firstSeen = some u →
    ∃ t, Cleaner.look (N.nameOf e) (X.cl k).firstSeen = some t ∧ t ≤ u
  clkeys : ∀ k nme t, Cleaner.look nme (X.cl k).firstSeen = some t → ∃ x ∈ X.ever, nme = N.nameOf x

theorem XInv.distinct {N : Naming} {cs : Nat → LoopCfg} {n : Nat} {X : XF} (h : XInv N cs n X) :
    ∀ x ∈ X.ever, ∀ y ∈ X.ever, x.inst = y.inst → x.ts = y.ts → x = y := by
  intro x hx y hy hi ht
  obtain ⟨p, hp⟩ := List.mem_iff_getElem?.mp hx
  obtain ⟨q, hq⟩ := List.mem_iff_getElem?.mp hy
  rcases Nat.lt_trichotomy p q with hlt | heq | hgt
  · have := (h.ord p q x y hlt hp hq hi).1; omega
  · subst heq; rw [hp] at hq; injection hq
  · have := (h.ord q p y x hgt hq hp hi.symm).1; omega

theorem XInv.distinctTs {N : Naming} {cs : Nat → LoopCfg} {n : Nat} {X : XF} (h : XInv N cs n X) :
    DistinctTs X.bucket := by
  unfold DistinctTs
  refine h.nodup.imp_of_mem ?_
  intro x y hx hy hne hi ht
  exact hne (h.distinct x (h.sub x hx) y (h.sub y hy) hi ht)

/-- the clauses of `XInv` about one instance (configuration `c`, loop state `s`) and the storage
    history `E` -/
structure XInvJ (c : LoopCfg) (E : List Blob) (s : St) : Prop where
  own : ∀ x ∈ E, x.inst = c.own → (blobDB x).le (absEnv s.env)
  pend : ∀ who t ts sn, s.pc = .sendAfterTxn who t ts sn →
    SnapOk sn ∧ (absSnap sn).le (absEnv s.env) ∧
    (∀ x ∈ E, x.inst = c.own → x.ts < ts ∧ (blobDB x).le (absSnap sn)) ∧
    (∀ p ∈ s.lastBy, StoredBelow E p.1 p.2 (absSnap sn))
  lastBy : ∀ p ∈ s.lastBy, StoredBelow E p.1 p.2 (absEnv s.env)
  loadpc : ∀ t lc a T m, s.pc = .loadAfterTxn t lc a T m → StoredBelow E a T (absEnv s.env)
  storedpc : ∀ who t, s.pc = .sendStored who t →
    ∃ (q : Nat) (d : Blob), E[q]? = some d ∧ ∀ p ∈ s.lastBy, StoredBefore E p.1 p.2 q d
  comm : ∀ p ∈ s.committed, ∃ (q : Nat) (d : Blob), E[q]? = some d ∧ StoredBefore E p.1 p.2 q d

theorem XInv.inst {N : Naming} {cs : Nat → LoopCfg} {n : Nat} {X : XF} (h : XInv N cs n X) {j : Nat}
    (hj : j < n) : XInvJ (cs j) X.ever (X.F j).st :=
  ⟨h.own j hj, h.pend j hj, h.lastBy j hj, h.loadpc j hj, h.storedpc j hj, h.comm j hj⟩

theorem storedBelow_mono {E E' : List Blob} {a : InstId} {T : Nat} {D D' : Abs.DB}
    (hE : ∀ x ∈ E, x ∈ E') (hle : D.le D') (h : StoredBelow E a T D) : StoredBelow E' a T D' := by
  obtain ⟨z, hz, h1, h2, h3⟩ := h
  exact ⟨z, hE z hz, h1, h2, h3.trans hle⟩

theorem storedBefore_append {E : List Blob} (Y : List Blob) {a : InstId} {T q : Nat} {d : Blob}
    (h : StoredBefore E a T q d) : StoredBefore (E ++ Y) a T q d := by
  obtain ⟨i, z, h1, h2, h3⟩ := h
  exact ⟨i, z, h1, getElem?_append_old Y h2, h3⟩

theorem XInvJ.append {c : LoopCfg} {E : List Blob} {s : St} (Y : List Blob) (h : XInvJ c E s)
    (hY : ∀ y ∈ Y, y.inst ≠ c.own) : XInvJ c (E ++ Y) s := by
  have hsub : ∀ x ∈ E, x ∈ E ++ Y := fun x hx => List.mem_append_left _ hx
  have hold : ∀ x ∈ E ++ Y, x.inst = c.own → x ∈ E := fun x hx hi =>
    (List.mem_append.mp hx).elim id (fun hy => absurd hi (hY x hy))
  refine ⟨fun x hx hi => h.own x (hold x hx hi) hi, ?_,
    fun p hp => storedBelow_mono hsub (Abs.le_refl _) (h.lastBy p hp),
    fun t lc a T m hpc => storedBelow_mono hsub (Abs.le_refl _) (h.loadpc t lc a T m hpc), ?_, ?_⟩
  · intro who t ts sn hpc
    obtain ⟨a1, a2, a3, a4⟩ := h.pend who t ts sn hpc
    exact ⟨a1, a2, fun x hx hi => a3 x (hold x hx hi) hi,
      fun p hp => storedBelow_mono hsub (Abs.le_refl _) (a4 p hp)⟩
  · intro who t hpc
    obtain ⟨q, d, hq, hall⟩ := h.storedpc who t hpc
    exact ⟨q, d, getElem?_append_old Y hq, fun p hp => storedBefore_append Y (hall p hp)⟩
  · intro p hp
    obtain ⟨q, d, hq, hb⟩ := h.comm p hp
    exact ⟨q, d, getElem?_append_old Y hq, storedBefore_append Y hb⟩

/-- side condition of a cleaner run: the instance belongs to the fleet, and the clock handed to
    the run is not below any first-seen time the cleaner has recorded (a clock that does not go
    backwards between the runs of one cleaner) -/
def CleanOk (n : Nat) (X : XF) (k now : Nat) : Prop :=
  k < n ∧ ∀ p ∈ (X.cl k).firstSeen, p.2 ≤ (now : Int)

instance (n : Nat) (X : XF) (k now : Nat) : Decidable (CleanOk n X k now) := by
  unfold CleanOk; exact inferInstance

theorem mem_deleted_delCalls {parse : Cleaner.Parse} {cfg : Cleaner.Cfg} {st : Cleaner.St} {now : Int}
    {l : Option (List String)} {df : String → Bool} {nme : String}
    (h : nme ∈ (Cleaner.runOnce parse cfg st now l df).2.deleted) :
    nme ∈ (Cleaner.runOnce parse cfg st now l df).2.delCalls := by
  cases he : cfg.enabled with
  | false => rw [Cleaner.runOnce_disabled he] at h; simp [Cleaner.Out.none] at h
  | true =>
    cases l with
    | none => rw [Cleaner.runOnce_listFails he] at h; simp [Cleaner.Out.none] at h
    | some names =>
      rw [Cleaner.runOnce_some he] at h ⊢
      exact (List.mem_filter.mp h).1

theorem look_map_cast {l : List (InstId × Nat)} {a : InstId} {T : Int}
    (h : Cleaner.look a (l.map fun p => (p.1, (p.2 : Int))) = some T) :
    ∃ p ∈ l, p.1 = a ∧ (p.2 : Int) = T := by
  have := Cleaner.look_mem h
  obtain ⟨p, hp, he⟩ := List.mem_map.mp this
  injection he with h1 h2
  exact ⟨p, hp, h1, h2⟩

/-- the extended fleet after a cleaner run of instance `k` with result `r` -/
def cleaned (N : Naming) (X : XF) (k : Nat) (r : Cleaner.St × Cleaner.Out) : XF :=
  { F := fun j => { X.F j with bucket := (X.F j).bucket.filter (fun x => !dead N r.2 x) },
    cl := fun j => if j = k then r.1 else X.cl j,
    ever := X.ever }

theorem xstep_clean (N : Naming) (cs : Nat → LoopCfg) (ccfg : Nat → Cleaner.Cfg)
    (sel : SyncLoop.St → List (InstId × Nat)) (X : XF) (k now : Nat) :
    xstep N cs ccfg sel X (.clean k now) = cleaned N X k (cleanRun N ccfg sel X k now) := rfl

theorem xclean_guarded (N : Naming) (cs : Nat → LoopCfg) (ccfg : Nat → Cleaner.Cfg) (n : Nat) (X : XF)
    (k now : Nat) (hinv : XInv N cs n X) (hk : k < n) (w : Blob)
    (hd : dead N (cleanRun N ccfg selCommitted X k now).2 w = true) :
    (∃ y ∈ X.bucket, y.inst = w.inst ∧ w.ts < y.ts) ∨
    ∃ p ∈ (X.F k).st.committed, p.1 = w.inst ∧ w.ts ≤ p.2 ∧
      ∃ (q : Nat) (d : Blob), X.ever[q]? = some d ∧ StoredBefore X.ever p.1 p.2 q d := by
  have hBk : (X.F k).bucket = X.bucket := hinv.shared k
  have hdel : N.nameOf w ∈ (cleanRun N ccfg selCommitted X k now).2.deleted := by simpa [dead] using hd
  unfold cleanRun at hdel
  rw [hBk] at hdel
  have hord : FsOrdered N (X.cl k).firstSeen X.bucket := by
    intro e he c hc hi hlt t u ht hu
    obtain ⟨t', ht', hle⟩ := hinv.clfs k e he c hc hi hlt u hu
    rw [ht] at ht'; injection ht' with ht'; subst ht'; exact hle
  rcases clean_deletes_guarded N (ccfg k) (cleanerSt selCommitted X k) now X.bucket
    (hinv.clig k) hinv.distinctTs hord w (mem_deleted_delCalls hdel) with h1 | ⟨T, h1, h2⟩
  · exact Or.inl h1
  · right
    obtain ⟨p, hp, hp1, hp2⟩ := look_map_cast h1
    exact ⟨p, hp, hp1, by omega, hinv.comm k hk p hp⟩

theorem xclean_state (N : Naming) (cs : Nat → LoopCfg) (ccfg : Nat → Cleaner.Cfg) (n : Nat) (X : XF)
    (k now : Nat) (hinv : XInv N cs n X) (hclock : ∀ p ∈ (X.cl k).firstSeen, p.2 ≤ (now : Int)) :
    (∀ nme ∈ (cleanRun N ccfg selCommitted X k now).1.ignored, N.parse nme = none) ∧
    (∀ e ∈ X.bucket, ∀ c ∈ X.bucket, e.inst = c.inst → e.ts < c.ts → ∀ u,
      Cleaner.look (N.nameOf c) (cleanRun N ccfg selCommitted X k now).1.firstSeen = some u →
      ∃ t, Cleaner.look (N.nameOf e) (cleanRun N ccfg selCommitted X k now).1.firstSeen = some t ∧ t ≤ u) ∧
    (∀ nme t, Cleaner.look nme (cleanRun N ccfg selCommitted X k now).1.firstSeen = some t →
      ∃ x ∈ X.ever, nme = N.nameOf x) := by
  unfold cleanRun
  rw [hinv.shared k]
  cases he : (ccfg k).enabled with
  | false =>
    rw [Cleaner.runOnce_disabled he]
    exact ⟨hinv.clig k, hinv.clfs k, hinv.clkeys k⟩
  | true =>
    have hfs := fun nme => Cleaner.runOnce_firstSeen (parse := N.parse) (cfg := ccfg k)
      (st := cleanerSt selCommitted X k) (now := (now : Int)) he (X.bucket.map N.nameOf)
      (fun _ => false) nme
    have hcand : ∀ x ∈ X.bucket, N.nameOf x ∈
        (Cleaner.candidates N.parse (cleanerSt selCommitted X k) (X.bucket.map N.nameOf)).map (·.name) :=
      fun x hx => List.mem_map.mpr ⟨_, (mem_candidates_bucket N (hinv.clig k)).mpr ⟨x, hx, rfl⟩, rfl⟩
    refine ⟨?_, ?_, ?_⟩
    · intro nme hn
      exact (Cleaner.runOnce_ignored he _ _ hn).elim (hinv.clig k nme) id
    · intro e he' c hc hi hlt u hu
      rw [hfs, if_pos (hcand c hc)] at hu
      rw [hfs, if_pos (hcand e he')]
      cases hoc : Cleaner.look (N.nameOf c) (cleanerSt selCommitted X k).firstSeen with
      | some u0 =>
        rw [hoc] at hu
        injection hu with hu; subst hu
        obtain ⟨t, ht, hle⟩ := hinv.clfs k e he' c hc hi hlt u0 hoc
        have ht' : Cleaner.look (N.nameOf e) (cleanerSt selCommitted X k).firstSeen = some t := ht
        rw [ht']
        exact ⟨t, rfl, hle⟩
      | none =>
        rw [hoc] at hu
        injection hu with hu; subst hu
        cases hoe : Cleaner.look (N.nameOf e) (cleanerSt selCommitted X k).firstSeen with
        | some t => exact ⟨t, rfl, hclock _ (Cleaner.look_mem hoe)⟩
        | none => exact ⟨_, rfl, Int.le_refl _⟩
    · intro nme t ht
      rw [hfs] at ht
      split at ht
      · rename_i hmem
        obtain ⟨c, hc, hcn⟩ := List.mem_map.mp hmem
        obtain ⟨x, hx, hcx⟩ := (mem_candidates_bucket N (hinv.clig k)).mp hc
        exact ⟨x, hinv.sub x hx, by rw [← hcn, hcx]⟩
      · cases ht

theorem xinv_clean (N : Naming) (cs : Nat → LoopCfg) (ccfg : Nat → Cleaner.Cfg) (n : Nat) (X : XF)
    (k now : Nat) (hinv : XInv N cs n X) (hok : CleanOk n X k now) :
    XInv N cs n (xstep N cs ccfg selCommitted X (.clean k now)) := by
  obtain ⟨hk, hclock⟩ := hok
  have hguard := xclean_guarded N cs ccfg n X k now hinv hk
  obtain ⟨c1, c2, c3⟩ := xclean_state N cs ccfg n X k now hinv hclock
  rw [xstep_clean]
  generalize cleanRun N ccfg selCommitted X k now = r at hguard c1 c2 c3 ⊢
  -- the new bucket
  have hbk : (cleaned N X k r).bucket = X.bucket.filter fun x => !dead N r.2 x := rfl
  generalize hB' : (X.bucket.filter fun x => !dead N r.2 x) = B' at hbk
  have hB : ∀ x, x ∈ B' ↔ x ∈ X.bucket ∧ dead N r.2 x = false := by
    intro x; rw [← hB']; simp [List.mem_filter]
  have hnew' : ∀ w, isNewest X.bucket w = true → isNewest B' w = true := by
    intro w hn
    rw [isNewest_iff] at hn ⊢
    exact fun y hy hi => hn y ((hB y).mp hy).1 hi
  -- a newest blob that is deleted is dominated by a later stored dump, whose witness is stored
  -- later still: induction on the distance to the end of the storage history
  have key : ∀ (m q : Nat) (w : Blob), X.ever.length - q = m → X.ever[q]? = some w → w ∈ X.bucket →
      isNewest X.bucket w = true →
      ∃ (q' : Nat) (w' : Blob), q ≤ q' ∧ X.ever[q']? = some w' ∧ w' ∈ B' ∧ isNewest B' w' = true ∧
        (blobDB w).le (blobDB w') := by
    intro m
    induction m using Nat.strongRecOn with
    | ind m ih =>
      intro q w hm hq hw hn
      cases hd : dead N r.2 w with
      | false => exact ⟨q, w, Nat.le_refl _, hq, (hB w).mpr ⟨hw, hd⟩, hnew' w hn, Abs.le_refl _⟩
      | true =>
        rcases hguard w hd with ⟨y, hy, hyi, hlt⟩ | ⟨p, hp, hp1, hp2, qd, d, hqd, i, z, hiq, hiz, hzi, hzt, hzd⟩
        · have := (isNewest_iff.mp hn) y hy hyi; omega
        · have hqi : q ≤ i := by
            rcases Nat.lt_or_ge i q with hlt | hge
            · have := (hinv.ord i q z w hlt hiz hq (by rw [hzi, hp1])).1; omega
            · exact hge
          have hwd : (blobDB w).le (blobDB d) := by
            rcases Nat.eq_or_lt_of_le hqi with heq | hlt
            · subst heq; rw [hq] at hiz; injection hiz with hiz; subst hiz; exact hzd
            · exact (hinv.ord q i w z hlt hq hiz (by rw [hzi, hp1])).2.trans hzd
          obtain ⟨q2, w2, hq2, hw2, hw2B, hw2n, hdw2⟩ := hinv.wit qd d hqd
          have hq2lt := (List.getElem?_eq_some_iff.mp hw2).1
          obtain ⟨q', w', hq', hw', hw'B, hw'n, hle⟩ :=
            ih (X.ever.length - q2) (by omega) q2 w2 rfl hw2 hw2B hw2n
          exact ⟨q', w', by omega, hw', hw'B, hw'n, hwd.trans (hdw2.trans hle)⟩
  -- the cleaners
  have hcl : ∀ j, (∀ nme ∈ ((cleaned N X k r).cl j).ignored, N.parse nme = none) ∧
      (∀ e ∈ B', ∀ c ∈ B', e.inst = c.inst → e.ts < c.ts → ∀ u,
        Cleaner.look (N.nameOf c) ((cleaned N X k r).cl j).firstSeen = some u →
        ∃ t, Cleaner.look (N.nameOf e) ((cleaned N X k r).cl j).firstSeen = some t ∧ t ≤ u) ∧
      (∀ nme t, Cleaner.look nme ((cleaned N X k r).cl j).firstSeen = some t →
        ∃ x ∈ X.ever, nme = N.nameOf x) := by
    intro j
    have hclj : (cleaned N X k r).cl j = if j = k then r.1 else X.cl j := rfl
    rw [hclj]
    by_cases hj : j = k
    · rw [if_pos hj]
      exact ⟨c1, fun e he c hc => c2 e ((hB e).mp he).1 c ((hB c).mp hc).1, c3⟩
    · rw [if_neg hj]
      exact ⟨hinv.clig j, fun e he c hc => hinv.clfs j e ((hB e).mp he).1 c ((hB c).mp hc).1,
        hinv.clkeys j⟩
  refine
    { shared := ?_, nodup := ?_, wf := hinv.wf, sub := ?_, ok := hinv.ok, ord := hinv.ord,
      own := hinv.own, pend := hinv.pend, lastBy := hinv.lastBy, loadpc := hinv.loadpc,
      storedpc := hinv.storedpc, comm := hinv.comm, wit := ?_, clig := fun j => (hcl j).1,
      clfs := fun j => hbk ▸ (hcl j).2.1, clkeys := fun j => (hcl j).2.2 }
  · intro j
    show (X.F j).bucket.filter _ = _
    rw [hinv.shared j, hbk, hB']
  · rw [hbk, ← hB']; exact hinv.nodup.filter _
  · intro x hx
    rw [hbk] at hx
    exact hinv.sub x ((hB x).mp hx).1
  · intro p x hp
    rw [hbk]
    obtain ⟨q, w, hpq, hw, hwB, hwn, hle⟩ := hinv.wit p x hp
    obtain ⟨q', w', hq', hw', hw'B, hw'n, hle'⟩ := key _ q w rfl hw hwB hwn
    exact ⟨q', w', by omega, hw', hw'B, hw'n, hle.trans hle'⟩

theorem xinv_update {N : Naming} {cs : Nat → LoopCfg} {n : Nat} {X : XF} (hinv : XInv N cs n X)
    {k : Nat} (X' : XF)
    (hev : X'.ever = X.ever) (hbk : ∀ j, (X'.F j).bucket = X.bucket) (hcl : X'.cl = X.cl)
    (hoth : ∀ j, j ≠ k → (X'.F j).st = (X.F j).st)
    (hwf : EnvWF (X'.F k).st.env) (hJ : XInvJ (cs k) X.ever (X'.F k).st) : XInv N cs n X' := by
  have hB : X'.bucket = X.bucket := hbk 0
  have hJ' : ∀ j, j < n → XInvJ (cs j) X'.ever (X'.F j).st := by
    intro j hj
    rw [hev]
    by_cases hjk : j = k
    · rw [hjk]; exact hJ
    · rw [hoth j hjk]; exact hinv.inst hj
  refine
    { shared := fun j => by rw [hbk j, hB], nodup := by rw [hB]; exact hinv.nodup, wf := ?_,
      sub := by rw [hB, hev]; exact hinv.sub, ok := by rw [hev]; exact hinv.ok,
      ord := by rw [hev]; exact hinv.ord, own := fun j hj => (hJ' j hj).own,
      pend := fun j hj => (hJ' j hj).pend, lastBy := fun j hj => (hJ' j hj).lastBy,
      loadpc := fun j hj => (hJ' j hj).loadpc, storedpc := fun j hj => (hJ' j hj).storedpc,
      comm := fun j hj => (hJ' j hj).comm, wit := by rw [hB, hev]; exact hinv.wit,
      clig := by rw [hcl]; exact hinv.clig, clfs := by rw [hB, hcl]; exact hinv.clfs,
      clkeys := by rw [hev, hcl]; exact hinv.clkeys }
  intro j
  by_cases hjk : j = k
  · rw [hjk]; exact hwf
  · rw [hoth j hjk]; exact hinv.wf j

/-- the storing segment keeps the invariant: the stored dump becomes the newest blob of its
    instance and the witness of everything its predecessor witnessed -/
theorem xinv_store {N : Naming} {cs : Nat → LoopCfg} {n : Nat} {X : XF} (hinv : XInv N cs n X)
    (hown : ∀ i j, i < n → j < n → (cs i).own = (cs j).own → i = j)
    {k : Nat} (hk : k < n) (X' : XF) {who : Caller} {t ts : Nat} {sn : Snap}
    (hpc : (X.F k).st.pc = .sendAfterTxn who t ts sn)
    (hev : X'.ever = X.ever ++ [{ inst := (cs k).own, ts := ts, snap := sn }])
    (hbk : ∀ j, (X'.F j).bucket = X.bucket ++ [{ inst := (cs k).own, ts := ts, snap := sn }])
    (hcl : X'.cl = X.cl)
    (hoth : ∀ j, j ≠ k → (X'.F j).st = (X.F j).st)
    (henv : (X'.F k).st.env = (X.F k).st.env)
    (hlb : (X'.F k).st.lastBy = (X.F k).st.lastBy)
    (hcm : (X'.F k).st.committed = (X.F k).st.committed)
    (hpc' : ∃ who' t', (X'.F k).st.pc = .sendStored who' t') :
    XInv N cs n X' := by
  obtain ⟨hsok, hsle, hsown, hslast⟩ := hinv.pend k hk who t ts sn hpc
  generalize hx' : ({ inst := (cs k).own, ts := ts, snap := sn } : Blob) = x' at hev hbk
  have hx'i : x'.inst = (cs k).own := by rw [← hx']
  have hx't : x'.ts = ts := by rw [← hx']
  have hx'c : blobDB x' = absSnap sn := by rw [← hx']; rfl
  have hB : X'.bucket = X.bucket ++ [x'] := hbk 0
  have hEsub : ∀ x ∈ X.ever, x ∈ X'.ever := fun x hx => by rw [hev]; exact List.mem_append_left _ hx
  have hlen : X'.ever[X.ever.length]? = some x' := by
    rw [hev, List.getElem?_append_right (Nat.le_refl _), Nat.sub_self]; rfl
  have hidx : ∀ (p : Nat) (x : Blob), X'.ever[p]? = some x →
      X.ever[p]? = some x ∨ (p = X.ever.length ∧ x = x') := fun p x hp => getElem?_concat_some.mp (hev ▸ hp)
  have hold : ∀ (p : Nat) (x : Blob), X.ever[p]? = some x → X'.ever[p]? = some x :=
    fun p x hp => by rw [hev]; exact getElem?_append_old _ hp
  have hmemB : x' ∈ X'.bucket := by rw [hB]; exact List.mem_append_right _ (List.mem_singleton.mpr rfl)
  have hnewx' : isNewest X'.bucket x' = true := by
    rw [isNewest_iff, hB]
    intro y hy hi
    rcases List.mem_append.mp hy with hy | hy
    · have := (hsown y (hinv.sub y hy) (by rw [hi, hx'i])).1
      omega
    · rw [List.mem_singleton.mp hy]; exact Nat.le_refl _
  -- the instances
  have hJ : ∀ j, j < n → XInvJ (cs j) X'.ever (X'.F j).st := by
    intro j hj
    rw [hev]
    by_cases hjk : j = k
    · subst hjk
      obtain ⟨w1, t1, h1⟩ := hpc'
      refine ⟨?_, fun _ _ _ _ h => (by rw [h1] at h; cases h), ?_,
        fun _ _ _ _ _ h => (by rw [h1] at h; cases h), ?_, ?_⟩
      · intro x hx hi
        rw [henv]
        rcases List.mem_append.mp hx with hx | hx
        · exact hinv.own j hj x hx hi
        · rw [List.mem_singleton.mp hx, hx'c]; exact hsle
      · intro p hp
        rw [hlb] at hp; rw [henv]
        exact storedBelow_mono (fun x hx => List.mem_append_left _ hx) (Abs.le_refl _) (hinv.lastBy j hj p hp)
      · intro _ _ _
        refine ⟨X.ever.length, x', hev ▸ hlen, ?_⟩
        intro p hp
        rw [hlb] at hp
        obtain ⟨z, hz, h2, h3, h4⟩ := hslast p hp
        obtain ⟨i, hi⟩ := List.mem_iff_getElem?.mp hz
        exact ⟨i, z, (List.getElem?_eq_some_iff.mp hi).1, getElem?_append_old _ hi, h2, h3, by rw [hx'c]; exact h4⟩
      · intro p hp
        rw [hcm] at hp
        obtain ⟨q, d, hq, hb⟩ := hinv.comm j hj p hp
        exact ⟨q, d, getElem?_append_old _ hq, storedBefore_append _ hb⟩
    · rw [hoth j hjk]
      refine (hinv.inst hj).append [x'] ?_
      intro y hy he
      rw [List.mem_singleton.mp hy, hx'i] at he
      exact hjk (hown j k hj hk he.symm)
  refine
    { shared := fun j => by rw [hbk j, hB], nodup := ?_, wf := ?_, sub := ?_, ok := ?_, ord := ?_,
      own := fun j hj => (hJ j hj).own, pend := fun j hj => (hJ j hj).pend,
      lastBy := fun j hj => (hJ j hj).lastBy, loadpc := fun j hj => (hJ j hj).loadpc,
      storedpc := fun j hj => (hJ j hj).storedpc, comm := fun j hj => (hJ j hj).comm, wit := ?_,
      clig := by rw [hcl]; exact hinv.clig, clfs := ?_, clkeys := ?_ }
  · rw [hB]
    refine List.nodup_append.mpr ⟨hinv.nodup, by simp, ?_⟩
    intro a ha b hb hab
    rw [List.mem_singleton.mp hb] at hab
    have := (hsown a (hinv.sub a ha) (by rw [hab, hx'i])).1
    rw [hab, hx't] at this
    omega
  · intro j
    by_cases hjk : j = k
    · rw [hjk, henv]; exact hinv.wf k
    · rw [hoth j hjk]; exact hinv.wf j
  · intro x hx
    rw [hB] at hx; rw [hev]
    exact (List.mem_append.mp hx).elim (fun h => List.mem_append_left _ (hinv.sub x h))
      (List.mem_append_right _)
  · intro x hx
    rw [hev] at hx
    rcases List.mem_append.mp hx with hx | hx
    · exact hinv.ok x hx
    · rw [List.mem_singleton.mp hx, ← hx']; exact hsok
  · intro p q x y hpq hp hq hi
    have hp' : X.ever[p]? = some x := by
      rcases hidx p x hp with h1 | ⟨h1, _⟩
      · exact h1
      · have := (List.getElem?_eq_some_iff.mp hq).1
        rw [hev, List.length_append, List.length_singleton] at this
        omega
    rcases hidx q y hq with hq' | ⟨_, hq2⟩
    · exact hinv.ord p q x y hpq hp' hq' hi
    · subst hq2
      rw [hx't, hx'c]
      exact hsown x (List.mem_of_getElem? hp') (by rw [hi, hx'i])
  · intro p x hp
    rcases hidx p x hp with hp' | ⟨hp1, hp2⟩
    · obtain ⟨q, w, hpq, hw, hwB, hwn, hle⟩ := hinv.wit p x hp'
      by_cases hwi : w.inst = x'.inst
      · -- the new blob takes over
        have := (List.getElem?_eq_some_iff.mp hw).1
        refine ⟨X.ever.length, x', by omega, hlen, hmemB, hnewx', ?_⟩
        rw [hx'c]
        exact hle.trans (hsown w (hinv.sub w hwB) (by rw [hwi, hx'i])).2
      · refine ⟨q, w, hpq, hold q w hw, by rw [hB]; exact List.mem_append_left _ hwB, ?_, hle⟩
        rw [isNewest_iff, hB]
        intro y hy hi
        rcases List.mem_append.mp hy with hy | hy
        · exact (isNewest_iff.mp hwn) y hy hi
        · rw [List.mem_singleton.mp hy] at hi
          exact absurd hi.symm hwi
    · subst hp2
      exact ⟨p, x, Nat.le_refl _, hp, hmemB, hnewx', Abs.le_refl _⟩
  · -- the new blob is unknown to every cleaner and newer than its instance's blobs
    intro j e he c hc hi hlt u hu
    rw [hcl] at hu ⊢
    rw [hB] at he hc
    have hcB : c ∈ X.bucket := by
      rcases List.mem_append.mp hc with h1 | h1
      · exact h1
      · rw [List.mem_singleton.mp h1] at hu
        obtain ⟨y, hy, hny⟩ := hinv.clkeys j _ u hu
        obtain ⟨h1, h2⟩ := N.inj hny
        have := (hsown y hy (by rw [← h1, hx'i])).1
        omega
    have heB : e ∈ X.bucket := by
      rcases List.mem_append.mp he with h1 | h1
      · exact h1
      · rw [List.mem_singleton.mp h1] at hi hlt
        have := (hsown c (hinv.sub c hcB) (by rw [← hi, hx'i])).1
        omega
    exact hinv.clfs j e heB c hcB hi hlt u hu
  · intro j nme t1 h1
    rw [hcl] at h1
    obtain ⟨y, hy, hny⟩ := hinv.clkeys j nme t1 h1
    exact ⟨y, hEsub y hy, hny⟩

theorem XInvJ.grow {c : LoopCfg} {E : List Blob} {s s' : St} (h : XInvJ c E s)
    (hle : (absEnv s.env).le (absEnv s'.env)) (hpc : s'.pc = s.pc)
    (hlb : s'.lastBy = s.lastBy) (hcm : s'.committed = s.committed) : XInvJ c E s' := by
  refine ⟨fun x hx hi => (h.own x hx hi).trans hle, ?_,
    fun p hp => storedBelow_mono (fun _ hx => hx) hle (h.lastBy p (hlb ▸ hp)),
    fun t lc a T m h1 => storedBelow_mono (fun _ hx => hx) hle (h.loadpc t lc a T m (hpc ▸ h1)),
    fun who t h1 => hlb ▸ h.storedpc who t (hpc ▸ h1), fun p hp => h.comm p (hcm ▸ hp)⟩
  intro who t ts sn h1
  obtain ⟨a1, a2, a3, a4⟩ := h.pend who t ts sn (hpc ▸ h1)
  exact ⟨a1, a2.trans hle, a3, hlb ▸ a4⟩

theorem XInvJ.loadLastBy {c : LoopCfg} {E : List Blob} {s : St} (h : XInvJ c E s)
    {D : Abs.DB} (hle : (absEnv s.env).le D) :
    ∀ p ∈ loadLastBy s, StoredBelow E p.1 p.2 D := by
  intro p hp
  have hmono := fun {a T} => storedBelow_mono (E := E) (a := a) (T := T) (fun _ hx => hx) hle
  unfold Loop.loadLastBy at hp
  split at hp
  · rename_i t lc a T m hpc
    rcases mem_setAssoc hp with h1 | h1
    · rw [h1]; exact hmono (h.loadpc t lc a T m hpc)
    · exact hmono (h.lastBy p h1)
  · exact hmono (h.lastBy p hp)

theorem XInvJ.committedAfter {c : LoopCfg} {E : List Blob} {s : St} (h : XInvJ c E s) :
    ∀ p ∈ committedAfter s, ∃ (q : Nat) (d : Blob), E[q]? = some d ∧ StoredBefore E p.1 p.2 q d := by
  intro p hp
  unfold Loop.committedAfter at hp
  split at hp
  · rename_i who t hpc
    rcases mem_foldl_setAssoc _ _ p hp with h1 | h1
    · obtain ⟨q, d, hq, hall⟩ := h.storedpc who t hpc
      exact ⟨q, d, hq, hall p h1⟩
    · exact h.comm p h1
  · exact h.comm p hp

/-- side conditions of a loop event of the extended fleet: the instance belongs to the fleet, the
    conditions of `C01_loop_fleet_refines_native` (`LoopOkN`), and — per-instance clock — the time a
    segment reads is above the timestamps of all blobs its instance has stored (they are the times
    of its earlier dumps) -/
def LoopOkX (cs : Nat → LoopCfg) (n : Nat) (X : XF) (ke : Nat × Ev) : Prop :=
  ke.1 < n ∧ LoopOkN cs X.F ke ∧
  match ke.2 with
  | .go i => ∀ x ∈ X.ever, x.inst = (cs ke.1).own → x.ts < i.now
  | _ => True

theorem xinv_loop (N : Naming) (cs : Nat → LoopCfg) (ccfg : Nat → Cleaner.Cfg) (n : Nat)
    (hn : ∀ j, (cs j).txn.native = true) (hro : ∀ j, (cs j).txn.receiveOnly = false)
    (hown : ∀ i j, i < n → j < n → (cs i).own = (cs j).own → i = j)
    (X : XF) (ke : Nat × Ev) (hinv : XInv N cs n X) (hok : LoopOkX cs n X ke) :
    XInv N cs n (xstep N cs ccfg selCommitted X (.loop ke)) := by
  obtain ⟨k, e⟩ := ke
  obtain ⟨hk, hokN, hclock⟩ := hok
  have hk : k < n := hk
  generalize hX' : xstep N cs ccfg selCommitted X (.loop (k, e)) = X'
  have hev : X'.ever = X.ever ++ delta (cs k) (X.F k) e := by rw [← hX']; rfl
  have hcl : X'.cl = X.cl := by rw [← hX']; rfl
  have hF : X'.F = fleetStep cs X.F (k, e) := by rw [← hX']; rfl
  have hoth : ∀ j, j ≠ k → (X'.F j).st = (X.F j).st := by
    intro j hj; rw [hF]; exact (fleetStep_other cs X.F (k, e) hj).1
  have hself : X'.F k = step (cs k) (X.F k) e := by rw [hF]; exact fleetStep_self cs X.F (k, e)
  have hbk : ∀ j, (X'.F j).bucket = (step (cs k) (X.F k) e).bucket := by
    intro j; rw [hF]; exact fleetStep_shared cs X.F (k, e) X.bucket hinv.shared j
  have hBk : (X.F k).bucket = X.bucket := hinv.shared k
  have hJ := hinv.inst hk
  have hwf := hinv.wf k
  generalize hg : step (cs k) (X.F k) e = g' at hbk hself
  -- an event that stores nothing: the clauses about the new state of `k` suffice
  have upd : g'.bucket = (X.F k).bucket → EnvWF g'.st.env → XInvJ (cs k) X.ever g'.st →
      XInv N cs n X' := by
    intro hb hwf' hJ'
    have hd : delta (cs k) (X.F k) e = [] := by
      have := step_bucket_delta (cs k) (X.F k) e
      rw [hg, hb] at this
      exact (List.append_right_eq_self.mp this.symm)
    exact xinv_update hinv X' (by rw [hev, hd, List.append_nil]) (fun j => by rw [hbk j, hb, hBk]) hcl
      hoth (by rw [hself]; exact hwf') (by rw [hself]; exact hJ')
  cases e with
  | list =>
    subst hg
    exact upd rfl hwf (hJ.grow (Abs.le_refl _) rfl rfl rfl)
  | others bs =>
    subst hg
    obtain rfl : bs = [] := hokN
    exact upd (List.append_nil _) hwf hJ
  | app ops =>
    subst hg
    obtain ⟨name, key, val, rfl, hp, hv, hd, hmono⟩ := hokN
    have hpc := (appCommit_facts (X.F k).st [.put name key val]).1
    have hlbc : (appCommit (X.F k).st [.put name key val]).lastBy = (X.F k).st.lastBy ∧
        (appCommit (X.F k).st [.put name key val]).committed = (X.F k).st.committed := by
      unfold appCommit; split <;> exact ⟨rfl, rfl⟩
    rcases appCommit_put (key := key) hwf hp hv hd with ⟨_, henv⟩ | ⟨_, hwf', habs⟩
    · exact upd rfl (henv ▸ hwf) (hJ.grow (henv ▸ Abs.le_refl _) hpc hlbc.1 hlbc.2)
    · exact upd rfl hwf' (hJ.grow (habs ▸ Abs.le_upd hmono) hpc hlbc.1 hlbc.2)
  | go i =>
    subst hg
    obtain ⟨hT, hflags⟩ := hokN
    have hclock : ∀ x ∈ X.ever, x.inst = (cs k).own → x.ts < i.now := hclock
    obtain ⟨hlb, hcm⟩ := go_books (cs k) (X.F k).bucket (X.F k).st i
    have hlb : (step (cs k) (X.F k) (.go i)).st.lastBy = loadLastBy (X.F k).st := hlb
    have hcm : (step (cs k) (X.F k) (.go i)).st.committed = committedAfter (X.F k).st := hcm
    cases step_segTxn (cs k) (X.F k) i with
    | quiet h1 h2 h3 =>
      have henv := h1.native (hn k)
      refine upd h2 (henv ▸ hwf) ⟨henv ▸ hJ.own, fun _ _ _ _ h => (by rw [h] at h3; cases h3), ?_,
        fun _ _ _ _ _ h => (by rw [h] at h3; cases h3), fun _ _ h => (by rw [h] at h3; cases h3), ?_⟩
      · rw [hlb, henv]; exact hJ.loadLastBy (Abs.le_refl _)
      · rw [hcm]; exact hJ.committedAfter
    | store who t ts sn t' hpc _ _ h1 h2 h3 =>
      have hd : delta (cs k) (X.F k) (.go i) = [{ inst := (cs k).own, ts := ts, snap := sn }] := by
        have := step_bucket_delta (cs k) (X.F k) (.go i)
        rw [h3] at this
        exact (List.append_cancel_left this).symm
      refine xinv_store hinv hown hk X' hpc (by rw [hev, hd]) (fun j => by rw [hbk j, h3, hBk]) hcl hoth
        (by rw [hself]; exact h1) ?_ ?_ ⟨who, t', by rw [hself]; exact h2⟩
      · rw [hself, hlb]; unfold loadLastBy; rw [hpc]
      · rw [hself, hcm]; unfold committedAfter; rw [hpc]
    | load s1 m inst ts blob r _ _ hx hy h4 h5 h6 h7 =>
      obtain ⟨hbB, hbi, hbt⟩ := findBlob_some hy
      have hbE := hinv.sub blob (hBk ▸ hbB)
      obtain ⟨hwf', habs⟩ := loadOnce_abs (cs k).txn (X.F k).st.env blob.snap s1.lastSynced i.now r
        (hn k) hT hwf ⟨hinv.ok blob hbE, fun mm hm hp => hflags inst ts blob hx hy mm hm hp⟩ h4
      have hdb : absEnv (step (cs k) (X.F k) (.go i)).st.env = (absEnv (X.F k).st.env).join (blobDB blob) := by
        rw [h5]; funext key; exact habs key
      have hle : (absEnv (X.F k).st.env).le (absEnv (step (cs k) (X.F k) (.go i)).st.env) := by
        rw [hdb]; exact Abs.DB.le_join_left _ _
      refine upd h7 (h5 ▸ hwf') ⟨fun x hx' hi => (hJ.own x hx' hi).trans hle,
        fun _ _ _ _ h => (by rw [h6] at h; cases h), ?_, ?_, fun _ _ h => (by rw [h6] at h; cases h), ?_⟩
      · rw [hlb]; exact hJ.loadLastBy hle
      · intro t' lc a T m' h
        rw [h6] at h
        injection h with _ _ e3 e4 _
        subst e3 e4
        refine ⟨blob, hbE, hbi, hbt, ?_⟩
        rw [hdb]; exact Abs.DB.le_join_right _ _
      · rw [hcm]; exact hJ.committedAfter
    | dump env1 r who _ h0 hs h1 h2 h3 =>
      obtain rfl := h0.native (hn k)
      obtain ⟨hre, habs, hnd, hms⟩ := sendOnce_abs (cs k).txn (X.F k).st.env i.now 0 r (hn k) (hro k) hwf hs
      have henv : (step (cs k) (X.F k) (.go i)).st.env = (X.F k).st.env := h1.trans hre
      have hsn : absSnap r.snap = absEnv (X.F k).st.env := funext habs
      have hlast := hJ.loadLastBy (Abs.le_refl _)
      refine upd h3 (henv ▸ hwf) ⟨henv ▸ hJ.own, ?_, ?_, fun _ _ _ _ _ h => (by rw [h2] at h; cases h),
        fun _ _ h => (by rw [h2] at h; cases h), ?_⟩
      · intro who' t' ts' sn' h
        rw [h2] at h
        injection h with _ _ e3 e4
        subst e3 e4
        rw [hsn, henv, hlb]
        exact ⟨⟨hnd, fun m hm _ => (hms m hm).2.1⟩, Abs.le_refl _,
          fun x hx hi => ⟨hclock x hx hi, hJ.own x hx hi⟩, hlast⟩
      · rw [hlb, henv]; exact hlast
      · rw [hcm]; exact hJ.committedAfter

def XOk (cs : Nat → LoopCfg) (n : Nat) (X : XF) : XEv → Prop
  | .loop ke => LoopOkX cs n X ke
  | .clean k now => CleanOk n X k now

def XRunOk (N : Naming) (cs : Nat → LoopCfg) (ccfg : Nat → Cleaner.Cfg) (n : Nat) : XF → List XEv → Prop
  | _, [] => True
  | X, e :: es => XOk cs n X e ∧ XRunOk N cs ccfg n (xstep N cs ccfg selCommitted X e) es

theorem xstep_ever (N : Naming) (cs : Nat → LoopCfg) (ccfg : Nat → Cleaner.Cfg)
    (sel : SyncLoop.St → List (InstId × Nat)) (X : XF) (e : XEv) (p : Nat) (x : Blob)
    (h : X.ever[p]? = some x) : (xstep N cs ccfg sel X e).ever[p]? = some x := by
  cases e with
  | loop ke => exact getElem?_append_old _ h
  | clean k now => exact h

theorem xinv_step (N : Naming) (cs : Nat → LoopCfg) (ccfg : Nat → Cleaner.Cfg) (n : Nat)
    (hn : ∀ j, (cs j).txn.native = true) (hro : ∀ j, (cs j).txn.receiveOnly = false)
    (hown : ∀ i j, i < n → j < n → (cs i).own = (cs j).own → i = j)
    (X : XF) (e : XEv) (hinv : XInv N cs n X) (hok : XOk cs n X e) :
    XInv N cs n (xstep N cs ccfg selCommitted X e) ∧
    (bucketJoin X.bucket).le (bucketJoin (xstep N cs ccfg selCommitted X e).bucket) := by
  have h' : XInv N cs n (xstep N cs ccfg selCommitted X e) := by
    cases e with
    | loop ke => exact xinv_loop N cs ccfg n hn hro hown X ke hinv hok
    | clean k now => exact xinv_clean N cs ccfg n X k now hinv hok
  refine ⟨h', bucketJoin_le_of_witness fun x hx _ => ?_⟩
  obtain ⟨p, hp⟩ := List.mem_iff_getElem?.mp (hinv.sub x hx)
  obtain ⟨q, w, _, _, hw, hwn, hle⟩ := h'.wit p x (xstep_ever N cs ccfg selCommitted X e p x hp)
  exact ⟨w, hw, hwn, hle⟩

theorem xrun_append (N : Naming) (cs : Nat → LoopCfg) (ccfg : Nat → Cleaner.Cfg)
    (sel : SyncLoop.St → List (InstId × Nat)) (X : XF) (a b : List XEv) :
    xrun N cs ccfg sel X (a ++ b) = xrun N cs ccfg sel (xrun N cs ccfg sel X a) b := List.foldl_append

theorem xrunOk_append {N : Naming} {cs : Nat → LoopCfg} {ccfg : Nat → Cleaner.Cfg} {n : Nat} :
    ∀ (a b : List XEv) (X : XF), XRunOk N cs ccfg n X (a ++ b) →
      XRunOk N cs ccfg n X a ∧ XRunOk N cs ccfg n (xrun N cs ccfg selCommitted X a) b := by
  intro a
  induction a with
  | nil => intro b X h; exact ⟨trivial, h⟩
  | cons e es ih =>
    intro b X h
    obtain ⟨h1, h2⟩ := h
    obtain ⟨h3, h4⟩ := ih b _ h2
    exact ⟨⟨h1, h3⟩, h4⟩

theorem xinv_run (N : Naming) (cs : Nat → LoopCfg) (ccfg : Nat → Cleaner.Cfg) (n : Nat)
    (hn : ∀ j, (cs j).txn.native = true) (hro : ∀ j, (cs j).txn.receiveOnly = false)
    (hown : ∀ i j, i < n → j < n → (cs i).own = (cs j).own → i = j) :
    ∀ (evs : List XEv) (X : XF), XInv N cs n X → XRunOk N cs ccfg n X evs →
      XInv N cs n (xrun N cs ccfg selCommitted X evs) ∧
      (bucketJoin X.bucket).le (bucketJoin (xrun N cs ccfg selCommitted X evs).bucket) := by
  intro evs
  induction evs with
  | nil => intro X h _; exact ⟨h, Abs.le_refl _⟩
  | cons e es ih =>
    intro X h hok
    obtain ⟨h1, h2⟩ := xinv_step N cs ccfg n hn hro hown X e h hok.1
    obtain ⟨h3, h4⟩ := ih _ h1 hok.2
    exact ⟨h3, h2.trans h4⟩

/-- the start: every loop boots from its own well-formed environment, fresh cleaners, empty bucket -/
def xinit (envs : Nat → Env) : XF :=
  { F := fun j => G.init (envs j) [], cl := fun _ => Cleaner.St.init, ever := [] }

theorem xinv_init (N : Naming) (cs : Nat → LoopCfg) (n : Nat) (envs : Nat → Env)
    (hwf : ∀ j, EnvWF (envs j)) : XInv N cs n (xinit envs) := by
  refine
    { shared := fun _ => rfl, nodup := List.nodup_nil, wf := hwf, sub := fun _ h => (by cases h),
      ok := fun _ h => (by cases h), ord := fun p q x y _ h => (by simp [xinit] at h),
      own := fun _ _ _ h => (by cases h), pend := ?_, lastBy := fun _ _ _ h => (by cases h),
      loadpc := ?_, storedpc := ?_, comm := fun _ _ _ h => (by cases h),
      wit := fun p x h => (by simp [xinit] at h), clig := fun _ _ h => (by cases h),
      clfs := fun _ _ h => (by cases h), clkeys := fun _ _ _ h => (by simp [xinit, Cleaner.St.init] at h) }
  · intro j _ who t ts sn h; simp [xinit, G.init, SyncLoop.init] at h
  · intro j _ t lc a T m h; simp [xinit, G.init, SyncLoop.init] at h
  · intro j _ who t h; simp [xinit, G.init, SyncLoop.init] at h

/-- a naming that is easy to parse back: the timestamp in unary, `@`, the instance name -/
def unaryNm (a : InstId) (t : Nat) : String := String.ofList (List.replicate t '1' ++ '@' :: a.toList)

def unaryParse : Cleaner.Parse := fun nme =>
  match nme.toList.dropWhile (· == '1') with
  | '@' :: rest =>
    some { kind := Gen.kindSnapshot, inst := String.ofList rest,
           ts := ((nme.toList.takeWhile (· == '1')).length : Int) }
  | _ => none

theorem takeWhile_ones (t : Nat) (l : List Char) :
    (List.replicate t '1' ++ '@' :: l).takeWhile (· == '1') = List.replicate t '1' ∧
    (List.replicate t '1' ++ '@' :: l).dropWhile (· == '1') = '@' :: l := by
  induction t with
  | zero => simp
  | succ t ih =>
    rw [List.replicate_succ, List.cons_append, List.takeWhile_cons, List.dropWhile_cons]
    simp [ih.1, ih.2]

def unaryNaming : Naming where
  nm := unaryNm
  parse := unaryParse
  law := by
    intro a t
    unfold unaryParse unaryNm
    rw [String.toList_ofList, (takeWhile_ones t a.toList).1, (takeWhile_ones t a.toList).2]
    simp

/-- a decidable sufficient form of `XOk` (`loopOkNB` for the loop events) -/
def xOkB (cs : Nat → LoopCfg) (n : Nat) (X : XF) : XEv → Bool
  | .loop ke =>
    decide (ke.1 < n) && loopOkNB cs X.F ke &&
    match ke.2 with
    | .go i => X.ever.all fun x => x.inst != (cs ke.1).own || decide (x.ts < i.now)
    | _ => true
  | .clean k now => decide (CleanOk n X k now)

def xRunOkB (N : Naming) (cs : Nat → LoopCfg) (ccfg : Nat → Cleaner.Cfg) (n : Nat) : XF → List XEv → Bool
  | _, [] => true
  | X, e :: es => xOkB cs n X e && xRunOkB N cs ccfg n (xstep N cs ccfg selCommitted X e) es

theorem xRunOk_of_check {N : Naming} {cs : Nat → LoopCfg} {ccfg : Nat → Cleaner.Cfg} {n : Nat} :
    ∀ (evs : List XEv) (X : XF), xRunOkB N cs ccfg n X evs = true → XRunOk N cs ccfg n X evs
  | [], _, _ => trivial
  | e :: es, X, h => by
    simp only [xRunOkB, Bool.and_eq_true] at h
    refine ⟨?_, xRunOk_of_check es _ h.2⟩
    cases e with
    | clean k now => exact (of_decide_eq_true h.1 : CleanOk n X k now)
    | loop ke =>
      obtain ⟨k, e⟩ := ke
      have h1 := h.1
      simp only [xOkB, Bool.and_eq_true, decide_eq_true_eq] at h1
      refine ⟨h1.1.1, loopOkN_of_check h1.1.2, ?_⟩
      cases e with
      | go i =>
        intro x hx hown
        have h3 := List.all_eq_true.mp h1.2 x hx
        simp only [Bool.or_eq_true, bne_iff_ne, ne_eq, decide_eq_true_eq] at h3
        exact h3.resolve_left (fun hne => hne hown)
      | _ => trivial

end Ls.Loop
