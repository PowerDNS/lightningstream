import LsModel.Cleaner
import LsModel.CleanerSpec
/-
  Lemmas about one `RunOnce` of the cleaner model: map lookups, the candidates, the sort, the two
  filters, what ends up being passed to Delete, and the new state. Core Lean only.
-/
namespace Ls.Cleaner

theorem exists_mem_cons_of_mem_tail {α : Type} {p : α → Prop} {x : α} {xs : List α}
    (h : ∃ c ∈ xs, p c) : ∃ c ∈ x :: xs, p c :=
  h.imp fun _ hc => ⟨List.mem_cons_of_mem _ hc.1, hc.2⟩

@[simp] theorem look_nil (k : String) : look k [] = none := rfl

theorem look_cons (k a : String) (v : Int) (es : List (String × Int)) :
    look k ((a, v) :: es) = if k = a then some v else look k es := rfl

theorem look_append (k : String) (as bs : List (String × Int)) :
    look k (as ++ bs) = (look k as).or (look k bs) := by
  induction as with
  | nil => rfl
  | cons e as ih =>
    obtain ⟨a, v⟩ := e
    rw [List.cons_append, look_cons, look_cons, ih]
    split <;> rfl

theorem look_filter (p : String → Bool) (k : String) (es : List (String × Int)) :
    look k (es.filter (fun q => p q.1)) = if p k then look k es else none := by
  induction es with
  | nil => simp
  | cons e es ih =>
    obtain ⟨a, v⟩ := e
    rw [List.filter_cons]
    by_cases hk : k = a
    · subst hk; cases hp : p k <;> simp [look_cons, ih, hp]
    · cases p a <;> simp [look_cons, ih, hk]

theorem look_mem {k : String} {v : Int} {es : List (String × Int)} (h : look k es = some v) :
    (k, v) ∈ es := by
  induction es with
  | nil => simp at h
  | cons e es ih =>
    obtain ⟨a, w⟩ := e
    rw [look_cons] at h
    split at h
    · next hk => cases h; cases hk; exact List.mem_cons_self
    · exact List.mem_cons_of_mem _ (ih h)

theorem look_of_mem_unique {k : String} {t : Int} {es : List (String × Int)} (hm : (k, t) ∈ es)
    (hu : ∀ u, (k, u) ∈ es → u = t) : look k es = some t := by
  induction es with
  | nil => cases hm
  | cons e es ih =>
    obtain ⟨a, v⟩ := e
    rw [look_cons]
    split
    · next hk => subst hk; rw [hu v List.mem_cons_self]
    · next hk =>
      rcases List.mem_cons.mp hm with h | h
      · cases h; exact absurd rfl hk
      · exact ih h fun u h' => hu u (List.mem_cons_of_mem _ h')

section filters
variable {mk ro now : Int} {cs : List Cand} {fs : List (String × Int)} {seen : List String}

theorem filter1_sublist : (filter1 mk now cs fs seen).1.Sublist cs := by
  induction cs generalizing fs seen with
  | nil => simp [filter1]
  | cons x xs ih =>
    unfold filter1
    split
    · exact ih.cons _
    · split
      · exact ih.cons _
      · exact ih.cons_cons _

/-- with distinct names, the first filter judges every candidate by snapFirstSeen as it was before the
    run: what it lets through was recorded longer ago than the keep interval, and it marks an instance
    only on account of a snapshot recorded within the keep interval -/
theorem filter1_spec (hnd : (cs.map (·.name)).Nodup) :
    (∀ c ∈ (filter1 mk now cs fs seen).1, ∃ t, look c.name fs = some t ∧ now - t > mk) ∧
    (∀ i ∈ (filter1 mk now cs fs seen).2.2,
      i ∈ seen ∨ ∃ c ∈ cs, c.inst = i ∧ ∃ t, look c.name fs = some t ∧ now - t ≤ mk) := by
  induction cs generalizing fs seen with
  | nil => exact ⟨fun c h => absurd h List.not_mem_nil, fun i h => Or.inl h⟩
  | cons x xs ih =>
    rw [List.map_cons, List.nodup_cons] at hnd
    unfold filter1
    split
    · -- the entry made for `x` is not looked at again
      have key : ∀ c ∈ xs, look c.name ((x.name, now) :: fs) = look c.name fs := fun c hc => by
        have hne : c.name ≠ x.name := fun e => hnd.1 (e ▸ List.mem_map_of_mem hc)
        rw [look_cons, if_neg hne]
      obtain ⟨ih1, ih2⟩ := ih (fs := (x.name, now) :: fs) (seen := seen) hnd.2
      refine ⟨fun c hc => ?_, fun i hi => (ih2 i hi).imp_right ?_⟩
      · rw [← key c (filter1_sublist.subset hc)]; exact ih1 c hc
      · rintro ⟨c, hc, hci, r⟩
        exact ⟨c, List.mem_cons_of_mem _ hc, hci, key c hc ▸ r⟩
    · next t ht =>
      split
      · next hle =>
        obtain ⟨ih1, ih2⟩ := ih (fs := fs) (seen := x.inst :: seen) hnd.2
        refine ⟨ih1, fun i hi => ?_⟩
        rcases ih2 i hi with h | h
        · rcases List.mem_cons.mp h with rfl | h
          · exact Or.inr ⟨x, List.mem_cons_self, rfl, t, ht, hle⟩
          · exact Or.inl h
        · exact Or.inr (exists_mem_cons_of_mem_tail h)
      · next hgt =>
        obtain ⟨ih1, ih2⟩ := ih (fs := fs) (seen := seen) hnd.2
        refine ⟨fun c hc => ?_, fun i hi => (ih2 i hi).imp_right exists_mem_cons_of_mem_tail⟩
        rcases List.mem_cons.mp hc with rfl | hc
        · exact ⟨t, ht, by omega⟩
        · exact ih1 c hc

theorem filter1_old_mem {c : Cand} {t : Int} (hc : c ∈ cs) (ht : look c.name fs = some t)
    (hgt : now - t > mk) : c ∈ (filter1 mk now cs fs seen).1 := by
  induction cs generalizing fs seen with
  | nil => cases hc
  | cons x xs ih =>
    unfold filter1
    split
    · next hx =>
      have hne : c.name ≠ x.name := fun e => by rw [e, hx] at ht; cases ht
      rcases List.mem_cons.mp hc with rfl | hc
      · exact absurd rfl hne
      · exact ih hc (by rw [look_cons, if_neg hne]; exact ht)
    · next u hu =>
      split
      · rcases List.mem_cons.mp hc with rfl | hc
        · rw [hu] at ht; cases ht; omega
        · exact ih hc ht
      · rcases List.mem_cons.mp hc with rfl | hc
        · exact List.mem_cons_self
        · exact List.mem_cons_of_mem _ (ih hc ht)

theorem filter1_fs (n : String) :
    look n (filter1 mk now cs fs seen).2.1 =
      match look n fs with
      | some t => some t
      | none => if n ∈ cs.map (·.name) then some now else none := by
  induction cs generalizing fs seen with
  | nil => cases h : look n fs <;> simp [filter1, h]
  | cons x xs ih =>
    cases hx : look x.name fs with
    | none =>
      have h : (filter1 mk now (x :: xs) fs seen).2.1 =
          (filter1 mk now xs ((x.name, now) :: fs) seen).2.1 := by simp only [filter1, hx]
      rw [h, ih, look_cons]
      by_cases hn : n = x.name
      · subst hn; simp [hx]
      · simp [hn]
    | some t =>
      obtain ⟨seen', h⟩ : ∃ seen', (filter1 mk now (x :: xs) fs seen).2.1 =
          (filter1 mk now xs fs seen').2.1 := by
        simp only [filter1, hx]
        split <;> exact ⟨_, rfl⟩
      rw [h, ih]
      by_cases hn : n = x.name
      · subst hn; simp [hx]
      · simp [hn]

theorem filter2_rem_sublist : (filter2 ro now cs seen).1.Sublist cs := by
  induction cs generalizing seen with
  | nil => simp [filter2]
  | cons x xs ih =>
    unfold filter2
    split
    · exact ih.cons_cons _
    · exact ih.cons _

theorem filter2_rem {R : Cand → Cand → Prop} {c : Cand} (hp : cs.Pairwise R)
    (h : c ∈ (filter2 ro now cs seen).1) : c.inst ∈ seen ∨ ∃ e ∈ cs, e.inst = c.inst ∧ R e c := by
  induction cs generalizing seen with
  | nil => simp [filter2] at h
  | cons x xs ih =>
    obtain ⟨hx, hp'⟩ := List.pairwise_cons.mp hp
    unfold filter2 at h
    split at h
    · next hin =>
      rcases List.mem_cons.mp h with rfl | h
      · exact Or.inl hin
      · exact (ih hp' h).imp_right exists_mem_cons_of_mem_tail
    · rcases ih hp' h with h' | h'
      · rcases List.mem_cons.mp h' with h' | h'
        · exact Or.inr ⟨x, List.mem_cons_self, h'.symm, hx c (filter2_rem_sublist.subset h)⟩
        · exact Or.inl h'
      · exact Or.inr (exists_mem_cons_of_mem_tail h')

theorem filter2_rem_of {c : Cand} (hp : cs.Pairwise (fun x y => ¬ y.ts > x.ts)) (hc : c ∈ cs)
    (hor : c.inst ∈ seen ∨ ∃ e ∈ cs, e.inst = c.inst ∧ e.ts > c.ts) :
    c ∈ (filter2 ro now cs seen).1 := by
  induction cs generalizing seen with
  | nil => cases hc
  | cons x xs ih =>
    obtain ⟨hx, hp'⟩ := List.pairwise_cons.mp hp
    -- for the candidates after `x`, the instance of `x` counts as seen
    have hor' : c.inst ∈ x.inst :: seen ∨ ∃ e ∈ xs, e.inst = c.inst ∧ e.ts > c.ts := by
      rcases hor with h | ⟨e, he, hi, hgt⟩
      · exact Or.inl (List.mem_cons_of_mem _ h)
      · rcases List.mem_cons.mp he with rfl | he
        · exact Or.inl (hi ▸ List.mem_cons_self)
        · exact Or.inr ⟨e, he, hi, hgt⟩
    unfold filter2
    split
    · next hin =>
      rcases List.mem_cons.mp hc with rfl | hc
      · exact List.mem_cons_self
      · refine List.mem_cons_of_mem _ (ih hp' hc (hor'.imp_left fun h => ?_))
        rcases List.mem_cons.mp h with h | h
        · exact h ▸ hin
        · exact h
    · next hnin =>
      rcases List.mem_cons.mp hc with rfl | hc
      · -- the head of an unseen instance: nothing newer follows it in the sorted list
        rcases hor with h | ⟨e, he, hi, hgt⟩
        · exact absurd h hnin
        · rcases List.mem_cons.mp he with rfl | he
          · omega
          · exact absurd hgt (hx e he)
      · exact ih hp' hc hor'

theorem filter2_old {c : Cand} (h : c ∈ (filter2 ro now cs seen).2) : c ∈ cs ∧ now - c.ts > ro := by
  induction cs generalizing seen with
  | nil => simp [filter2] at h
  | cons x xs ih =>
    unfold filter2 at h
    split at h
    · exact (ih h).imp_left (List.mem_cons_of_mem _)
    · dsimp only at h
      split at h
      · next hgt =>
        rcases List.mem_cons.mp h with rfl | h
        · exact ⟨List.mem_cons_self, hgt⟩
        · exact (ih h).imp_left (List.mem_cons_of_mem _)
      · exact (ih h).imp_left (List.mem_cons_of_mem _)

end filters

variable {parse : Parse} {cfg : Cfg} {st : St} {now : Int}

theorem candOf_eq_some {ign : List String} {n : String} {c : Cand} :
    candOf parse ign n = some c ↔ n ∉ ign ∧ ∃ i, IsSnap parse n i ∧ c = ⟨n, i.inst, i.ts⟩ := by
  unfold candOf IsSnap
  by_cases h : n ∈ ign
  · simp [h]
  · cases parse n with
    | none => simp [h]
    | some i =>
      by_cases hk : i.kind = Gen.kindSnapshot
      · simp [h, hk, and_assoc, eq_comm]
      · simp [h, hk]

theorem mem_candidates {names : List String} {c : Cand} :
    c ∈ candidates parse st names ↔
      c.name ∈ names ∧ c.name ∉ st.ignored ∧
        ∃ i, parse c.name = some i ∧ i.kind = Gen.kindSnapshot ∧ c.inst = i.inst ∧ c.ts = i.ts := by
  unfold candidates
  rw [List.mem_filterMap]
  constructor
  · rintro ⟨n, hn, h⟩
    obtain ⟨h1, i, ⟨hp, hk⟩, rfl⟩ := candOf_eq_some.mp h
    exact ⟨hn, h1, i, hp, hk, rfl, rfl⟩
  · rintro ⟨hn, h1, i, hp, hk, hi, ht⟩
    exact ⟨c.name, hn, candOf_eq_some.mpr ⟨h1, i, ⟨hp, hk⟩, by cases c; simp_all⟩⟩

theorem candidates_isSnap {names : List String} {c : Cand} (h : c ∈ candidates parse st names) :
    c.name ∈ names ∧ IsSnap parse c.name ⟨Gen.kindSnapshot, c.inst, c.ts⟩ := by
  obtain ⟨hn, _, i, hp, hk, hi, ht⟩ := mem_candidates.mp h
  refine ⟨hn, ?_, rfl⟩
  rw [hp]; cases i; simp_all

theorem candidate_of_isSnap {names : List String} {n : String} {i : Info}
    (hn : n ∈ names) (hs : IsSnap parse n i) (hig : n ∉ st.ignored) :
    (⟨n, i.inst, i.ts⟩ : Cand) ∈ candidates parse st names :=
  mem_candidates.mpr ⟨hn, hig, i, hs.1, hs.2, rfl, rfl⟩

theorem candidates_pairwise {R : String → String → Prop} {S : Cand → Cand → Prop} {names : List String}
    (hRS : ∀ a b i j, IsSnap parse a i → IsSnap parse b j → R a b →
      S ⟨a, i.inst, i.ts⟩ ⟨b, j.inst, j.ts⟩)
    (h : names.Pairwise R) : (candidates parse st names).Pairwise S := by
  refine List.Pairwise.filterMap _ (fun a b hr c hc d hd => ?_) h
  obtain ⟨_, i, hi, rfl⟩ := candOf_eq_some.mp hc
  obtain ⟨_, j, hj, rfl⟩ := candOf_eq_some.mp hd
  exact hRS a b i j hi hj hr

theorem candidates_nodup {names : List String} (h : DistinctTimes parse names) :
    ((candidates parse st names).map (·.name)).Nodup :=
  List.pairwise_map.mpr <| candidates_pairwise (h := h) fun a b i j hi hj hr e => by
    subst e
    cases hi.1.symm.trans hj.1
    exact hr i i hi hi rfl rfl

theorem candidates_nodup_of_nodup {names : List String} (h : names.Nodup) :
    ((candidates parse st names).map (·.name)).Nodup :=
  List.pairwise_map.mpr <| candidates_pairwise (fun _ _ _ _ _ _ hr => hr) h

theorem sortCands_perm (cs : List Cand) : (sortCands cs).Perm cs := List.mergeSort_perm _ _

theorem mem_sortCands {cs : List Cand} {c : Cand} : c ∈ sortCands cs ↔ c ∈ cs :=
  (sortCands_perm cs).mem_iff

theorem sortCands_sorted (cs : List Cand) : (sortCands cs).Pairwise (fun a b => a.ts ≥ b.ts) := by
  have h := List.pairwise_mergeSort (le := newerEq)
    (by intro a b c; simp only [newerEq, decide_eq_true_eq]; omega)
    (by intro a b; simp only [newerEq, Bool.or_eq_true, decide_eq_true_eq]; omega) cs
  exact h.imp (by intro a b; simp [newerEq])

theorem provenMerged_iff {m : List (String × Int)} {c : Cand} :
    provenMerged m c = true ↔ ∃ t, look c.inst m = some t ∧ c.ts ≤ t := by
  unfold provenMerged
  cases look c.inst m <;> simp

theorem look_gc {cs : List Cand} {n : String} :
    look n (gcFirstSeen st cs) = if n ∈ cs.map (·.name) then look n st.firstSeen else none := by
  unfold gcFirstSeen
  rw [look_filter (fun k => decide (k ∈ cs.map (·.name)))]
  simp

theorem stage1_sub {cs : List Cand} {c : Cand} (h : c ∈ (stage1 cfg st now cs).1) : c ∈ cs :=
  mem_sortCands.mp (filter1_sublist.subset h)

theorem mem_toDelete {cs : List Cand} {c : Cand} :
    c ∈ toDelete cfg st now cs ↔
      c ∈ (stage2 cfg st now cs).1 ∨
        (c ∈ (stage2 cfg st now cs).2 ∧ provenMerged st.committed c = true) := by
  simp [toDelete, List.mem_append, List.mem_filter]

theorem toDelete_stage1 {cs : List Cand} {c : Cand} (h : c ∈ toDelete cfg st now cs) :
    c ∈ (stage1 cfg st now cs).1 := by
  rcases mem_toDelete.mp h with h | ⟨h, _⟩
  · exact filter2_rem_sublist.subset h
  · exact (filter2_old h).1

theorem toDelete_sub {cs : List Cand} {c : Cand} (h : c ∈ toDelete cfg st now cs) : c ∈ cs :=
  stage1_sub (toDelete_stage1 h)

/-- Why a candidate is passed to Delete (names distinct). It was in snapFirstSeen before the run, longer
    ago than the keep interval, and either another candidate of its instance is inside the keep interval
    or sorted before it (first delete loop), or it is older than `removeOld` and its merge is proven
    (stale-instance rule). -/
theorem toDelete_cases {cs : List Cand} {c : Cand} (hnd : (cs.map (·.name)).Nodup)
    (h : c ∈ toDelete cfg st now cs) :
    (∃ t, look c.name st.firstSeen = some t ∧ now - t > cfg.mustKeep) ∧
    ((∃ e ∈ cs, e.inst = c.inst ∧ e.name ≠ c.name ∧
        ((∃ t, look e.name st.firstSeen = some t ∧ now - t ≤ cfg.mustKeep) ∨ e.ts ≥ c.ts)) ∨
      (now - c.ts > cfg.removeOld ∧ provenMerged st.committed c = true)) := by
  have hs := ((sortCands_perm cs).map (·.name)).nodup_iff.mpr hnd
  obtain ⟨hold, hrecent⟩ := filter1_spec (mk := cfg.mustKeep) (now := now) (fs := gcFirstSeen st cs)
    (seen := []) hs
  have hgc : ∀ {n t}, look n (gcFirstSeen st cs) = some t → look n st.firstSeen = some t := by
    intro n t h
    rw [look_gc] at h
    split at h
    · exact h
    · cases h
  obtain ⟨u, hu, hgt⟩ := hold c (toDelete_stage1 h)
  refine ⟨⟨u, hgc hu, hgt⟩, ?_⟩
  rcases mem_toDelete.mp h with h2 | ⟨h2, hp⟩
  · left
    have hsorted : (stage1 cfg st now cs).1.Pairwise (fun x y => x.ts ≥ y.ts ∧ x.name ≠ y.name) :=
      ((sortCands_sorted cs).and (List.pairwise_map.mp hs)).sublist filter1_sublist
    rcases filter2_rem hsorted h2 with hseen | ⟨e, he, hi, hge, hne⟩
    · rcases hrecent _ hseen with hnil | ⟨e, he, hi, t, ht, hle⟩
      · cases hnil
      · refine ⟨e, mem_sortCands.mp he, hi, fun heq => ?_, Or.inl ⟨t, hgc ht, hle⟩⟩
        rw [heq, hu] at ht; cases ht; omega
    · exact ⟨e, stage1_sub he, hi, hne, Or.inr hge⟩
  · exact Or.inr ⟨(filter2_old h2).2, hp⟩

theorem toDelete_newest {cs : List Cand} {c : Cand}
    (hnd : (cs.map (·.name)).Nodup) (h : c ∈ toDelete cfg st now cs)
    (hnewest : ∀ e ∈ cs, e.name ≠ c.name → e.inst = c.inst → e.ts < c.ts)
    (hord : ∀ e ∈ cs, e.inst = c.inst → e.ts < c.ts → ∀ t u,
      look e.name st.firstSeen = some t → look c.name st.firstSeen = some u → t ≤ u) :
    now - c.ts > cfg.removeOld ∧ provenMerged st.committed c = true := by
  obtain ⟨⟨u, hu, hgt⟩, ⟨e, he, hi, hne, hrec | hge⟩ | hstale⟩ := toDelete_cases hnd h
  · obtain ⟨t, ht, hle⟩ := hrec
    have := hord e he hi (hnewest e he hne hi) t u ht hu
    omega
  · have := hnewest e he hne hi
    omega
  · exact hstale

theorem toDelete_superseded {cs : List Cand} {a b : Cand} {ta tb : Int}
    (ha : a ∈ cs) (hb : b ∈ cs) (hi : b.inst = a.inst) (hts : a.ts < b.ts)
    (hfa : look a.name st.firstSeen = some ta) (hga : now - ta > cfg.mustKeep)
    (hfb : look b.name st.firstSeen = some tb) (hgb : now - tb > cfg.mustKeep) :
    a ∈ toDelete cfg st now cs := by
  have key : ∀ c ∈ cs, ∀ t, look c.name st.firstSeen = some t → now - t > cfg.mustKeep →
      c ∈ (stage1 cfg st now cs).1 := by
    intro c hc t ht hgt
    refine filter1_old_mem (mem_sortCands.mpr hc) ?_ hgt
    rw [look_gc, if_pos (List.mem_map_of_mem hc)]; exact ht
  refine mem_toDelete.mpr (Or.inl ?_)
  refine filter2_rem_of ?_ (key a ha ta hfa hga) (Or.inr ⟨b, key b hb tb hfb hgb, hi, hts⟩)
  exact ((sortCands_sorted cs).imp (by intro x y h; omega)).sublist filter1_sublist

theorem runOnce_disabled (h : cfg.enabled = false) (l : Option (List String)) (df : String → Bool) :
    runOnce parse cfg st now l df = (st, Out.none 0 false) := by
  simp [runOnce, h]

theorem runOnce_listFails (h : cfg.enabled = true) (df : String → Bool) :
    runOnce parse cfg st now none df = (st, Out.none 1 true) := by
  simp [runOnce, h]

theorem runOnce_some (h : cfg.enabled = true) (names : List String) (df : String → Bool) :
    runOnce parse cfg st now (some names) df =
      ({ ignored := st.ignored ++ newIgnored parse st.ignored names,
         firstSeen := (stage1 cfg st now (candidates parse st names)).2.1,
         committed := st.committed },
       { listCalls := 1, err := false,
         delCalls := (toDelete cfg st now (candidates parse st names)).map (·.name),
         deleted := ((toDelete cfg st now (candidates parse st names)).map (·.name)).filter
           (fun n => !df n) }) := by
  simp [runOnce, h]

theorem mem_delCalls {l : Option (List String)} {df : String → Bool} {n : String}
    (h : n ∈ (runOnce parse cfg st now l df).2.delCalls) :
    cfg.enabled = true ∧ ∃ names, l = some names ∧
      ∃ c ∈ toDelete cfg st now (candidates parse st names), c.name = n := by
  cases he : cfg.enabled with
  | false => rw [runOnce_disabled he] at h; simp [Out.none] at h
  | true =>
    cases l with
    | none => rw [runOnce_listFails he] at h; simp [Out.none] at h
    | some names =>
      rw [runOnce_some he] at h
      exact ⟨rfl, names, rfl, by simpa [List.mem_map] using h⟩

theorem runOnce_firstSeen (h : cfg.enabled = true) (names : List String) (df : String → Bool)
    (n : String) :
    look n (runOnce parse cfg st now (some names) df).1.firstSeen =
      if n ∈ (candidates parse st names).map (·.name) then
        (match look n st.firstSeen with | some t => some t | none => some now)
      else none := by
  rw [runOnce_some h]
  dsimp only [stage1]
  rw [filter1_fs, look_gc]
  have hm := ((sortCands_perm (candidates parse st names)).map (·.name)).mem_iff (a := n)
  by_cases hn : n ∈ (candidates parse st names).map (·.name)
  · cases look n st.firstSeen <;> simp [hm, hn]
  · simp [hm, hn]

theorem runOnce_ignored (h : cfg.enabled = true) (names : List String) (df : String → Bool)
    {n : String} (hn : n ∈ (runOnce parse cfg st now (some names) df).1.ignored) :
    n ∈ st.ignored ∨ parse n = none := by
  rw [runOnce_some h] at hn
  refine (List.mem_append.mp hn).imp_right fun hn => ?_
  simp only [newIgnored, List.mem_filter, Bool.and_eq_true, Option.isNone_iff_eq_none] at hn
  exact hn.2.2

theorem runOnce_committed (l : Option (List String)) (df : String → Bool) :
    (runOnce parse cfg st now l df).1.committed = st.committed := by
  unfold runOnce
  split
  · rfl
  · split <;> rfl

end Ls.Cleaner
