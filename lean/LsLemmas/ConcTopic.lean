import LsLemmas.ConcUtil
/-
  The Topic model (LsModel/Conc.lean) for any number of subscribers: its inductive invariant, and who
  can step in a state satisfying it.
-/
namespace Ls.Conc.Topic

/-- the publisher holds the topic mutex exactly inside the loop of `Publish` -/
def pubHolds : PubPc → Bool
  | .loop _ | .sending _ _ => true
  | _ => false

/-- the subscriber program counters at which the topic mutex is held -/
def holdsT : SubPc → Bool
  | .subscribing | .cUnsub | .cUnlockT => true
  | _ => false

/-- subscribers the current `Publish` still has to serve, including the one it is blocked on -/
def pending : PubPc → List Nat
  | .loop todo => todo
  | .sending i todo => i :: todo
  | _ => []

/-- what the `range` loop of `Publish` has still to visit, without the subscriber it is blocked on.
    `Inv.sub` keeps it a sublist of the subscriber indices; no result reads that clause. -/
def todoOf : PubPc → List Nat
  | .loop todo => todo
  | .sending _ todo => todo
  | _ => []

/-- the four flags of a subscription, in the order `s.topic == nil`, id in `t.subscribers`,
    `closing` closed, value channel closed -/
def phase (sb : Sub) (tn im cl cc : Bool) : Bool :=
  sb.topicNil == tn && sb.inMap == im && sb.closing == cl && sb.chClosed == cc

/-- what a subscription looks like at each program counter of its goroutine -/
def subOk (fixed : Bool) (sb : Sub) : Bool :=
  sb.nClosing == sb.closing.toNat && sb.nCh == sb.chClosed.toNat &&
  match sb.pc with
  | .start | .subscribing => !sb.smu && phase sb true false false false
  | .ready | .nextWait => !sb.smu && phase sb false true false false
  | .cLock => !sb.smu && (phase sb false true false false || phase sb true false fixed true)
  | .cCheck => sb.smu && (phase sb false true false false || phase sb true false fixed true)
  | .cClosing => sb.smu && fixed && phase sb false true false false
  | .cLockT | .cUnsub => sb.smu && phase sb false true fixed false
  | .cUnlockT | .cNil => sb.smu && phase sb false false fixed true
  | .cUnlockS => sb.smu && phase sb true false fixed true
  | .closedIdle | .done => !sb.smu && phase sb true false fixed true

theorem phase_iff {sb : Sub} {tn im cl cc : Bool} : phase sb tn im cl cc = true ↔
    sb.topicNil = tn ∧ sb.inMap = im ∧ sb.closing = cl ∧ sb.chClosed = cc := by
  simp only [phase, Bool.and_eq_true, beq_iff_eq, and_assoc]

/-- What a step of a subscriber does to its own subscription: the local discipline is kept, the
    topic mutex is taken, given back or left alone, and the subscription leaves the map only while
    its goroutine holds the topic mutex. A sweep over the 15 actions: the guard of an action fixes
    the program counter, so `subOk` before and after is one row of its table each, `subLoc` one
    record update, and the three claims are facts about the flags in those two rows. -/
theorem sub_step {fixed : Bool} {tmu : Option Tid} {c : Bool} {sb : Sub} {a : SubAct} (i : Nat)
    (hg : subGuard tmu c sb a = true) (h : subOk fixed sb = true) :
    subOk fixed (subLoc fixed sb a) = true ∧
    MutexMove (.sub i) (holdsT sb.pc) (holdsT (subLoc fixed sb a).pc) tmu (subTmu i tmu a) ∧
    (sb.inMap = true → (subLoc fixed sb a).inMap = true ∨ holdsT sb.pc = true) := by
  cases a <;> simp only [subGuard, decide_eq_true_eq] at hg
  case closeCall =>
    rcases hg with hg | hg <;> simp_all [subOk, subLoc, phase_iff, MutexMove, subTmu, holdsT]
  case check =>
    simp only [subLoc]
    split <;> (try split) <;> simp_all [subOk, phase_iff, MutexMove, subTmu, holdsT]
  case unsub =>
    simp only [subLoc]
    split <;> simp_all [subOk, phase_iff, MutexMove, subTmu, holdsT]
  all_goals simp_all [subOk, subLoc, phase_iff, MutexMove, subTmu, holdsT]

/-- `waitDist` is positive at four program counters; a sweep over the actions enabled there -/
theorem waitDist_step {fixed : Bool} {tmu : Option Tid} {c : Bool} {sb : Sub} {a : SubAct}
    (hg : subGuard tmu c sb a = true) (hz : 0 < waitDist sb.pc) :
    waitDist (subLoc fixed sb a).pc < waitDist sb.pc := by
  cases a <;> simp only [subGuard, decide_eq_true_eq] at hg
  case closeCall => rcases hg with hg | hg <;> simp_all [subLoc, waitDist]
  case check => simp only [subLoc]; split <;> (try split) <;> simp_all [waitDist]
  all_goals simp_all [subLoc, waitDist]

structure Inv (k : Nat) (s : St) : Prop where
  len : s.subs.length = k
  pubT : pubHolds s.pub = true ↔ s.tmu = some .pub
  subT : ∀ (i : Nat) (sb : Sub), s.subs[i]? = some sb → (holdsT sb.pc = true ↔ s.tmu = some (.sub i))
  tmuSub : ∀ i : Nat, s.tmu = some (.sub i) → i < s.subs.length
  loc : ∀ (i : Nat) (sb : Sub), s.subs[i]? = some sb → subOk s.fixed sb = true
  pend : ∀ j ∈ pending s.pub, ∃ sb, s.subs[j]? = some sb ∧ sb.inMap = true
  sub : (todoOf s.pub).Sublist (List.range k)
  rem : pubRemaining s.pub ≤ k
  noPanic : s.pub ≠ .panic

/-- updating one subscriber by a step that respects the local discipline keeps the invariant -/
theorem inv_sub_update {k : Nat} {s : St} (h : Inv k s) {i : Nat} {sb sb' : Sub} {tmu' : Option Tid}
    (hi : s.subs[i]? = some sb) (hok : subOk s.fixed sb' = true)
    (hm : MutexMove (.sub i) (holdsT sb.pc) (holdsT sb'.pc) s.tmu tmu')
    (him : sb.inMap = true → sb'.inMap = true ∨ holdsT sb.pc = true) :
    Inv k { s with tmu := tmu', subs := s.subs.set i sb' } := by
  have hil := (List.getElem_of_getElem? hi).1
  have hsi := h.subT i sb hi
  refine ⟨by simp [h.len], h.pubT.trans (hm.other hsi (by simp)).symm, ?_, ?_, ?_, ?_, h.sub, h.rem,
    h.noPanic⟩
  · intro j y hj
    rcases getElem?_set_some hj with ⟨rfl, rfl⟩ | ⟨hne, hj'⟩
    · exact hm.self hsi
    · exact (h.subT j y hj').trans (hm.other hsi (by simp [hne])).symm
  · intro j hj
    rw [List.length_set]
    by_cases hji : j = i
    · rw [hji]; exact hil
    · exact h.tmuSub j ((hm.other hsi (by simp [hji])).mp hj)
  · intro j y hj
    rcases getElem?_set_some hj with ⟨rfl, rfl⟩ | ⟨_, hj'⟩
    · exact hok
    · exact h.loc j y hj'
  · intro j hj
    obtain ⟨y, hy, hym⟩ := h.pend j hj
    by_cases hji : j = i
    · subst hji
      rw [hi] at hy; cases hy
      refine ⟨sb', by simp [hil], (him hym).resolve_right fun h1 => ?_⟩
      -- the subscriber would hold the topic mutex, but the publisher, having a list to serve, does
      have hp : pubHolds s.pub = true := by
        cases hpc : s.pub <;> simp [hpc, pending] at hj <;> rfl
      have := h.pubT.mp hp
      rw [hsi.mp h1] at this; cases this
    · exact ⟨y, by rw [List.getElem?_set_ne (fun e : i = j => hji e.symm)]; exact hy, hym⟩

/-- a move of the publisher: only its program counter and the ownership of the mutex change -/
theorem inv_pub_update {k : Nat} {s : St} (h : Inv k s) {p' : PubPc} {tmu' : Option Tid}
    (hm : MutexMove .pub (pubHolds s.pub) (pubHolds p') s.tmu tmu')
    (hp : ∀ j ∈ pending p', ∃ sb, s.subs[j]? = some sb ∧ sb.inMap = true)
    (hs : (todoOf p').Sublist (List.range k)) (hr : pubRemaining p' ≤ k) (hn : p' ≠ .panic) :
    Inv k { s with pub := p', tmu := tmu' } :=
  ⟨h.len, hm.self h.pubT,
   fun j sb hj => (h.subT j sb hj).trans (hm.other h.pubT (by simp)).symm,
   fun j hj => h.tmuSub j ((hm.other h.pubT (by simp)).mp hj), h.loc, hp, hs, hr, hn⟩

/-- A subscription that is in the map has an open channel; and if its goroutine is at distance 0
    without holding the topic mutex, it is receiving in `Next`, or it waits for the topic mutex in
    `Close`, after `close(closing)` in the current code. -/
theorem subOk_inMap {fixed : Bool} {sb : Sub} (h : subOk fixed sb = true) (hm : sb.inMap = true) :
    sb.chClosed = false ∧ (waitDist sb.pc = 0 → holdsT sb.pc = false →
      sb.pc = .nextWait ∨ sb.pc = .cLockT ∧ sb.closing = fixed) := by
  -- row by row of `subOk`: the rows with `inMap` have an open channel
  cases hpc : sb.pc <;> simp_all [subOk, phase_iff, waitDist, holdsT]

theorem waitDist_le (pc : SubPc) : waitDist pc ≤ 4 := by
  cases pc <;> decide

theorem subOk_counts {fixed : Bool} {sb : Sub} (h : subOk fixed sb = true) :
    sb.nClosing = sb.closing.toNat ∧ sb.nCh = sb.chClosed.toNat := by
  simp only [subOk, Bool.and_eq_true, beq_iff_eq] at h
  exact h.1

theorem inMapIdx_mem {subs : List Sub} {j : Nat} (h : j ∈ inMapIdx subs) :
    ∃ sb, subs[j]? = some sb ∧ sb.inMap = true := by
  simp only [inMapIdx, List.mem_filter] at h
  cases hj : subs[j]? with
  | none => simp [hj] at h
  | some sb => simp [hj] at h; exact ⟨sb, rfl, h.2⟩

theorem length_erase_add_one {l : List Nat} {i : Nat} (h : i ∈ l) :
    (l.erase i).length + 1 = l.length := by
  rw [List.length_erase_of_mem h]
  have := List.length_pos_of_mem h
  omega

theorem sending_of_guard {s : St} {a : Step} (hg : guard s a = true)
    (ha : a = .pubDeliver ∨ a = .pubSkip ∨ a = .pubSendClosed) :
    ∃ i todo sb, s.pub = .sending i todo ∧ s.subs[i]? = some sb := by
  rcases ha with rfl | rfl | rfl <;>
  · cases hp : s.pub <;> simp [guard, hp] at hg
    rename_i i todo
    cases hi : s.subs[i]? with
    | none => simp [hi] at hg
    | some sb => exact ⟨i, todo, sb, rfl, hi⟩

theorem remaining_step {s : St} (a : Step) (hg : guard s a = true) (hh : pubHolds s.pub = true) :
    pubRemaining (next s a).pub ≤ pubRemaining s.pub ∧
    ((a = .pubDeliver ∨ a = .pubSkip) → pubRemaining (next s a).pub + 1 = pubRemaining s.pub) := by
  cases a with
  | pubCall | pubFinish | pubLock => simp [guard] at hg; simp [hg, pubHolds] at hh
  | pubPick i =>
    cases hp : s.pub <;> simp [guard, hp] at hg
    simp [next, hp, pubRemaining, length_erase_add_one hg]
  | pubDeliver =>
    obtain ⟨i, todo, sb, hp, hi⟩ := sending_of_guard hg (Or.inl rfl)
    simp [next, hp, hi, pubRemaining]
  | pubSkip =>
    obtain ⟨i, todo, sb, hp, hi⟩ := sending_of_guard hg (Or.inr (Or.inl rfl))
    simp [next, hp, pubRemaining]
  | pubSendClosed | pubUnlock => simp [next, pubRemaining]
  | cancel => simp [next]
  | sub j b => cases hj : s.subs[j]? <;> simp [next, hj]

theorem inv_init (fixed : Bool) (k : Nat) : Inv k (init fixed k) := by
  refine ⟨by simp [init], by simp [init, pubHolds], ?_, by simp [init], ?_, by simp [init, pending],
    by simp [init, todoOf], by simp [init, pubRemaining], by simp [init]⟩
  · intro i sb hi
    simp [init, List.getElem?_replicate] at hi
    obtain ⟨_, rfl⟩ := hi
    simp [init, holdsT]
  · intro i sb hi
    simp [init, List.getElem?_replicate] at hi
    obtain ⟨_, rfl⟩ := hi
    cases fixed <;> simp [subOk, phase_iff]

theorem inv_sent {k : Nat} {s : St} (h : Inv k s) {i : Nat} {todo : List Nat}
    (hp : s.pub = .sending i todo) : Inv k { s with pub := .loop todo } :=
  inv_pub_update h (.keep (by rw [hp]; rfl))
    (fun j hj => h.pend j (by rw [hp]; exact List.mem_cons_of_mem _ hj))
    (by have := h.sub; rwa [hp] at this)
    (by have := h.rem; rw [hp] at this; exact Nat.le_of_succ_le this) nofun

theorem inv_step {k : Nat} {s : St} (h : Inv k s) (a : Step) (he : enabled s a) : Inv k (next s a) := by
  unfold enabled at he
  cases a with
  | pubCall | pubFinish =>
    simp only [guard, decide_eq_true_eq] at he
    exact inv_pub_update h (.keep (by rw [he]; rfl)) nofun (List.nil_sublist _) (Nat.zero_le _) nofun
  | pubLock =>
    simp only [guard, decide_eq_true_eq] at he
    have hsl : (inMapIdx s.subs).Sublist (List.range k) := by
      rw [← h.len]; exact List.filter_sublist
    exact inv_pub_update h (Or.inl ⟨by rw [he.1]; rfl, he.2, rfl, rfl⟩) (fun j => inMapIdx_mem) hsl
      (by simpa [pubRemaining] using hsl.length_le) nofun
  | pubPick i =>
    cases hp : s.pub <;> simp [guard, hp] at he
    rename_i todo
    simp only [next, hp]
    refine inv_pub_update h (.keep (by rw [hp]; rfl)) (fun j hj => h.pend j ?_) ?_ ?_ nofun
    · rw [hp]
      rcases List.mem_cons.mp hj with rfl | hj
      · exact he
      · exact List.mem_of_mem_erase hj
    · have := h.sub; rw [hp] at this; exact List.erase_sublist.trans this
    · have := h.rem; rw [hp] at this
      simp only [pubRemaining, length_erase_add_one he]; exact this
  | pubDeliver =>
    obtain ⟨i, todo, sb, hp, hi⟩ := sending_of_guard he (Or.inl rfl)
    simp [guard, hp, hi] at he
    have hok := h.loc i sb hi
    have h1 := inv_sub_update (sb' := { sb with pc := .ready, got := sb.got + 1 }) h hi
      (by simpa [subOk, phase_iff, he.1] using hok) (.keep (by rw [he.1]; rfl)) Or.inl
    simpa [next, hp, hi] using inv_sent h1 hp
  | pubSkip =>
    obtain ⟨i, todo, sb, hp, hi⟩ := sending_of_guard he (Or.inr (Or.inl rfl))
    simp only [next, hp]
    exact inv_sent h hp
  | pubSendClosed =>
    obtain ⟨i, todo, sb, hp, hi⟩ := sending_of_guard he (Or.inr (Or.inr rfl))
    simp [guard, hp, hi] at he
    obtain ⟨sb', hi', hm⟩ := h.pend i (by simp [hp, pending])
    rw [hi] at hi'; cases hi'
    rw [(subOk_inMap (h.loc i sb hi) hm).1] at he; cases he
  | pubUnlock =>
    simp only [guard, decide_eq_true_eq] at he
    exact inv_pub_update h (Or.inr (Or.inl ⟨by rw [he]; rfl, rfl, rfl⟩)) nofun (List.nil_sublist _)
      (Nat.zero_le _) nofun
  | cancel => exact ⟨h.len, h.pubT, h.subT, h.tmuSub, h.loc, h.pend, h.sub, h.rem, h.noPanic⟩
  | sub i a =>
    cases hi : s.subs[i]? with
    | none => simp [guard, hi] at he
    | some sb =>
      simp only [guard, hi] at he
      simp only [next, hi]
      obtain ⟨hok, hm, him⟩ := sub_step i he (h.loc i sb hi)
      exact inv_sub_update h hi hok hm him

theorem inv_reach {fixed : Bool} {k : Nat} {s : St} (h : Reach fixed k s) : Inv k s := by
  induction h with
  | init => exact inv_init fixed k
  | step a _ he ih => exact inv_step ih a he

theorem next_fixed (s : St) (a : Step) : (next s a).fixed = s.fixed := by
  cases a with
  | pubCall | pubFinish | pubLock | pubSendClosed | pubUnlock | cancel => rfl
  | pubPick i | pubSkip | sub i b => simp only [next]; split <;> rfl
  | pubDeliver =>
    simp only [next]
    split
    · split <;> rfl
    · rfl

theorem fixed_reach {fixed : Bool} {k : Nat} {s : St} (h : Reach fixed k s) : s.fixed = fixed := by
  induction h with
  | init => rfl
  | step a _ _ ih => rw [next_fixed]; exact ih

theorem reach_run {fixed : Bool} {k : Nat} {s s' : St} (h : Reach fixed k s) (l : List Step)
    (hr : run s l = some s') : Reach fixed k s' :=
  run_preserves (fun _ => rfl) (fun _ _ _ => rfl) (fun _ a h hg => Reach.step a h hg) l h hr

/-- a subscriber that is not finished can step, unless it waits in `Next` for a value or for the
    cancellation, or it waits for the topic mutex while somebody holds it -/
theorem sub_progress {k : Nat} {s : St} (h : Inv k s) {i : Nat} {sb : Sub} (hi : s.subs[i]? = some sb)
    (hd : sb.pc ≠ .done) :
    (∃ a, guard s (.sub i a) = true) ∨ (sb.pc = .nextWait ∧ s.cancelled = false) ∨
    ((sb.pc = .start ∨ sb.pc = .cLockT) ∧ s.tmu ≠ none) := by
  cases hpc : sb.pc with
  | start =>
    cases ht : s.tmu with
    | none => exact Or.inl ⟨.subLock, by simp [guard, hi, subGuard, hpc, ht]⟩
    | some x => exact Or.inr (Or.inr ⟨Or.inl rfl, by simp⟩)
  | subscribing => exact Or.inl ⟨.subInsert, by simp [guard, hi, subGuard, hpc]⟩
  | ready => exact Or.inl ⟨.nextCall, by simp [guard, hi, subGuard, hpc]⟩
  | nextWait =>
    cases hc : s.cancelled with
    | false => exact Or.inr (Or.inl ⟨rfl, rfl⟩)
    | true => exact Or.inl ⟨.ctxDone, by simp [guard, hi, subGuard, hpc, hc]⟩
  | cLock =>
    have hs : sb.smu = false := by have := h.loc i sb hi; simp_all [subOk]
    exact Or.inl ⟨.lockS, by simp [guard, hi, subGuard, hpc, hs]⟩
  | cCheck => exact Or.inl ⟨.check, by simp [guard, hi, subGuard, hpc]⟩
  | cClosing => exact Or.inl ⟨.closeClosing, by simp [guard, hi, subGuard, hpc]⟩
  | cLockT =>
    cases ht : s.tmu with
    | none => exact Or.inl ⟨.lockT, by simp [guard, hi, subGuard, hpc, ht]⟩
    | some x => exact Or.inr (Or.inr ⟨Or.inr rfl, by simp⟩)
  | cUnsub => exact Or.inl ⟨.unsub, by simp [guard, hi, subGuard, hpc]⟩
  | cUnlockT => exact Or.inl ⟨.unlockT, by simp [guard, hi, subGuard, hpc]⟩
  | cNil => exact Or.inl ⟨.setNil, by simp [guard, hi, subGuard, hpc]⟩
  | cUnlockS => exact Or.inl ⟨.unlockS, by simp [guard, hi, subGuard, hpc]⟩
  | closedIdle => exact Or.inl ⟨.finish, by simp [guard, hi, subGuard, hpc]⟩
  | done => exact absurd hpc hd

theorem blocked_on {k : Nat} {s : St} (h : Inv k s) {i : Nat} {todo : List Nat}
    (hp : s.pub = .sending i todo) :
    ∃ sb, s.subs[i]? = some sb ∧ sb.inMap = true ∧ sb.chClosed = false ∧ holdsT sb.pc = false := by
  obtain ⟨sb, hi, hm⟩ := h.pend i (by simp [hp, pending])
  refine ⟨sb, hi, hm, (subOk_inMap (h.loc i sb hi) hm).1, ?_⟩
  cases hh : holdsT sb.pc
  · rfl
  · have := h.pubT.mp (by rw [hp]; rfl)
    rw [(h.subT i sb hi).mp hh] at this; cases this

theorem sendClosed_disabled {k : Nat} {s : St} (h : Inv k s) : guard s .pubSendClosed = false := by
  cases hp : s.pub <;> simp [guard, hp]
  obtain ⟨sb, hi, _, hc, _⟩ := blocked_on h hp
  simp [hi, hc]

/-- a publisher blocked on subscriber `i` is released by `i`: at distance 0 the delivery or the skip
    is enabled, at positive distance `i` can step and every own step of `i` lowers the distance -/
theorem blocked_measure {k : Nat} {s : St} (h : Inv k s) (hfix : s.fixed = true) {i : Nat}
    {todo : List Nat} (hp : s.pub = .sending i todo) :
    ∃ sb, s.subs[i]? = some sb ∧
      (waitDist sb.pc = 0 → guard s .pubDeliver = true ∨ guard s .pubSkip = true) ∧
      (0 < waitDist sb.pc → (∃ a, guard s (.sub i a) = true) ∧
        ∀ a, guard s (.sub i a) = true → ∃ sb', (next s (.sub i a)).subs[i]? = some sb' ∧
          waitDist sb'.pc < waitDist sb.pc ∧ (next s (.sub i a)).pub = .sending i todo) := by
  obtain ⟨sb, hi, hm, hc, hT⟩ := blocked_on h hp
  have hok := h.loc i sb hi
  refine ⟨sb, hi, fun hz => ?_, fun hz => ⟨?_, fun a ha => ?_⟩⟩
  · rcases (subOk_inMap hok hm).2 hz hT with hpc | ⟨hpc, hcl⟩
    · exact Or.inl (by simp [guard, hp, hi, hpc, hc])
    · exact Or.inr (by simp [guard, hp, hi, hfix, hcl])
  · rcases sub_progress h hi (fun e => by simp [e, waitDist] at hz) with ha | ⟨hw, _⟩ | ⟨hw | hw, _⟩
    · exact ha
    all_goals simp [hw, waitDist] at hz
  · simp only [guard, hi] at ha
    exact ⟨subLoc s.fixed sb a, by simp only [next, hi]; simp [(List.getElem_of_getElem? hi).1], waitDist_step ha hz,
      by simp [next, hi, hp]⟩

/-- whoever holds the topic mutex (or, for the publisher blocked in a send, the subscriber it is
    blocked on) can step: the mutex is never held forever -/
theorem holder_progress {k : Nat} {s : St} (h : Inv k s) (hfix : s.fixed = true) {x : Tid}
    (ht : s.tmu = some x) : ∃ a, a ≠ .cancel ∧ guard s a = true := by
  cases x with
  | sub i =>
    obtain ⟨sb, hi⟩ : ∃ sb, s.subs[i]? = some sb := ⟨_, List.getElem?_eq_getElem (h.tmuSub i ht)⟩
    have hh := (h.subT i sb hi).mpr ht
    rcases sub_progress h hi (fun e => by simp [e, holdsT] at hh) with ⟨a, ha⟩ | ⟨hw, _⟩ | ⟨hw | hw, _⟩
    · exact ⟨.sub i a, by simp, ha⟩
    all_goals simp [hw, holdsT] at hh
  | pub =>
    have hh := h.pubT.mpr ht
    cases hp : s.pub <;> simp [hp, pubHolds] at hh
    · rename_i todo
      cases todo with
      | nil => exact ⟨.pubUnlock, by simp, by simp [guard, hp]⟩
      | cons j t => exact ⟨.pubPick j, by simp, by simp [guard, hp]⟩
    · obtain ⟨sb, hi, h0, h1⟩ := blocked_measure h hfix hp
      rcases Nat.eq_zero_or_pos (waitDist sb.pc) with hz | hz
      · rcases h0 hz with hg | hg
        · exact ⟨.pubDeliver, by simp, hg⟩
        · exact ⟨.pubSkip, by simp, hg⟩
      · obtain ⟨a, ha⟩ := (h1 hz).1
        exact ⟨.sub _ a, by simp, ha⟩

/-- the only states without an enabled goroutine step: the publisher has finished and every
    unfinished subscriber waits in `Next` for a value, not cancelled -/
def Quiescent (s : St) : Prop :=
  s.pub = .done ∧ s.cancelled = false ∧ ∀ sb ∈ s.subs, sb.pc = .done ∨ sb.pc = .nextWait

theorem progress {k : Nat} {s : St} (h : Inv k s) (hfix : s.fixed = true) (hnd : ¬ allDone s) :
    (∃ a, a ≠ .cancel ∧ guard s a = true) ∨ Quiescent s := by
  cases ht : s.tmu with
  | some x => exact Or.inl (holder_progress h hfix ht)
  | none =>
    cases hp : s.pub with
    | idle => exact Or.inl ⟨.pubCall, by simp, by simp [guard, hp]⟩
    | lockWait => exact Or.inl ⟨.pubLock, by simp, by simp [guard, hp, ht]⟩
    | loop todo | sending i todo => have := h.pubT.mp (by rw [hp]; rfl); rw [ht] at this; cases this
    | panic => exact absurd hp h.noPanic
    | done =>
      refine (progress_or_waiting (fin := fun sb : Sub => sb.pc = .done) (wait := fun sb => sb.pc = .nextWait)
        (B := s.cancelled = false) (fun i sb hi hd => ?_) fun hall => hnd ⟨hp, hall⟩).imp id
        fun ⟨hc, hq⟩ => ⟨hp, hc, hq⟩
      rcases sub_progress h hi hd with ⟨a, ha⟩ | hw | ⟨_, hn⟩
      · exact Or.inl ⟨.sub i a, by simp, ha⟩
      · exact Or.inr hw
      · exact absurd ht hn

theorem not_stuck {k : Nat} {s : St} (h : Inv k s) (hfix : s.fixed = true) : ¬ Stuck s := by
  intro ⟨hnd, hno⟩
  rcases progress h hfix hnd with ⟨a, _, ha⟩ | ⟨_, hc, _⟩
  · rw [hno a] at ha; cases ha
  · have := hno .cancel; simp [guard, hc] at this

theorem blocked_stable {s : St} {i : Nat} {todo : List Nat} (hp : s.pub = .sending i todo) (a : Step)
    (hg : guard s a = true) (h1 : a ≠ .pubDeliver) (h2 : a ≠ .pubSkip) (h3 : a ≠ .pubSendClosed)
    (h4 : ∀ b, a ≠ .sub i b) : (next s a).pub = s.pub ∧ (next s a).subs[i]? = s.subs[i]? := by
  cases a with
  | pubCall | pubFinish | pubLock | pubPick j | pubUnlock => simp [guard, hp] at hg
  | pubDeliver => exact absurd rfl h1
  | pubSkip => exact absurd rfl h2
  | pubSendClosed => exact absurd rfl h3
  | cancel => simp [next]
  | sub j b =>
    have hne : j ≠ i := fun e => h4 b (by rw [e])
    cases hj : s.subs[j]? <;> simp [next, hj, List.getElem?_set_ne hne]

end Ls.Conc.Topic
