import LsLemmas.Cleaner
/-
  Invariants of the cleaner over arbitrary histories (induction over the event list): the Worker's
  snapFirstSeen equals the `since` observer on snapshot names, ignored names are unparsable, first-seen
  times are ordered like snapshot timestamps under the property's assumptions; and what an event does
  to `lastByInstance`.
-/
namespace Ls.Cleaner

variable {parse : Parse} {cfg : Cfg}

theorem rev_induction {α : Type} {P : List α → Prop} (nil : P [])
    (snoc : ∀ l a, P l → P (l ++ [a])) : ∀ l, P l := by
  intro l
  have h : ∀ l : List α, P l.reverse := by
    intro l
    induction l with
    | nil => simpa using nil
    | cons a l ih => rw [List.reverse_cons]; exact snoc _ _ ih
  simpa using h l.reverse

theorem exec_append (h h' : List Ev) :
    exec parse cfg (h ++ h') = h'.foldl (step parse cfg) (exec parse cfg h) := by
  simp [exec, List.foldl_append]

theorem exec_snoc (h : List Ev) (e : Ev) :
    exec parse cfg (h ++ [e]) = step parse cfg (exec parse cfg h) e :=
  exec_append h [e]

theorem since_snoc (h : List Ev) (e : Ev) : since (h ++ [e]) = sinceStep (since h) e := by
  simp [since, List.foldl_append]

theorem nows_append (h h' : List Ev) : nows (h ++ h') = nows h ++ nows h' := by
  induction h with
  | nil => rfl
  | cons e es ih => cases e <;> simp [nows, ih]

theorem MonotoneClock.prefix {h : List Ev} {e : Ev} (hm : MonotoneClock (h ++ [e])) :
    MonotoneClock h := by
  unfold MonotoneClock at hm ⊢
  rw [nows_append] at hm
  exact (List.pairwise_append.mp hm).1

theorem MonotoneClock.last {h : List Ev} {now : Int} {l : Option (List String)} {df : String → Bool}
    (hm : MonotoneClock (h ++ [Ev.run now l df])) : ∀ t ∈ nows h, t ≤ now := by
  unfold MonotoneClock at hm
  rw [nows_append] at hm
  exact fun t ht => (List.pairwise_append.mp hm).2.2 t ht now (by simp [nows])

theorem AppearInOrder.prefix {h : List Ev} {e : Ev} (ha : AppearInOrder parse (h ++ [e])) :
    AppearInOrder parse h := by
  intro h' now l df hp
  exact ha h' now l df (hp.trans (List.prefix_append _ _))

theorem AppearInOrder.last {h : List Ev} {now : Int} {l : List String} {df : String → Bool}
    (ha : AppearInOrder parse (h ++ [Ev.run now (some l) df])) :
    ∀ a b i j, a ∈ l → b ∈ l → IsSnap parse a i → IsSnap parse b j → i.inst = j.inst →
      since h a = none → since h b ≠ none → j.ts ≤ i.ts :=
  ha h now l df (List.prefix_refl _)

theorem AppearInOrder.nil : AppearInOrder parse [] := by
  intro h' now l df hp
  have := List.prefix_nil.mp hp
  simp at this

/-- only the last event is new: the condition is asked of it if it is a run with a listing -/
theorem AppearInOrder.snoc {h : List Ev} {e : Ev} (ha : AppearInOrder parse h)
    (hl : ∀ now l df, e = Ev.run now (some l) df →
      ∀ a b i j, a ∈ l → b ∈ l → IsSnap parse a i → IsSnap parse b j → i.inst = j.inst →
        since h a = none → since h b ≠ none → j.ts ≤ i.ts) :
    AppearInOrder parse (h ++ [e]) := by
  intro h' now l df hp
  rcases List.prefix_concat_iff.mp hp with heq | hp
  · obtain ⟨rfl, h2⟩ := List.append_inj' heq rfl
    exact hl now l df (List.singleton_inj.mp h2).symm
  · exact ha h' now l df hp

theorem AppearInOrder.snoc_other {h : List Ev} {e : Ev} (ha : AppearInOrder parse h)
    (he : ∀ now l df, e ≠ Ev.run now (some l) df) : AppearInOrder parse (h ++ [e]) :=
  ha.snoc fun now l df heq => absurd heq (he now l df)

theorem since_run (h : List Ev) (now : Int) (l : List String) (df : String → Bool) (n : String) :
    since (h ++ [Ev.run now (some l) df]) n =
      if n ∈ l then (match since h n with | some t => some t | none => some now) else none := by
  rw [since_snoc]; rfl

theorem since_listFails (h : List Ev) (now : Int) (df : String → Bool) :
    since (h ++ [Ev.run now none df]) = since h := by
  rw [since_snoc]; rfl

theorem since_commit (h : List Ev) (m : List (String × Int)) :
    since (h ++ [Ev.commit m]) = since h := by
  rw [since_snoc]; rfl

theorem since_run_eq_some {h : List Ev} {now : Int} {l : List String} {df : String → Bool}
    {n : String} {t : Int} :
    since (h ++ [Ev.run now (some l) df]) n = some t ↔
      n ∈ l ∧ (since h n = some t ∨ (since h n = none ∧ t = now)) := by
  rw [since_run]
  split
  · cases since h n <;> simp [*, eq_comm]
  · simp [*]

theorem since_mem_nows : ∀ (h : List Ev) (n : String) (t : Int), since h n = some t → t ∈ nows h := by
  intro h
  induction h using rev_induction with
  | nil => intro n t ht; simp [since] at ht
  | snoc h e ih =>
    intro n t ht
    rw [nows_append]
    cases e with
    | commit m => rw [since_commit] at ht; exact List.mem_append_left _ (ih n t ht)
    | run now l df =>
      cases l with
      | none => rw [since_listFails] at ht; exact List.mem_append_left _ (ih n t ht)
      | some l =>
        obtain ⟨_, hs | ⟨_, rfl⟩⟩ := since_run_eq_some.mp ht
        · exact List.mem_append_left _ (ih n t hs)
        · exact List.mem_append_right _ (by simp [nows])

theorem since_ordered : ∀ (h : List Ev), MonotoneClock h → AppearInOrder parse h →
    ∀ a b i j t u, IsSnap parse a i → IsSnap parse b j → i.inst = j.inst → i.ts < j.ts →
      since h a = some t → since h b = some u → t ≤ u := by
  intro h
  induction h using rev_induction with
  | nil => intro _ _ a b i j t u _ _ _ _ ht; simp [since] at ht
  | snoc h e ih =>
    intro hm ha a b i j t u hsa hsb hi hts hta htb
    have ih' := ih hm.prefix ha.prefix a b i j
    cases e with
    | commit m => rw [since_commit] at hta htb; exact ih' t u hsa hsb hi hts hta htb
    | run now l df =>
      cases l with
      | none => rw [since_listFails] at hta htb; exact ih' t u hsa hsb hi hts hta htb
      | some l =>
        obtain ⟨hal, hoa | ⟨hna, rfl⟩⟩ := since_run_eq_some.mp hta <;>
          obtain ⟨hbl, hob | ⟨hnb, rfl⟩⟩ := since_run_eq_some.mp htb
        · exact ih' t u hsa hsb hi hts hoa hob
        · exact hm.last t (since_mem_nows h a t hoa)
        · -- `a` is new next to the older-listed `b`: the order of appearance forbids `i.ts < j.ts`
          have := ha.last a b i j hal hbl hsa hsb hi hna (by rw [hob]; simp)
          omega
        · exact Int.le_refl _

/-- what holds of the Worker's state after any history (enabled cleaner) -/
structure Inv (parse : Parse) (cfg : Cfg) (h : List Ev) : Prop where
  /-- `ignoredFilenames` only holds names ParseName rejects -/
  ignored : ∀ n ∈ (exec parse cfg h).ignored, parse n = none
  /-- on snapshot names `snapFirstSeen` is the `since` observer -/
  seen : ∀ n i, IsSnap parse n i → look n (exec parse cfg h).firstSeen = since h n
  /-- and it holds nothing else -/
  unseen : ∀ n, (∀ i, ¬ IsSnap parse n i) → look n (exec parse cfg h).firstSeen = none

theorem mem_candidates_names {st : St} (hig : ∀ n ∈ st.ignored, parse n = none) {l : List String}
    {n : String} :
    n ∈ (candidates parse st l).map (·.name) ↔ n ∈ l ∧ ∃ i, IsSnap parse n i := by
  rw [List.mem_map]
  constructor
  · rintro ⟨c, hc, rfl⟩
    exact ⟨(candidates_isSnap hc).1, _, (candidates_isSnap hc).2⟩
  · rintro ⟨hn, i, hs⟩
    refine ⟨⟨n, i.inst, i.ts⟩, candidate_of_isSnap hn hs fun hin => ?_, rfl⟩
    cases hs.1.symm.trans (hig n hin)

theorem Inv.snoc_same {h : List Ev} {e : Ev} (ih : Inv parse cfg h) (hs : since (h ++ [e]) = since h)
    (hi : (step parse cfg (exec parse cfg h) e).ignored = (exec parse cfg h).ignored)
    (hf : (step parse cfg (exec parse cfg h) e).firstSeen = (exec parse cfg h).firstSeen) :
    Inv parse cfg (h ++ [e]) := by
  refine ⟨?_, ?_, ?_⟩ <;> rw [exec_snoc]
  · rw [hi]; exact ih.ignored
  · rw [hf, hs]; exact ih.seen
  · rw [hf]; exact ih.unseen

theorem inv_of_enabled (he : cfg.enabled = true) : ∀ h : List Ev, Inv parse cfg h := by
  intro h
  induction h using rev_induction with
  | nil =>
    refine ⟨?_, ?_, ?_⟩
    · intro n hn; simp [exec, St.init] at hn
    · intro n i _; simp [exec, St.init, since]
    · intro n _; simp [exec, St.init]
  | snoc h e ih =>
    cases e with
    | commit m => exact ih.snoc_same (since_commit h m) rfl rfl
    | run now l df =>
      cases l with
      | none =>
        have hst : step parse cfg (exec parse cfg h) (.run now none df) = exec parse cfg h := by
          rw [step, runOnce_listFails he]
        exact ih.snoc_same (since_listFails h now df) (by rw [hst]) (by rw [hst])
      | some l =>
        have hfs := fun n => runOnce_firstSeen (parse := parse) (st := exec parse cfg h) (now := now) he l df n
        refine ⟨?_, ?_, ?_⟩ <;> rw [exec_snoc]
        · intro n hn
          rcases runOnce_ignored he l df hn with hn | hn
          · exact ih.ignored n hn
          · exact hn
        · intro n i hs
          show look n (runOnce parse cfg _ now (some l) df).1.firstSeen = _
          rw [hfs, since_run, ih.seen n i hs]
          by_cases hn : n ∈ l
          · rw [if_pos hn, if_pos ((mem_candidates_names ih.ignored).mpr ⟨hn, i, hs⟩)]
            cases since h n <;> rfl
          · rw [if_neg hn, if_neg (fun hc => hn ((mem_candidates_names ih.ignored).mp hc).1)]
        · intro n hs
          show look n (runOnce parse cfg _ now (some l) df).1.firstSeen = _
          rw [hfs, if_neg]
          intro hc
          obtain ⟨_, i, hi⟩ := (mem_candidates_names ih.ignored).mp hc
          exact hs i hi

theorem exec_disabled (he : cfg.enabled = false) : ∀ h : List Ev,
    (exec parse cfg h).ignored = [] ∧ (exec parse cfg h).firstSeen = [] := by
  intro h
  induction h using rev_induction with
  | nil => exact ⟨rfl, rfl⟩
  | snoc h e ih =>
    rw [exec_snoc]
    cases e with
    | commit m => exact ih
    | run now l df => simp only [step, runOnce_disabled he]; exact ih

/-- SetCommitted puts its pairs, last first, in front of the old ones; a run leaves the map alone -/
theorem step_committed (st : St) (e : Ev) :
    (step parse cfg st e).committed =
      match e with
      | .commit m => m.reverse ++ st.committed
      | .run _ _ _ => st.committed := by
  cases e with
  | commit m => exact List.foldl_flip_cons_eq_append'
  | run now l df => exact runOnce_committed l df

end Ls.Cleaner
