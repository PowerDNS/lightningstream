import LsModel.Conc
import LsLemmas.Bytes
/-
  What the three `Conc` models share: a state holds a list of program counters, a step of thread `i`
  replaces entry `i`; schedules are run by `run`; progress is shown thread by thread.
-/
namespace Ls.Conc

/-- an entry of a list after thread `i` has moved: the new entry at `i`, an old one elsewhere -/
theorem getElem?_set_some {α : Type} {l : List α} {i j : Nat} {x y : α}
    (h : (l.set i x)[j]? = some y) : (j = i ∧ y = x) ∨ (j ≠ i ∧ l[j]? = some y) := by
  rw [List.getElem?_set] at h
  split at h
  · next hij =>
    split at h
    · exact Or.inl ⟨hij.symm, (Option.some.inj h).symm⟩
    · cases h
  · next hij => exact Or.inr ⟨fun e => hij e.symm, h⟩

theorem countP_set {α : Type} (p : α → Bool) {l : List α} {i : Nat} {x y : α} (h : l[i]? = some x) :
    (l.set i y).countP p + (if p x then 1 else 0) = l.countP p + (if p y then 1 else 0) := by
  induction l generalizing i with
  | nil => simp at h
  | cons a t ih =>
    cases i with
    | zero =>
      simp at h; subst h
      simp only [List.set_cons_zero, List.countP_cons]; omega
    | succ n =>
      simp at h
      have := ih h
      simp only [List.set_cons_succ, List.countP_cons]; omega

/-- What a step of a thread may do to a mutex, given whether the thread is at a program counter
    where it holds the mutex before (`held`) and after (`held'`): take it when it is free, give it
    back, or leave it alone. -/
def MutexMove {ι : Type} (me : ι) (held held' : Bool) (own own' : Option ι) : Prop :=
  (held = false ∧ own = none ∧ held' = true ∧ own' = some me) ∨
  (held = true ∧ held' = false ∧ own' = none) ∨
  (held' = held ∧ own' = own)

theorem MutexMove.keep {ι : Type} {me : ι} {held held' : Bool} {own : Option ι} (h : held' = held) :
    MutexMove me held held' own own :=
  Or.inr (Or.inr ⟨h, rfl⟩)

/-- the mover still holds the mutex exactly where its program counter says so -/
theorem MutexMove.self {ι : Type} {me : ι} {held held' : Bool} {own own' : Option ι}
    (m : MutexMove me held held' own own') (h : held = true ↔ own = some me) :
    held' = true ↔ own' = some me := by
  rcases m with ⟨_, _, h3, h4⟩ | ⟨_, h2, h3⟩ | ⟨h1, h2⟩
  · rw [h3, h4]; exact ⟨fun _ => rfl, fun _ => rfl⟩
  · rw [h2, h3]; exact ⟨nofun, nofun⟩
  · rw [h1, h2]; exact h

/-- nobody else gains or loses the mutex -/
theorem MutexMove.other {ι : Type} {me x : ι} {held held' : Bool} {own own' : Option ι}
    (m : MutexMove me held held' own own') (h : held = true ↔ own = some me) (hx : x ≠ me) :
    own' = some x ↔ own = some x := by
  rcases m with ⟨_, h2, _, h4⟩ | ⟨h1, _, h3⟩ | ⟨_, h2⟩
  · rw [h2, h4]; exact ⟨fun e => absurd (Option.some.inj e).symm hx, nofun⟩
  · rw [h3, h.mp h1]; exact ⟨nofun, fun e => absurd (Option.some.inj e).symm hx⟩
  · rw [h2]

theorem exists_getElem?_of_not_forall_mem {α : Type} {l : List α} {p : α → Prop}
    (h : ¬ ∀ x ∈ l, p x) : ∃ (i : Nat) (x : α), l[i]? = some x ∧ ¬ p x := by
  apply Classical.byContradiction; intro hno
  apply h; intro x hx
  apply Classical.byContradiction; intro hne
  obtain ⟨i, hi⟩ := List.mem_iff_getElem?.mp hx
  exact hno ⟨i, x, hi, hne⟩

/-- The shape of a progress argument. Every unfinished thread either gives an enabled step (`E`) or
    sits at the one program counter where waiting is legitimate (`wait`) while a condition `B` of the
    whole state keeps it there. Then a step is enabled, or `B` holds and every thread has finished or
    waits. -/
theorem progress_or_waiting {α : Type} {l : List α} {fin wait : α → Prop} {E B : Prop}
    (hstep : ∀ (i : Nat) (x : α), l[i]? = some x → ¬ fin x → E ∨ (wait x ∧ B)) (hnd : ¬ ∀ x ∈ l, fin x) :
    E ∨ (B ∧ ∀ x ∈ l, fin x ∨ wait x) := by
  by_cases hE : E
  · exact Or.inl hE
  · have hw : ∀ (i : Nat) (x : α), l[i]? = some x → ¬ fin x → wait x ∧ B := fun i x hi hx =>
      (hstep i x hi hx).resolve_left hE
    obtain ⟨i, x, hi, hx⟩ := exists_getElem?_of_not_forall_mem hnd
    refine Or.inr ⟨(hw i x hi hx).2, fun y hy => ?_⟩
    obtain ⟨j, hj⟩ := List.mem_iff_getElem?.mp hy
    by_cases hf : fin y
    · exact Or.inl hf
    · exact Or.inr (hw j y hj hf).1

/-- A property that every enabled step preserves holds at the end of every schedule that `run`
    accepts; `run` enters through its two equations. -/
theorem run_preserves {σ α : Type} {guard : σ → α → Bool} {next : σ → α → σ}
    {run : σ → List α → Option σ} (nil : ∀ s, run s [] = some s)
    (cons : ∀ s a l, run s (a :: l) = if guard s a then run (next s a) l else none)
    {P : σ → Prop} (step : ∀ s a, P s → guard s a = true → P (next s a)) :
    ∀ (l : List α) {s s' : σ}, P s → run s l = some s' → P s'
  | [], s, s', h, hr => by rw [nil] at hr; cases hr; exact h
  | a :: l, s, s', h, hr => by
    rw [cons] at hr
    split at hr
    · next hg => exact run_preserves nil cons step l (step s a h hg) hr
    · cases hr

end Ls.Conc
