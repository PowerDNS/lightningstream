import LsLemmas.AbsBucket
/-
  Specification of `newestIdx` (AbsBucket.lean) as a predicate, and its behaviour under the two
  bucket mutations (append an alive blob, mark one blob as deleted).
-/
namespace Ls.Abs

theorem getLast?_filter_range (p : Nat → Bool) (n q : Nat) :
    ((List.range n).filter p).getLast? = some q ↔
      q < n ∧ p q = true ∧ ∀ m, q < m → m < n → p m = false := by
  induction n with
  | zero => simp
  | succ n ih =>
    rw [List.range_succ, List.filter_append, List.getLast?_append, List.filter_cons, List.filter_nil]
    cases hp : p n with
    | true =>
      rw [if_pos rfl, List.getLast?_singleton, Option.some_or]
      constructor
      · intro h
        cases h
        exact ⟨Nat.lt_succ_self _, hp, fun m h1 h2 => absurd (Nat.le_of_lt_succ h2) (Nat.not_le.mpr h1)⟩
      · rintro ⟨h1, _, h3⟩
        rcases Nat.lt_or_eq_of_le (Nat.le_of_lt_succ h1) with h | h
        · rw [h3 n h (Nat.lt_succ_self n)] at hp; cases hp
        · rw [h]
    | false =>
      rw [if_neg Bool.false_ne_true, List.getLast?_nil, Option.none_or, ih]
      constructor
      · rintro ⟨h1, h2, h3⟩
        refine ⟨Nat.lt_succ_of_lt h1, h2, fun m hm1 hm2 => ?_⟩
        rcases Nat.lt_or_eq_of_le (Nat.le_of_lt_succ hm2) with h | h
        · exact h3 m hm1 h
        · rw [h]; exact hp
      · rintro ⟨h1, h2, h3⟩
        rcases Nat.lt_or_eq_of_le (Nat.le_of_lt_succ h1) with h | h
        · exact ⟨h, h2, fun m hm1 hm2 => h3 m hm1 (Nat.lt_succ_of_lt hm2)⟩
        · rw [h, hp] at h2; cases h2

/-- blob `w` at index `q` is alive and no later blob of the same instance is alive -/
def Newest (b : List Blob) (q : Nat) (w : Blob) : Prop :=
  b[q]? = some w ∧ w.alive = true ∧
    ∀ p y, q < p → b[p]? = some y → y.inst = w.inst → y.alive = false

/-- the filter predicate of `newestIdx` -/
def aliveOwn (b : List Blob) (j : Nat) (n : Nat) : Bool :=
  match b[n]? with
  | some x => x.inst = j && x.alive
  | none => false

theorem newestIdx_eq (b : List Blob) (j : Nat) :
    newestIdx b j = ((List.range b.length).filter (aliveOwn b j)).getLast? := rfl

theorem aliveOwn_iff {b : List Blob} {j n : Nat} :
    aliveOwn b j n = true ↔ ∃ x, b[n]? = some x ∧ x.inst = j ∧ x.alive = true := by
  unfold aliveOwn
  cases b[n]? <;> simp

theorem aliveOwn_false {b : List Blob} {j n : Nat} :
    aliveOwn b j n = false ↔ ∀ x, b[n]? = some x → x.inst = j → x.alive = false := by
  unfold aliveOwn
  cases b[n]? <;> simp

theorem newestIdx_some_iff {b : List Blob} {j q : Nat} :
    newestIdx b j = some q ↔ ∃ w, Newest b q w ∧ w.inst = j := by
  rw [newestIdx_eq, getLast?_filter_range]
  constructor
  · rintro ⟨_, hq, hlast⟩
    obtain ⟨w, hw, hj, ha⟩ := aliveOwn_iff.mp hq
    exact ⟨w, ⟨hw, ha, fun p y hqp hy hyj =>
      aliveOwn_false.mp (hlast p hqp ((List.getElem?_eq_some_iff.mp hy).1)) y hy (hyj.trans hj)⟩, hj⟩
  · rintro ⟨w, ⟨hw, ha, hlast⟩, rfl⟩
    exact ⟨(List.getElem?_eq_some_iff.mp hw).1, aliveOwn_iff.mpr ⟨w, hw, rfl, ha⟩, fun m hqm _ =>
      aliveOwn_false.mpr fun y hy hyj => hlast m y hqm hy hyj⟩

theorem newestIdx_none {b : List Blob} {j : Nat} (h : newestIdx b j = none) (p : Nat) (y : Blob)
    (hy : b[p]? = some y) (hj : y.inst = j) : y.alive = false := by
  rw [newestIdx_eq, List.getLast?_eq_none_iff, List.filter_eq_nil_iff] at h
  exact aliveOwn_false.mp (Bool.eq_false_iff.mpr (h p (List.mem_range.mpr ((List.getElem?_eq_some_iff.mp hy).1)))) y hy hj

theorem Newest.toIdx {b : List Blob} {q : Nat} {w : Blob} (h : Newest b q w) :
    Abs.newestIdx b w.inst = some q :=
  newestIdx_some_iff.mpr ⟨w, h, rfl⟩

theorem Newest.content {f : BF} {q : Nat} {w : Blob} (h : Newest f.bucket q w) :
    newestContent f w.inst = some w.content := by
  simp [newestContent, h.toIdx, h.1]

theorem newestContent_some {f : BF} {j : Nat} {c : DB} (h : newestContent f j = some c) :
    ∃ q w, Newest f.bucket q w ∧ w.inst = j ∧ w.content = c := by
  obtain ⟨q, hq, h⟩ := Option.bind_eq_some_iff.mp h
  obtain ⟨w, hw, hj⟩ := newestIdx_some_iff.mp hq
  rw [hw.1] at h
  exact ⟨q, w, hw, hj, by simpa using h⟩

theorem Newest.append_new (b : List Blob) (z : Blob) (hz : z.alive = true) :
    Newest (b ++ [z]) b.length z := by
  refine ⟨List.getElem?_concat_length, hz, fun p y hp hy _ => ?_⟩
  have := (List.getElem?_eq_some_iff.mp hy).1
  simp at this; omega

theorem Newest.append_other {b : List Blob} {q : Nat} {w : Blob} (h : Newest b q w) (z : Blob)
    (hz : z.inst ≠ w.inst) : Newest (b ++ [z]) q w := by
  refine ⟨getElem?_concat_some.mpr (Or.inl h.1), h.2.1, fun p y hp hy hi => ?_⟩
  rcases getElem?_concat_some.mp hy with hy | ⟨_, rfl⟩
  · exact h.2.2 p y hp hy hi
  · exact absurd hi hz

theorem getElem?_setAlive {b : List Blob} {idx p : Nat} {x : Blob} :
    (setAlive b idx)[p]? = some x ↔
      ∃ x0, b[p]? = some x0 ∧ x = { x0 with alive := x0.alive && decide (p ≠ idx) } := by
  simp only [setAlive, List.getElem?_mapIdx, Option.map_eq_some_iff]
  refine exists_congr fun x0 => and_congr_right fun _ => ?_
  by_cases hp : p = idx <;> simp [hp, eq_comm]

theorem Newest.setAlive {b : List Blob} {q : Nat} {w : Blob} (h : Newest b q w) {idx : Nat}
    (hq : q ≠ idx) : Newest (setAlive b idx) q w := by
  refine ⟨getElem?_setAlive.mpr ⟨w, h.1, by simp [hq]⟩, h.2.1, fun p y hp hy hi => ?_⟩
  obtain ⟨y0, hy0, rfl⟩ := getElem?_setAlive.mp hy
  simp [h.2.2 p y0 hp hy0 hi]

end Ls.Abs
