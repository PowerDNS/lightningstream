import LsLemmas.CodecS
/-
  The decoders as functions of the remaining input (LsLemmas/CodecS.lean, names ending in `S`) are
  total and linear: every step returns a result or an error and leaves a proper suffix of its input
  (`Adv`), so the fuel `len + 1` of a loop is never exhausted; what is decoded is cut out of the
  input, so its size is bounded by the input's.  One postcondition per decoder says all of this
  at once.
-/
namespace Ls.CodecS
open Ls Ls.Wire Ls.Codec

theorem safe_omap {α β : Type} (f : α → β) (o : Outcome α) (h : o.Safe) : (omap f o).Safe := by
  cases o <;> exact h

theorem adv_length {p rest : Bytes} (h : Adv p rest) : rest.length < p.length := by
  obtain ⟨m, h1, h2, rfl⟩ := h
  simp; omega

theorem adv_of_drop (p : Bytes) (m : Nat) (h1 : 1 ≤ m) (h2 : m ≤ p.length) : Adv p (p.drop m) :=
  ⟨m, h1, h2, rfl⟩

theorem adv_trans_drop {p rest : Bytes} (n : Nat) (hn : n ≤ p.length) (h : Adv (p.drop n) rest) : Adv p rest := by
  obtain ⟨m, h1, h2, rfl⟩ := h
  simp only [List.length_drop] at h2
  exact ⟨n + m, by omega, by omega, by simp [List.drop_drop]⟩

theorem Adv.trans {p q r : Bytes} (hpq : Adv p q) (hqr : Adv q r) : Adv p r := by
  obtain ⟨m, _, h2, rfl⟩ := hpq
  exact adv_trans_drop m h2 hqr

/-- bytes of key and value of an entry: what a decoded entry keeps of the blob it was cut from -/
def kvSize (kv : KV) : Nat := kv.key.length + kv.val.length

/-- `kvSize` summed over the entries of one DBI -/
def entriesSize : List KV → Nat
  | [] => 0
  | kv :: kvs => kvSize kv + entriesSize kvs

theorem entriesSize_append (a b : List KV) : entriesSize (a ++ b) = entriesSize a + entriesSize b := by
  induction a with
  | nil => simp [entriesSize]
  | cons x xs ih => simp [entriesSize, ih]; omega

/-- bytes of the raw DBI messages `Snapshot.Unmarshal` has collected (slices of the blob) -/
def dbsSize : List DBIRaw → Nat
  | [] => 0
  | d :: ds => d.data.length + dbsSize ds

theorem dbsSize_append (a b : List DBIRaw) : dbsSize (a ++ b) = dbsSize a + dbsSize b := by
  induction a with
  | nil => simp [dbsSize]
  | cons x xs ih => simp [dbsSize, ih]; omega

/-- `kvSize` summed over all entries of all DBIs: the measure of `C08_linear` -/
def allEntriesSize : List DBI' → Nat
  | [] => 0
  | d :: ds => entriesSize d.entries + allEntriesSize ds

theorem skipS_post (p : Bytes) (wt : Nat) : (skipS p wt).Post (Adv p) := by
  unfold skipS
  refine post_ite (fun _ => ?_) fun _ => post_ite (fun _ => ?_) fun _ =>
    post_ite (fun _ => ?_) fun _ => post_ite (fun _ => ?_) fun _ => trivial
  · exact post_bind (decodeVarint_post p) fun x h => adv_of_drop p x.2 h.1 h.2.1
  · refine post_bind (decodeVarint_post p) fun x h => post_guard fun _ => ?_
    exact adv_of_drop p (x.2 + x.1) (by omega) (by omega)
  · exact post_guard fun _ => adv_of_drop p 4 (by omega) (by omega)
  · exact post_guard fun _ => adv_of_drop p 8 (by omega) (by omega)

/-- a length-delimited payload: the length varint, then that many bytes -/
theorem post_payload {α : Type} {Q : α → Prop} (p : Bytes) {K : Nat × Nat → Outcome α}
    (h : ∀ y : Nat × Nat, 1 ≤ y.2 → y.2 + y.1 ≤ p.length → (K y).Post Q) :
    (decodeVarint p >>= fun y => if (p.drop y.2).length < y.1 then .err .other else K y).Post Q := by
  refine post_bind (decodeVarint_post p) fun y hy => post_guard fun hv => ?_
  rw [List.length_drop] at hv
  exact h y hy.1 (by omega)

/-- one field of an entry: safe, consumes input, and what is added to key and value is cut out
    of the input -/
theorem kvStepS_post (p : Bytes) (kv : KV) :
    (kvStepS p kv).Post fun x => Adv p x.2 ∧ kvSize x.1 + x.2.length ≤ kvSize kv + p.length := by
  unfold kvStepS
  refine post_bind (decodeVarint_post p) fun x hx => ?_
  have tr : ∀ {r}, Adv (p.drop x.2) r → Adv p r := adv_trans_drop x.2 hx.2.1
  have same : ∀ {r} (kv' : KV), kvSize kv' = kvSize kv → Adv (p.drop x.2) r →
      Adv p r ∧ kvSize kv' + r.length ≤ kvSize kv + p.length := by
    intro r kv' hs hr
    exact ⟨tr hr, by have := adv_length (tr hr); omega⟩
  refine post_ite (fun _ => post_guard fun _ => ?_) fun _ =>
    post_ite (fun _ => post_guard fun _ => ?_) fun _ =>
    post_ite (fun _ => post_guard fun _ => ?_) fun _ => ?_
  · refine post_payload _ fun y h1 h2 => ?_
    have a : Adv p (((p.drop x.2).drop y.2).drop y.1) := by
      rw [List.drop_drop]; exact tr (adv_of_drop _ _ (by omega) h2)
    -- the new key or value and what is left behind it are disjoint parts of `p`
    have hb : (((p.drop x.2).drop y.2).take y.1).length + (((p.drop x.2).drop y.2).drop y.1).length
        ≤ p.length := by
      simp only [List.length_take, List.length_drop]; omega
    generalize ((p.drop x.2).drop y.2).take y.1 = b at hb ⊢
    generalize ((p.drop x.2).drop y.2).drop y.1 = r at a hb ⊢
    refine post_ite (fun _ => ⟨a, ?_⟩) fun _ => ⟨a, ?_⟩
    · show b.length + kv.val.length + r.length ≤ kv.key.length + kv.val.length + p.length; omega
    · show kv.key.length + b.length + r.length ≤ kv.key.length + kv.val.length + p.length; omega
  · exact post_bind (decodeVarint_post _) fun y g => same _ rfl (adv_of_drop _ y.2 g.1 g.2.1)
  · exact post_guard fun h8 => same _ rfl (adv_of_drop _ 8 (by decide) (by omega))
  · exact post_bind (skipS_post _ _) fun r hr => same _ rfl hr

theorem kvLoopS_post : ∀ (fuel : Nat) (p : Bytes) (kv : KV), p.length < fuel →
    (kvLoopS fuel p kv).Post fun kv' => kvSize kv' ≤ kvSize kv + p.length
  | 0, _, _, h => absurd h (Nat.not_lt_zero _)
  | fuel + 1, p, kv, h => by
    rw [kvLoopS]
    refine (kvStepS_post p kv).elim (fun x hx => ?_) fun _ => trivial
    have := adv_length hx.1
    dsimp only
    split
    · show kvSize x.1 ≤ _; omega
    · exact (kvLoopS_post fuel x.2 x.1 (by omega)).mono fun kv' h' => by omega

theorem kvUnmarshalS_post (data : Bytes) : (kvUnmarshalS data).Post fun kv => kvSize kv ≤ data.length :=
  (kvLoopS_post _ data kvZero (Nat.lt_succ_self _)).mono fun _ h => by simpa [kvSize, kvZero] using h

theorem idxStepS_post (p : Bytes) (h : DBIHdr) : (idxStepS p h).Post fun x => Adv p x.2 := by
  unfold idxStepS
  refine post_bind (decodeVarint_post p) fun x hx => ?_
  have tr : ∀ {r}, Adv (p.drop x.2) r → Adv p r := adv_trans_drop x.2 hx.2.1
  refine post_ite (fun _ => post_guard fun _ => ?_) fun _ =>
    post_ite (fun _ => post_guard fun _ => ?_) fun _ => ?_
  · refine post_payload _ fun y h1 h2 => ?_
    have a : Adv p (((p.drop x.2).drop y.2).drop y.1) := by
      rw [List.drop_drop]; exact tr (adv_of_drop _ _ (by omega) h2)
    exact post_ite (fun _ => a) fun _ => post_ite (fun _ => a) fun _ => a
  · exact post_bind (decodeVarint_post _) fun y g => tr (adv_of_drop _ y.2 g.1 g.2.1)
  · exact post_bind (skipS_post _ _) fun r hr => tr hr

/-- Any loop of the shape of `idxLoopS`, `metaLoopS`, `snapLoopS` (stop when no input is left,
    else step): if every step is safe, consumes input and keeps `I`, the loop started with more
    fuel than input is safe and ends with `I` and no input. -/
theorem loopS_post {σ : Type} {step : Bytes → σ → Outcome (σ × Bytes)} {L : Nat → Bytes → σ → Outcome σ}
    (hL : ∀ fuel p s, L (fuel + 1) p s = if p = [] then .ok s else step p s >>= fun x => L fuel x.2 x.1)
    (I : Bytes → σ → Prop) (hstep : ∀ p s, I p s → (step p s).Post fun x => Adv p x.2 ∧ I x.2 x.1) :
    ∀ (fuel : Nat) (p : Bytes) (s : σ), p.length < fuel → I p s → (L fuel p s).Post (I [])
  | 0, _, _, h, _ => absurd h (Nat.not_lt_zero _)
  | fuel + 1, p, s, h, hI => by
    rw [hL]
    split
    · subst p; exact hI
    · refine post_bind (hstep p s hI) fun x hx => ?_
      have := adv_length hx.1
      exact loopS_post hL I hstep fuel x.2 x.1 (by omega) hx.2

theorem idxLoopS_succ (fuel : Nat) (p : Bytes) (h : DBIHdr) : idxLoopS (fuel + 1) p h =
    if p = [] then .ok h else idxStepS p h >>= fun x => idxLoopS fuel x.2 x.1 := by
  rw [idxLoopS]; cases idxStepS p h <;> rfl

theorem indexDataS_safe (data : Bytes) : (indexDataS data).Safe :=
  (loopS_post idxLoopS_succ (fun _ _ => True) (fun p h _ => (idxStepS_post p h).mono fun _ ha => ⟨ha, trivial⟩)
    _ data hdrZero (Nat.lt_succ_self _) trivial).safe

/-- `Next` is safe; it leaves a proper suffix behind the entry it delivers, and entry and suffix
    together are no larger than what it started on -/
theorem nextS_post : ∀ (fuel : Nat) (p : Bytes), p.length < fuel →
    (nextS fuel p).Post fun r => ∀ kv rest, r = some (kv, rest) → Adv p rest ∧ kvSize kv + rest.length ≤ p.length
  | 0, _, h => absurd h (Nat.not_lt_zero _)
  | fuel + 1, p, h => by
    rw [nextS]
    refine post_ite (fun _ _ _ e => nomatch e) fun _ => ?_
    refine (decodeVarint_post p).elim (fun x hx => ?_) fun _ => trivial
    refine post_ite (fun _ => ?_) fun _ => post_guard fun _ => ?_
    · refine (skipS_post _ _).elim (fun r hr => ?_) fun _ => trivial
      have ha := adv_trans_drop x.2 hx.2.1 hr
      have hl := adv_length ha
      refine (nextS_post fuel r (by omega)).mono fun _ h' kv rest e => ?_
      exact ⟨ha.trans (h' kv rest e).1, by have := (h' kv rest e).2; omega⟩
    · refine (decodeVarint_post _).elim (fun y hy => ?_) fun _ => trivial
      have g2 := hy.2.1
      rw [List.length_drop] at g2
      refine post_guard fun hv => ?_
      rw [List.length_drop, List.length_drop] at hv
      refine (kvUnmarshalS_post _).elim (fun kv hkv => ?_) fun _ => trivial
      rintro _ _ ⟨⟩
      rw [List.length_take, List.length_drop, List.length_drop] at hkv
      rw [List.drop_drop, List.drop_drop, List.length_drop]
      exact ⟨adv_of_drop p _ (by omega) (by omega), by omega⟩

theorem iterS_post (n : Nat) : ∀ (fuel : Nat) (p : Bytes) (acc : List KV), p.length < n → p.length < fuel →
    (iterS n fuel p acc).2.Post fun _ => entriesSize (iterS n fuel p acc).1 ≤ entriesSize acc + p.length
  | 0, _, _, _, h => absurd h (Nat.not_lt_zero _)
  | fuel + 1, p, acc, hn, h => by
    rw [iterS]
    refine (nextS_post n p hn).elim (fun r hr => ?_) fun _ => trivial
    cases r with
    | none => exact Nat.le_add_right _ _
    | some x =>
      have hx := hr x.1 x.2 rfl
      have := adv_length hx.1
      dsimp only
      refine (iterS_post n fuel x.2 (acc ++ [x.1]) (by omega) (by omega)).mono fun _ h' => ?_
      rw [entriesSize_append] at h'
      simp only [entriesSize] at h'
      omega

theorem dbiEntriesS_post (data : Bytes) : (dbiEntriesS data).Post fun l => entriesSize l ≤ data.length := by
  have := iterS_post (data.length + 1) (data.length + 1) data [] (Nat.lt_succ_self _) (Nat.lt_succ_self _)
  unfold dbiEntriesS
  generalize iterS (data.length + 1) (data.length + 1) data [] = r at this ⊢
  obtain ⟨l, o⟩ := r
  cases o
  · exact Nat.le_trans this (Nat.le_of_eq (Nat.zero_add _))
  all_goals exact this

theorem decTagS_post (p : Bytes) : (decTagS p).Post fun x => Adv p x.2.2 := by
  unfold decTagS
  refine post_guard fun _ => post_bind (decodeVarint_post p) fun x h => ?_
  exact post_guard fun _ => adv_of_drop p x.2 h.1 h.2.1

theorem decVarintS_post (p : Bytes) : (decVarintS p).Post fun x => Adv p x.2 := by
  unfold decVarintS
  refine post_guard fun _ => post_bind (decodeVarint_post p) fun x h => ?_
  exact post_guard fun _ => adv_of_drop p x.2 h.1 h.2.1

theorem getUInt32S_post (p : Bytes) (wt : Nat) : (getUInt32S p wt).Post fun x => Adv p x.2 := by
  unfold getUInt32S
  refine post_guard fun _ => post_bind (decVarintS_post p) fun x h => ?_
  exact post_guard fun _ => h

theorem getInt64S_post (p : Bytes) (wt : Nat) : (getInt64S p wt).Post fun x => Adv p x.2 := by
  unfold getInt64S
  exact post_guard fun _ => post_bind (decVarintS_post p) fun x h => h

theorem getFixed64S_post (p : Bytes) (wt : Nat) : (getFixed64S p wt).Post fun x => Adv p x.2 := by
  unfold getFixed64S
  refine post_guard fun _ => post_guard fun _ =>
    post_guard fun h8 => adv_of_drop p 8 (by decide) (by omega)

/-- the payload and what is left behind it are disjoint parts of the input -/
theorem getBytesS_post (p : Bytes) (maxLen wt : Nat) :
    (getBytesS p maxLen wt).Post fun x => Adv p x.2 ∧ x.1.length + x.2.length ≤ p.length := by
  unfold getBytesS
  refine post_guard fun _ => post_guard fun _ =>
    post_bind (decodeVarint_post p) fun x h => ?_
  refine post_guard fun _ => post_guard fun _ =>
    post_guard fun hl => ⟨adv_of_drop p _ (by omega) (by omega), ?_⟩
  simp only [List.length_take, List.length_drop]; omega

theorem decSkipS_post (p : Bytes) (maxLen wt : Nat) : (decSkipS p maxLen wt).Post (Adv p) := by
  unfold decSkipS
  refine post_guard fun _ => post_ite (fun _ => ?_) fun _ => post_ite (fun _ => ?_) fun _ =>
    post_ite (fun _ => ?_) fun _ => post_ite (fun _ => ?_) fun _ => trivial
  · refine post_bind (decodeVarint_post p) fun x h => ?_
    exact post_guard fun _ => adv_of_drop p x.2 h.1 h.2.1
  · exact post_guard fun _ => adv_of_drop p 8 (by decide) (by omega)
  · refine post_bind (decodeVarint_post p) fun x h => ?_
    exact post_guard fun _ => post_guard fun _ =>
      post_guard fun _ => adv_of_drop p _ (by omega) (by omega)
  · exact post_guard fun _ => adv_of_drop p 4 (by decide) (by omega)

theorem metaStepS_post (p : Bytes) (m : Meta) : (metaStepS p m).Post fun x => Adv p x.2 := by
  unfold metaStepS
  refine post_bind (decTagS_post p) fun x h => ?_
  have bytes := (getBytesS_post x.2.2 defaultMaxFieldLen x.2.1).mono fun _ hy => h.trans hy.1
  have int := (getInt64S_post x.2.2 x.2.1).mono fun _ hy => h.trans hy
  refine post_ite (fun _ => ?_) fun _ => post_ite (fun _ => ?_) fun _ => post_ite (fun _ => ?_) fun _ =>
    post_ite (fun _ => ?_) fun _ => post_ite (fun _ => ?_) fun _ => post_ite (fun _ => ?_) fun _ =>
    post_ite (fun _ => ?_) fun _ => ?_
  · exact post_bind bytes fun _ hy => hy
  · exact post_bind bytes fun _ hy => hy
  · exact post_bind bytes fun _ hy => hy
  · exact post_bind int fun _ hy => hy
  · exact post_bind (getFixed64S_post _ _) fun _ hy => h.trans hy
  · exact post_bind bytes fun _ hy => hy
  · exact post_bind int fun _ hy => hy
  · exact post_bind (decSkipS_post _ _ _) fun _ hy => h.trans hy

theorem metaLoopS_succ (fuel : Nat) (p : Bytes) (m : Meta) : metaLoopS (fuel + 1) p m =
    if p = [] then .ok m else metaStepS p m >>= fun x => metaLoopS fuel x.2 x.1 := by
  rw [metaLoopS]; cases metaStepS p m <;> rfl

theorem metaUnmarshalS_safe (data : Bytes) (m : Meta) : (metaUnmarshalS data m).Safe :=
  (loopS_post metaLoopS_succ (fun _ _ => True) (fun p m _ => (metaStepS_post p m).mono fun _ ha => ⟨ha, trivial⟩)
    _ data m (Nat.lt_succ_self _) trivial).safe

/-- the raw DBIs collected so far and the input still to be read are disjoint parts of the blob -/
theorem snapStepS_post (p : Bytes) (s : SnapRaw) :
    (snapStepS p s).Post fun x => Adv p x.2 ∧ dbsSize x.1.dbs + x.2.length ≤ dbsSize s.dbs + p.length := by
  unfold snapStepS
  refine post_bind (decTagS_post p) fun x h => ?_
  have same : ∀ (s' : SnapRaw) (r : Bytes), s'.dbs = s.dbs → Adv x.2.2 r →
      Adv p r ∧ dbsSize s'.dbs + r.length ≤ dbsSize s.dbs + p.length := by
    intro s' r hs hr
    have ha := h.trans hr
    rw [hs]; exact ⟨ha, by have := adv_length ha; omega⟩
  have bytes := getBytesS_post x.2.2 snapshotMaxFieldLen x.2.1
  refine post_ite (fun _ => ?_) fun _ => post_ite (fun _ => ?_) fun _ => post_ite (fun _ => ?_) fun _ =>
    post_ite (fun _ => ?_) fun _ => ?_
  · exact post_bind (getUInt32S_post _ _) fun _ hy => same _ _ rfl hy
  · exact post_bind (getUInt32S_post _ _) fun _ hy => same _ _ rfl hy
  · exact post_bind bytes fun _ hy => post_bind (metaUnmarshalS_safe _ _).post fun _ _ => same _ _ rfl hy.1
  · refine post_bind bytes fun y hy => post_bind (indexDataS_safe _).post fun _ _ => ⟨h.trans hy.1, ?_⟩
    have := adv_length h
    simp only [dbsSize_append, dbsSize]; omega
  · exact post_bind (decSkipS_post _ _ _) fun _ hy => same _ _ rfl hy

theorem snapLoopS_succ (fuel : Nat) (p : Bytes) (s : SnapRaw) : snapLoopS (fuel + 1) p s =
    if p = [] then .ok s else snapStepS p s >>= fun x => snapLoopS fuel x.2 x.1 := by
  rw [snapLoopS]; cases snapStepS p s <;> rfl

theorem snapshotUnmarshalS_post (data : Bytes) :
    (snapshotUnmarshalS data).Post fun s => dbsSize s.dbs ≤ data.length :=
  loopS_post snapLoopS_succ (fun p s => dbsSize s.dbs + p.length ≤ data.length)
    (fun p s hI => (snapStepS_post p s).mono fun _ hx => ⟨hx.1, Nat.le_trans hx.2 hI⟩)
    _ data snapZero (Nat.lt_succ_self _) (Nat.le_of_eq (Nat.zero_add _))

theorem dbisAllS_post : ∀ (raws : List DBIRaw), (dbisAllS raws).Post fun ds => allEntriesSize ds ≤ dbsSize raws
  | [] => Nat.le_refl 0
  | d :: raws => by
    unfold dbisAllS
    refine post_bind (dbiEntriesS_post d.data) fun es he => post_bind (dbisAllS_post raws) fun ds hd => ?_
    exact Nat.add_le_add he hd

theorem decodeAllS_post (b : Bytes) : (decodeAllS b).Post fun s => allEntriesSize s.dbis ≤ b.length := by
  unfold decodeAllS
  refine post_bind (snapshotUnmarshalS_post b) fun s hs => post_bind (dbisAllS_post s.dbs) fun ds hd => ?_
  exact Nat.le_trans hd hs

end Ls.CodecS
