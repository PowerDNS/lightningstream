import LsLemmas.RecvProgress
/-
  Receiver model: notification bookkeeping (`InvM`: a foreign instance whose `lastSeen` differs
  from what its downloader processed has a busy downloader), what `last` means (`InvD`), and the
  construction of a fault-free continuation that delivers every foreign instance's newest
  decodable snapshot. Core Lean only.
-/
namespace Ls.Recv
variable {ι : Type} [DecidableEq ι]

/-- Environment assumption for the liveness results: a `put` never re-creates the name that was
    last notified for its instance (implied by: an instance publishes with increasing
    timestamps and names are never reused). -/
def NoResurrect : St ι → Step ι → Prop
  | s, .put b => AL.get s.lastNotified b.inst ≠ some b.ts
  | _, _ => True

structure InvM (s : St ι) : Prop where
  /-- what a foreign instance's `lastSeen` is has been notified -/
  n : ∀ d t, d ≠ s.own → AL.get s.lastSeen d = some t → AL.get s.lastNotified d = some t
  /-- a foreign instance without listed names: the name last notified is gone or ignored -/
  k : ∀ d t, d ≠ s.own → AL.get s.lastSeen d = none → AL.get s.lastNotified d = some t →
        (∀ b ∈ s.bucket, b.name ≠ (d, t)) ∨ (d, t) ∈ s.ignored
  /-- an unsignalled downloader works on the current `lastSeen` (or the instance has none) -/
  p : ∀ d x t, d ≠ s.own → getDl s d = some x → x.pc.ts? = some t → x.signal = false →
        AL.get s.lastSeen d = some t ∨ AL.get s.lastSeen d = none
  /-- the downloader of a foreign instance has processed `lastSeen` or is busy -/
  m : ∀ d t, d ≠ s.own → AL.get s.lastSeen d = some t →
        ∃ x, getDl s d = some x ∧ (x.last = some t ∨ x.busy = true)

theorem invM_init (own : ι) (a b : Nat) : InvM (init own a b) := by
  constructor <;> simp [init, getDl]

theorem busy_of_pc {x : Dl} (h : x.pc ≠ .idle) : x.busy = true := by
  simp [Dl.busy, h]

theorem invM_step {s s' : St ι} {x : Step ι} (hi : InvM s) (hok : NoResurrect s x)
    (h : step s x = some s') : InvM s' := by
  cases step_trans h with
  | list inc hr =>
    have spec := fun d => hr ▸ runOnce_spec inc s d
    -- a foreign instance with a listed name that is not notified was notified of that name
    -- before, and had it as `lastSeen`
    have same : ∀ d t, d ≠ s.own → AL.get (seenOf s) d = some t → ¬ListingNotifies inc s d →
        AL.get s.lastNotified d = some t ∧ AL.get s.lastSeen d = some t := by
      intro d t hd ht hnn
      have hln : AL.get s.lastNotified d = some t :=
        Classical.not_not.mp fun e => hnn ⟨t, ht, e, fun hh => hd hh.2⟩
      refine ⟨hln, ?_⟩
      cases hold : AL.get s.lastSeen d with
      | some t0 => rw [← hln, hi.n d t0 hd hold]
      | none =>
        obtain ⟨⟨b, hb, hbn⟩, hni, _⟩ := seenOf_some.mp ht
        rcases hi.k d t hd hold hln with hk | hk
        · exact absurd hbn (hk b hb)
        · exact absurd (mem_ignoredNow.mpr (Or.inl hk)) hni
    refine ⟨fun d t hd ht => ?_, fun d t hd h1 h2 => ?_, fun d y t hd hy hyt hys => ?_, fun d t hd ht => ?_⟩
    · by_cases hnn : ListingNotifies inc s d
      · exact ((spec d).1 hnn).1.trans ht
      · exact ((spec d).2 hnn).1.trans (same d t hd ht hnn).1
    · by_cases hm : (d, t) ∈ ignoredNow s
      · exact Or.inr hm
      · exact Or.inl fun b hbm hbn => hm (hbn ▸ seenOf_none.mp h1 b hbm (Blob.name_eq.mp hbn).1)
    · by_cases hnn : ListingNotifies inc s d
      · rw [show getDl _ d = _ from ((spec d).1 hnn).2] at hy
        cases hy; simp at hys
      · rw [show getDl _ d = _ from ((spec d).2 hnn).2] at hy
        cases hnew : AL.get (seenOf s) d with
        | none => exact Or.inr rfl
        | some t' =>
          rcases hi.p d y t hd hy hyt hys with hp | hp <;> rw [(same d t' hd hnew hnn).2] at hp
          · exact Or.inl hp
          · cases hp
    · by_cases hnn : ListingNotifies inc s d
      · exact ⟨_, ((spec d).1 hnn).2, Or.inr (by simp [Dl.busy])⟩
      · obtain ⟨x, hx, hl⟩ := hi.m d t hd (same d t hd ht hnn).2
        exact ⟨x, ((spec d).2 hnn).2.trans hx, hl⟩
  | skip | next | close => exact ⟨hi.n, hi.k, hi.p, hi.m⟩
  | put b =>
    refine ⟨hi.n, fun d t hd h1 h2 => (hi.k d t hd h1 h2).imp_left fun hk b0 hb0 => ?_, hi.p, hi.m⟩
    rcases List.mem_cons.mp hb0 with rfl | hm
    · exact fun hbn => hok ((Blob.name_eq.mp hbn).1 ▸ (Blob.name_eq.mp hbn).2 ▸ h2)
    · exact hk b0 (List.mem_filter.mp hm).1
  | rm d t =>
    exact ⟨hi.n, fun d0 t0 hd h1 h2 => (hi.k d0 t0 hd h1 h2).imp_left fun hk b0 hb0 =>
      hk b0 (List.mem_filter.mp hb0).1, hi.p, hi.m⟩
  | @move d y _ y' _ _ hy m =>
    refine ⟨hi.n, hi.k, fun d0 z t hd hz hzt hzs => ?_, fun d0 t hd ht => ?_⟩
    · rcases AL.get_set_cases hz with ⟨rfl, rfl⟩ | ⟨_, hz⟩
      · rcases m.ts hzt with ⟨h1, h2⟩ | ⟨_, h2, _⟩
        · exact hi.p _ _ _ hd hy h1 (h2 ▸ hzs)
        · exact Or.inl h2
      · exact hi.p _ _ _ hd hz hzt hzs
    · refine AL.exists_get_set (hi.m d0 t hd ht) fun e => ?_
      subst e
      -- only `park` leaves the downloader idle, and it has processed `lastSeen`
      cases m with
      | park hpc hl => exact Or.inl (hl t ht)
      | _ => exact Or.inr (busy_of_pc (by simp))
  | @decodeBad d y t hy hpc =>
    exact ⟨hi.n, hi.k, fun d0 z t0 hd hz hzt hzs => hi.p _ _ _ hd (get_set_ts rfl hz hzt).2 hzt hzs,
      fun d0 t0 hd ht => AL.exists_get_set (hi.m d0 t0 hd ht) fun _ => Or.inr (busy_of_pc (by simp))⟩
  | @decodeGood d y t hy hpc =>
    refine ⟨hi.n, hi.k, fun d0 z t0 hd hz hzt hzs => hi.p _ _ _ hd (get_set_ts rfl hz hzt).2 hzt hzs,
      fun d0 t0 hd ht => AL.exists_get_set (hi.m d0 t0 hd ht) fun e => ?_⟩
    subst e
    -- signalled: busy; else the name just decoded is `lastSeen`
    cases hsig : y.signal with
    | true => exact Or.inr (by simp [Dl.busy])
    | false =>
      rcases hi.p d0 y t hd hy (by rw [hpc]; rfl) hsig with hp | hp <;> rw [ht] at hp <;> cases hp
      exact Or.inl rfl

/-! ### what `last` means -/

/-- the name a downloader processed last was marked corrupt, is pending, or was delivered -/
def InvD (s : St ι) : Prop :=
  ∀ d x t, getDl s d = some x → x.last = some t →
    (d, t) ∈ s.corrupt ∨ AL.get s.pending d = some t ∨ (d, t) ∈ s.delivered

theorem invD_init (own : ι) (a b : Nat) : InvD (init own a b) := by
  intro d x t hx; simp [init, getDl] at hx

theorem invD_step {s s' : St ι} {x : Step ι} (hi : InvD s) (h : step s x = some s') : InvD s' := by
  cases step_trans h with
  | list inc hr =>
    intro d z t hz hzl
    rw [← hr] at hz
    rcases runOnce_getDl hz with ⟨y, hy, _, hl⟩ | ⟨_, hl⟩ <;> rw [hl] at hzl
    · exact hi d y t hy hzl
    · cases hzl
  | skip | put | rm | close => exact hi
  | move hy m =>
    intro d0 z t hz hzl
    rcases AL.get_set_cases hz with ⟨rfl, rfl⟩ | ⟨_, hz⟩
    · exact hi _ _ _ hy (m.last ▸ hzl)
    · exact hi _ _ _ hz hzl
  | decodeBad hy hpc =>
    intro d0 z t0 hz hzl
    rcases AL.get_set_cases hz with ⟨rfl, rfl⟩ | ⟨_, hz⟩
    · cases hzl; exact Or.inl (mem_insertName.mpr (Or.inr rfl))
    · exact (hi _ _ _ hz hzl).imp_left fun hc => mem_insertName.mpr (Or.inl hc)
  | decodeGood hy hpc =>
    intro d0 z t0 hz hzl
    rcases AL.get_set_cases hz with ⟨rfl, rfl⟩ | ⟨hd, hz⟩
    · cases hzl; exact Or.inr (Or.inl (AL.get_set_self ..))
    · exact (hi _ _ _ hz hzl).imp_right (Or.imp_left ((AL.get_set_ne _ _ hd).trans ·))
  | @next d t hh hp =>
    intro d0 z t0 hz hzl
    rcases hi d0 z t0 hz hzl with h1 | h1 | h1
    · exact Or.inl h1
    · by_cases e : d0 = d
      · subst e; rw [hp] at h1; cases h1
        exact Or.inr (Or.inr List.mem_cons_self)
      · exact Or.inr (Or.inl ((AL.get_erase_ne _ e).trans h1))
    · exact Or.inr (Or.inr (List.mem_cons_of_mem _ h1))

structure AllInv (f : ι × Nat → Bool) (s : St ι) : Prop where
  tok : Inv s
  cor : InvK s
  lst : InvL s
  ntf : InvM s
  lastD : InvD s
  flag : InvF f s
  ign : ∀ n ∈ s.ignored, f n = true
  lim1 : 1 ≤ s.dlLimit
  lim2 : 1 ≤ s.dcLimit

/-- the environment assumptions of the liveness results -/
def EnvOk (f : ι × Nat → Bool) (s : St ι) (x : Step ι) : Prop := NoResurrect s x ∧ PutsAgree f s x

theorem allInv_init (f : ι × Nat → Bool) (own : ι) (a b : Nat) (ha : 1 ≤ a) (hb : 1 ≤ b) : AllInv f (init own a b) :=
  ⟨inv_init own a b, invK_init own a b, invL_init own a b, invM_init own a b, invD_init own a b,
   invF_init f own a b, by simp [init], ha, hb⟩

theorem allInv_step {f : ι × Nat → Bool} {s s' : St ι} {x : Step ι} (hi : AllInv f s) (hok : EnvOk f s x)
    (h : step s x = some s') : AllInv f s' := by
  obtain ⟨_, h2, h3⟩ := step_own h
  refine ⟨inv_step hi.tok h, invK_step hi.cor h, invL_step hi.lst h, invM_step hi.ntf hok.1 h, invD_step hi.lastD h,
    invF_step hi.flag hok.2 h, ?_, h2 ▸ hi.lim1, h3 ▸ hi.lim2⟩
  -- only a listing adds to `ignored`: the corrupt names
  cases step_trans h with
  | list => exact fun n hn => (mem_ignoredNow.mp hn).elim (hi.ign n) (hi.flag.cor n)
  | _ => exact hi.ign

theorem allInv_run {f : ι × Nat → Bool} {s s' : St ι} (steps : List (Step ι)) (hi : AllInv f s)
    (hok : AllOk (EnvOk f) s steps) (h : run s steps = some s') : AllInv f s' :=
  run_induct (AllInv f) (EnvOk f) (fun _ _ _ hp ho hs => allInv_step hp ho hs) steps s s' hi hok h

/-- steps of the continuation: successful listings and fault-free downloader/consumer steps -/
def Step.quiet : Step ι → Bool
  | .runOnce _ ok => ok
  | x => x.fair

theorem envOk_of_quiet {f : ι × Nat → Bool} {s : St ι} {x : Step ι} (h : x.quiet = true) : EnvOk f s x := by
  cases x <;> first | exact ⟨trivial, trivial⟩ | cases h

omit [DecidableEq ι] in
theorem quiet_of_fair {x : Step ι} (h : x.fair = true) : x.quiet = true := by
  cases x <;> first | exact h | cases h

/-! ### rounds: listing, then to rest -/

/-- between a listing and the next change of the bucket: names in `lastSeen`, names downloaders
    work on and corrupt names not yet ignored all name blobs of the bucket -/
structure RoundInv (s : St ι) : Prop where
  sb : SeenInBucket s
  pb : ∀ d x t, getDl s d = some x → x.pc.ts? = some t → (hasBlob s d t).isSome = true
  cb : ∀ n ∈ s.corrupt, n ∉ s.ignored → ∃ b ∈ s.bucket, b.name = n

theorem roundInv_fair {s s' : St ι} {x : Step ι} (hi : RoundInv s) (hf : x.fair = true)
    (h : step s x = some s') : RoundInv s' := by
  cases step_trans h with
  | list | skip | put | rm => cases hf
  | move hy m =>
    refine ⟨hi.sb, fun d0 z t hz hzt => ?_, hi.cb⟩
    rcases AL.get_set_cases hz with ⟨rfl, rfl⟩ | ⟨_, hz⟩
    · rcases m.ts hzt with ⟨h1, _⟩ | ⟨_, h2, _⟩
      · exact hi.pb _ _ _ hy h1
      · exact hi.sb _ _ h2
    · exact hi.pb _ _ _ hz hzt
  | decodeBad hy hpc =>
    refine ⟨hi.sb, fun d0 z t hz hzt => hi.pb _ _ _ (get_set_ts rfl hz hzt).2 hzt, fun n hn hni => ?_⟩
    rcases mem_insertName.mp hn with hn | rfl
    · exact hi.cb n hn hni
    · obtain ⟨b, hb⟩ := Option.isSome_iff_exists.mp (hi.pb _ _ _ hy (by rw [hpc]; rfl))
      exact ⟨b, hasBlob_some hb⟩
  | decodeGood hy hpc =>
    exact ⟨hi.sb, fun d0 z t hz hzt => hi.pb _ _ _ (get_set_ts rfl hz hzt).2 hzt, hi.cb⟩
  | next | close => exact ⟨hi.sb, hi.pb, hi.cb⟩

theorem run_fair {P : St ι → Prop} (hstep : ∀ s x s', P s → x.fair = true → step s x = some s' → P s')
    {s s' : St ι} (steps : List (Step ι)) (hf : ∀ x ∈ steps, x.fair = true) (hp : P s)
    (hr : run s steps = some s') : P s' :=
  run_induct P (fun _ x => x.fair = true) hstep steps s s' hp (allOk_of_forall steps (fun x hx _ => hf x hx) s) hr

theorem run_fair_frame {s s' : St ι} (steps : List (Step ι)) (hf : ∀ x ∈ steps, x.fair = true)
    (hr : run s steps = some s') :
    s'.bucket = s.bucket ∧ s'.lastSeen = s.lastSeen ∧ s'.ignored = s.ignored :=
  run_fair (P := fun z => z.bucket = s.bucket ∧ z.lastSeen = s.lastSeen ∧ z.ignored = s.ignored)
    (fun _ _ _ hp hx hs => by
      obtain ⟨h1, h2, h3⟩ := fair_frame hx hs
      exact ⟨h1.trans hp.1, h2.trans hp.2.1, h3.trans hp.2.2⟩) steps hf ⟨rfl, rfl, rfl⟩ hr

theorem roundInv_runOnce {s : St ι} (h : AtRest s) (inc : Bool) : RoundInv (runOnce inc s) := by
  refine ⟨seenInBucket_runOnce inc s, fun d z t hz hzt => ?_, fun n hn hni => ?_⟩
  · -- at rest every downloader is idle, and a listing keeps it so
    rcases runOnce_getDl hz with ⟨y, hy, hpc, _⟩ | ⟨hpc, _⟩ <;> rw [hpc] at hzt
    · have := h.1 d y hy
      simp only [Dl.busy, Bool.or_eq_false_iff, bne_eq_false_iff_eq] at this
      rw [this.2] at hzt; cases hzt
    · cases hzt
  · rw [runOnce_frame] at hn hni
    exact absurd ((mem_ignoredNow (s := s)).mpr (Or.inr hn)) hni

/-- the listing of the current bucket with the current ignore set is `lastSeen`, every corrupt
    name is ignored, and nothing is in flight -/
structure Settled (s : St ι) : Prop where
  rest : AtRest s
  seen : ∀ d t, AL.get s.lastSeen d = some t ↔ NewestIn s.bucket s.ignored d t
  cor : ∀ n ∈ s.corrupt, n ∈ s.ignored

/-- one round: a successful listing, then fault-free steps to rest; after a round that started at
    rest, the corrupt names not yet ignored name blobs of the bucket -/
theorem round {f : ι × Nat → Bool} {s : St ι} (hi : AllInv f s) :
    ∃ steps s', (∀ x ∈ steps, x.quiet = true) ∧ run s steps = some s' ∧ AtRest s' ∧ AllInv f s' ∧
      s'.bucket = s.bucket ∧ s'.ignored = ignoredNow s ∧ s'.lastSeen = seenOf s ∧
      (AtRest s → ∀ n ∈ s'.corrupt, n ∉ s'.ignored → ∃ b ∈ s'.bucket, b.name = n) := by
  have hs1 : step s (.runOnce false true) = some (runOnce false s) := rfl
  have hi1 : AllInv f (runOnce false s) := allInv_step hi (envOk_of_quiet rfl) hs1
  obtain ⟨steps, s2, hfs, hrun, hrest⟩ :=
    reach_rest hi1.tok hi1.cor (seenInBucket_runOnce false s) hi1.lim1 hi1.lim2
  have hq : ∀ x ∈ steps, x.quiet = true := fun x hx => quiet_of_fair (hfs x hx)
  obtain ⟨hb, hs, hig⟩ := run_fair_frame steps hfs hrun
  rw [runOnce_frame] at hb hs hig
  exact ⟨.runOnce false true :: steps, s2, List.forall_mem_cons.mpr ⟨rfl, hq⟩, by simp only [run, hs1]; exact hrun,
    hrest, allInv_run steps hi1 (allOk_of_forall steps (fun x hx _ => envOk_of_quiet (hq x hx)) _) hrun,
    hb, hig, hs, fun hr =>
      (run_fair (fun _ _ _ hp hx hs => roundInv_fair hp hx hs) steps hfs (roundInv_runOnce hr false) hrun).cb⟩

/-- Rounds until every corrupt name is ignored: each further round ignores one more blob of the
    bucket. -/
theorem settles {f : ι × Nat → Bool} {s : St ι} (hi : AllInv f s) (hr : AtRest s) :
    ∃ steps s', (∀ x ∈ steps, x.quiet = true) ∧ run s steps = some s' ∧ Settled s' ∧ AllInv f s' ∧
      s'.bucket = s.bucket := by
  generalize hn : freshCount s.bucket (ignoredNow s) = n
  induction n using Nat.strongRecOn generalizing s with
  | _ n ih =>
    obtain ⟨steps, s2, hq, hrun, hrest, hi2, hb, hig, hseen, hcb⟩ := round hi
    by_cases hc : ∀ n ∈ s2.corrupt, n ∈ s2.ignored
    · exact ⟨steps, s2, hq, hrun, ⟨hrest, fun d t => by rw [hseen, seenOf_some, hb, hig], hc⟩, hi2, hb⟩
    · obtain ⟨m, hm1, hm2⟩ : ∃ m, m ∈ s2.corrupt ∧ m ∉ s2.ignored :=
        Classical.byContradiction fun hne => hc fun n hn => Classical.byContradiction fun hni => hne ⟨n, hn, hni⟩
      obtain ⟨b, hbm, hbn⟩ := hcb hr m hm1 hm2
      have hlt := (freshCount_mono (bk := s2.bucket) fun n hn => mem_ignoredNow.mpr (Or.inl hn)).2 b hbm
        (hbn ▸ hm2) (hbn ▸ mem_ignoredNow.mpr (Or.inr hm1))
      have e : freshCount s2.bucket s2.ignored = n := by rw [hb, hig]; exact hn
      obtain ⟨steps', s3, hq', hrun', hset, hi3, hb'⟩ := ih _ (e ▸ hlt) hi2 hrest rfl
      exact ⟨steps ++ steps', s3, fun x hx => (List.mem_append.mp hx).elim (hq x) (hq' x),
        by rw [run_append, hrun]; exact hrun', hset, hi3, hb'.trans hb⟩

theorem settle {f : ι × Nat → Bool} : ∀ (n : Nat) (s : St ι), freshCount s.bucket (ignoredNow s) ≤ n →
    AllInv f s → AtRest s →
    ∃ steps s', (∀ x ∈ steps, x.quiet = true) ∧ run s steps = some s' ∧ Settled s' ∧ AllInv f s' ∧
      s'.bucket = s.bucket :=
  fun _ _ _ hi hr => settles hi hr

/-- in a settled state every foreign instance's newest non-ignored name has been delivered -/
theorem settled_delivered {f : ι × Nat → Bool} {s : St ι} (hi : AllInv f s) (hs : Settled s) {d : ι} {t : Nat}
    (hd : d ≠ s.own) (hn : NewestIn s.bucket s.ignored d t) : (d, t) ∈ s.delivered := by
  obtain ⟨x, hx, hl⟩ := hi.ntf.m d t hd ((hs.seen d t).mpr hn)
  rcases hl with hl | hl
  · rcases hi.lastD d x t hx hl with h | h | h
    · exact absurd (hs.cor _ h) hn.2.1
    · rw [hs.rest.2.1] at h; cases h
    · exact h
  · rw [hs.rest.1 d x hx] at hl; cases hl

/-- the newest decodable blob of `d` in the bucket -/
def NewestGood (bk : List (Blob ι)) (d : ι) (t : Nat) : Prop :=
  (∃ b ∈ bk, b.name = (d, t) ∧ b.bad = false) ∧ ∀ b ∈ bk, b.inst = d → b.bad = false → b.ts ≤ t

theorem settled_newest_good {f : ι × Nat → Bool} {s : St ι} (hi : AllInv f s) (hs : Settled s) {d : ι} {g : Nat}
    (hd : d ≠ s.own) (hg : NewestGood s.bucket d g) : (d, g) ∈ s.delivered := by
  obtain ⟨⟨b, hbm, hbn, hbb⟩, hmax⟩ := hg
  have hgi : (d, g) ∉ s.ignored := fun hm => by
    have := hi.ign _ hm
    rw [← hbn, ← hi.flag.bk b hbm, hbb] at this; cases this
  -- a listing would find a newest non-ignored name `t` of `d`, since `(d, g)` is one
  have hcong : ∀ t, (d, t) ∈ ignoredNow s ↔ (d, t) ∈ s.ignored := fun t =>
    mem_ignoredNow.trans ⟨fun h => h.elim id (hs.cor _), Or.inl⟩
  cases hso : AL.get (seenOf s) d with
  | none => exact absurd ((hcong g).mp (hbn ▸ seenOf_none.mp hso b hbm (Blob.name_eq.mp hbn).1)) hgi
  | some t =>
    -- it was delivered, so it is decodable, so it is `g`
    have hn : NewestIn s.bucket s.ignored d t := (NewestIn.congr hcong).mp (seenOf_some.mp hso)
    have hdel := settled_delivered hi hs hd hn
    obtain ⟨⟨b', hbm', hbn'⟩, _, hmaxn⟩ := hn
    have h1 := hmax b' hbm' (Blob.name_eq.mp hbn').1 (by rw [hi.flag.bk b' hbm', hbn']; exact hi.flag.deliv _ hdel)
    have h2 := hmaxn b hbm (Blob.name_eq.mp hbn).1 (hbn ▸ hgi)
    rw [(Blob.name_eq.mp hbn').2] at h1; rw [(Blob.name_eq.mp hbn).2] at h2
    rw [Nat.le_antisymm h2 h1]; exact hdel

end Ls.Recv