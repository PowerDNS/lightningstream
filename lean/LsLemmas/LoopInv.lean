import LsLemmas.LoopGhost
/-
  Invariants of the sync loop that hold for EVERY schedule (`Inv0`: no race-freedom needed):
  transaction-id bounds, "no local cause ⇒ lastSynced keeps up with lastTxn" (no echo),
  the own-instance guard, ghost coverage of application transactions, run-once bookkeeping.
  Then the invariant of the race-free schedules (`Inv1`), and I1 of C03 read off the two.
-/
namespace Ls.Loop
open Ls Ls.Txn Ls.SyncLoop

/-- no cause for an upload is outstanding -/
def Calm (gh : Gh) : Prop := gh.appDirty = false ∧ gh.startDirty = false

def AllLe (n : Nat) (gh : Gh) : Prop := (∀ p ∈ gh.uncap, p ≤ n) ∧ (∀ p ∈ gh.unpub, p ≤ n)

def AllGt (n : Nat) (gh : Gh) : Prop := (∀ p ∈ gh.uncap, n < p) ∧ (∀ p ∈ gh.unpub, n < p)

/-- what a dump in progress / stored carries along -/
def SendInv (c : LoopCfg) (L S : Nat) (w : List InstId) (gh : Gh) (who : Caller) (t : Nat) : Prop :=
  S ≤ t ∧ gh.startDirty = false ∧ (gh.appDirty = false → L ≤ t) ∧
  (gh.sendApp = true ∨ gh.sendStart = true) ∧ c.own ∉ w ∧ (who = .initial → w = [])

/-- the per-yield-point part of the invariant -/
def PcInv0 (c : LoopCfg) (L S : Nat) (w : List InstId) (gh : Gh) : Pc → Prop
  | .boot => gh.startSet = []
  | .top => Calm gh → L ≤ S
  | .beforeInfo => Calm gh → L ≤ S
  | .sleep => Calm gh → L ≤ S
  | .loadAfterTxn t lc _ _ _ => t ≤ L + 1 ∧ (Calm gh → lc = false ∧ L ≤ t)
  | .beforeSend => ¬ Calm gh ∧ c.own ∉ w
  | .sendAfterTxn who t _ _ => t ≤ L + 1 ∧ SendInv c L S w gh who t
  | .sendStored who t => t ≤ L ∧ SendInv c L S w gh who t
  | .exited _ => True

/-- a dump may be in flight (or the loop has ended) -/
def pcSending : Pc → Bool
  | .sendAfterTxn .. => true
  | .exited _ => true
  | _ => false

/-- the invariant on the projections it depends on -/
structure Inv0c (c : LoopCfg) (L S : Nat) (w : List InstId) (pc : Pc) (gh : Gh) : Prop where
  sync_le : S ≤ L
  all_le : AllLe L gh
  pcinv : PcInv0 c L S w gh pc
  inflight : c.txn.receiveOnly = false → pcSending pc = false → gh.inflight = []
  cover : ∀ p ∈ gh.allApp, p ∈ gh.unpub ∨ p ∈ gh.inflight ∨ p ∈ gh.published
  left : ∀ x ∈ gh.startSet, x ∈ w ∨ x ∈ gh.merged ∨ x ∈ gh.gone

/-- **the invariant of every schedule** (of the event language `Ev`, which has no arming event:
    no snapshot is overdue, `unarmed` — the harness's arming is the extra event of `EvA`/`runA`;
    what holds for armed states is in `LoopQuiet.lean`,
    `OwnGuard`, and in the `…_forced_…` theorems) -/
structure Inv0 (c : LoopCfg) (g : G) : Prop extends
    Inv0c c g.st.env.lastTxn g.st.lastSynced g.st.waiting g.st.pc g.gh where
  unarmed : g.st.forceArmed = false

theorem Inv0.init (c : LoopCfg) (env : Env) (b : Bucket) : Inv0 c (G.init env b) := by
  exact { sync_le := Nat.zero_le _
          all_le := ⟨fun p hp => (nomatch hp), fun p hp => (nomatch hp)⟩
          pcinv := rfl
          inflight := fun _ _ => rfl
          cover := fun p hp => nomatch hp
          left := fun p hp => nomatch hp
          unarmed := rfl }

theorem cause_of_not_calm {gh : Gh} (h : ¬ Calm gh) : gh.appDirty = true ∨ gh.startDirty = true := by
  cases ha : gh.appDirty
  · cases hs : gh.startDirty
    · exact absurd ⟨ha, hs⟩ h
    · exact Or.inr rfl
  · exact Or.inl rfl

theorem not_calm_app (gh : Gh) (p : Nat) : ¬ Calm (gh.app p) := fun h => Bool.noConfusion h.1

theorem Inv0c.app {c : LoopCfg} {L S : Nat} {w : List InstId} {pc : Pc} {gh : Gh}
    (h : Inv0c c L S w pc gh) : Inv0c c (L + 1) S w pc (gh.app (L + 1)) := by
  obtain ⟨h1, h2, h3, h4, h5, h6⟩ := h
  have hnc : ¬ Calm (gh.app (L + 1)) := not_calm_app _ _
  refine ⟨by omega, ⟨List.forall_mem_cons.mpr ⟨Nat.le_refl _, fun p hp => Nat.le_succ_of_le (h2.1 p hp)⟩,
    List.forall_mem_cons.mpr ⟨Nat.le_refl _, fun p hp => Nat.le_succ_of_le (h2.2 p hp)⟩⟩, ?_, h4,
    fun p hp => ?_, h6⟩
  · cases pc with
    | boot => exact h3
    | top | beforeInfo | sleep => exact fun hc => absurd hc hnc
    | loadAfterTxn => exact ⟨Nat.le_succ_of_le h3.1, fun hc => absurd hc hnc⟩
    | beforeSend => exact ⟨hnc, h3.2⟩
    | sendAfterTxn | sendStored =>
      obtain ⟨a1, a2, a3, a4, a5⟩ := h3
      exact ⟨Nat.le_succ_of_le a1, a2, a3, fun hc => Bool.noConfusion hc, a5⟩
    | exited => trivial
  · rcases List.mem_cons.mp hp with rfl | hp
    · exact Or.inl List.mem_cons_self
    · rcases h5 p hp with h | h | h
      · exact Or.inl (List.mem_cons_of_mem _ h)
      · exact Or.inr (Or.inl h)
      · exact Or.inr (Or.inr h)

theorem Inv0.app {c : LoopCfg} {g : G} (h : Inv0 c g) (ops : List AppOp) : Inv0 c (step c g (.app ops)) := by
  obtain ⟨hpc, hS, hw, hf, hcase⟩ := step_app c g ops
  refine ⟨?_, hf.trans h.unarmed⟩
  rw [hpc, hS, hw]
  rcases hcase with ⟨_, hL, hg⟩ | ⟨_, hL, hg⟩ <;> rw [hL, hg]
  · exact h.toInv0c
  · exact h.toInv0c.app

theorem AllLe.mono {L L' : Nat} {gh : Gh} (h : AllLe L gh) (hL : L ≤ L') : AllLe L' gh :=
  ⟨fun p hp => Nat.le_trans (h.1 p hp) hL, fun p hp => Nat.le_trans (h.2 p hp) hL⟩

theorem loadSynced_le {s : St} (h : s.lastSynced ≤ s.env.lastTxn) : loadSynced s ≤ s.env.lastTxn := by
  unfold loadSynced
  split
  · split <;> omega
  · exact h

/-- without a local cause the load part is entered with `lastSynced` caught up -/
theorem PcInv0.loads {c : LoopCfg} {s : St} {gh : Gh} (hl : InLoads s)
    (h : PcInv0 c s.env.lastTxn s.lastSynced s.waiting gh s.pc) (hc : Calm gh) :
    s.env.lastTxn ≤ loadSynced s := by
  unfold loadSynced
  rcases hl with hpc | ⟨t, lc, inst, ts, n, hpc⟩ <;> rw [hpc] at h ⊢
  · exact h hc
  · obtain ⟨hlc, hL⟩ := h.2 hc
    subst hlc
    simp only
    split <;> omega

theorem pcSending_loads {s : St} (hl : InLoads s) : pcSending s.pc = false := by
  rcases hl with h | ⟨_, _, _, _, _, h⟩ <;> rw [h] <;> rfl

/-- at the end of an iteration the invariant of the idle yield points is what is needed -/
theorem PcInv0.tail {c : LoopCfg} {L S : Nat} {w w' : List InstId} {gh : Gh} (h : Calm gh → L ≤ S) :
    PcInv0 c L S w gh (tailPc c w') := by
  rcases tailPc_cases c w' with e | ⟨e, _⟩ <;> rw [e]
  · exact h
  · trivial

/-- the yield point after a successful `SendOnce` transaction (begun with a cause) -/
theorem PcInv0.dump {c : LoopCfg} {env : Env} {now S : Nat} {r : SendRes} {w : List InstId} {gh : Gh}
    {who : Caller} (hr : sendOnce c.txn env now 0 = .ok r)
    (hcause : gh.appDirty = true ∨ gh.startDirty = true) (hown : c.own ∉ w)
    (hw : who = .initial → w = []) (hS : S ≤ env.lastTxn) :
    PcInv0 c r.env.lastTxn S w gh.beginDump
      (.sendAfterTxn who (if c.txn.native then env.lastTxn else env.lastTxn + 1) now r.snap) := by
  obtain ⟨hn, hL⟩ := sendOnce_facts hr
  have ht : r.env.lastTxn ≤ (if c.txn.native then env.lastTxn else env.lastTxn + 1) ∧
      (if c.txn.native then env.lastTxn else env.lastTxn + 1) ≤ r.env.lastTxn + 1 := by
    cases hnat : c.txn.native with
    | true => rw [hn hnat]; simp
    | false => simp; omega
  exact ⟨ht.2, by omega, rfl, fun _ => ht.1, hcause, hown, hw⟩

theorem cover_beginDump {gh : Gh}
    (h : ∀ p ∈ gh.allApp, p ∈ gh.unpub ∨ p ∈ gh.inflight ∨ p ∈ gh.published) (p : Nat)
    (hp : p ∈ gh.allApp) : p ∈ ([] : List Nat) ∨ p ∈ gh.inflight ++ gh.unpub ∨ p ∈ gh.published := by
  rcases h p hp with h | h | h
  · exact Or.inr (Or.inl (List.mem_append_right _ h))
  · exact Or.inr (Or.inl (List.mem_append_left _ h))
  · exact Or.inr (Or.inr h)

/-- who was waited for at start-up and is dropped now because a load of one of its snapshots begins -/
theorem left_filter {w merged gone startSet : List InstId} {inst : InstId}
    (h : ∀ x ∈ startSet, x ∈ w ∨ x ∈ merged ∨ x ∈ gone) (x : InstId) (hx : x ∈ startSet) :
    x ∈ w.filter (· != inst) ∨ x ∈ inst :: merged ∨ x ∈ gone := by
  rcases h x hx with h | h | h
  · by_cases hc : x = inst
    · exact Or.inr (Or.inl (hc ▸ List.mem_cons_self))
    · exact Or.inl (List.mem_filter.mpr ⟨h, by simpa using hc⟩)
  · exact Or.inr (Or.inl (List.mem_cons_of_mem _ h))
  · exact Or.inr (Or.inr h)

theorem min_le_of {L t : Nat} (h : L ≤ t) : L ≤ (if L < t then L else t) := by
  split <;> omega

theorem Inv0c.seg {c : LoopCfg} {b : Bucket} {s : St} {i : In} {gh : Gh} {s' : St} {b' : Bucket} {gh' : Gh}
    (h : Inv0c c s.env.lastTxn s.lastSynced s.waiting s.pc gh) (hu : s.forceArmed = false)
    (hseg : Seg c b s i gh s' b' gh') :
    Inv0c c s'.env.lastTxn s'.lastSynced s'.waiting s'.pc gh' := by
  obtain ⟨h1, h2, h3, h4, h5, h6⟩ := h
  cases hseg with
  | bootFailed env cls hpc he =>
    have hle : s.env.lastTxn ≤ env.lastTxn := by
      rcases he with rfl | he
      · exact Nat.le_refl _
      · obtain ⟨hL, _⟩ := startCapture_facts he; omega
    exact ⟨Nat.zero_le _, h2.mono hle, trivial, fun _ hc => (nomatch hc), h5, fun x hx => Or.inl hx⟩
  | booted env hpc he hs =>
    dsimp only [atTop, startSt]
    obtain ⟨e1, e2, _⟩ := startCapture_facts he
    rw [hpc] at h4
    refine ⟨Nat.zero_le _, h2.mono (by omega), fun hc => ?_, fun hro _ => h4 hro rfl, h5,
      fun x hx => Or.inl hx⟩
    have h0 : s.env.lastTxn = 0 := by
      have := hc.2
      simp only [Gh.started, decide_eq_false_iff_not] at this
      omega
    rw [e2 h0, h0]; exact Nat.le_refl _
  | bootDumped env r hpc he hs hb hr =>
    subst hb
    refine ⟨Nat.zero_le _, ⟨fun _ hp => (nomatch hp), fun _ hp => (nomatch hp)⟩, ?_, fun _ hc => (nomatch hc),
      cover_beginDump h5, fun x hx => Or.inl hx⟩
    exact PcInv0.dump (gh := { gh with startDirty := decide (0 < s.env.lastTxn), startSet := instancesOf [] })
      hr (Or.inr (decide_eq_true hs)) List.not_mem_nil (fun _ => rfl) (Nat.zero_le _)
  | endLoads hl hr =>
    refine ⟨loadSynced_le h1, h2, PcInv0.loads (s := s) hl h3, fun hro _ => h4 hro (pcSending_loads hl), h5, fun x hx => ?_⟩
    rcases h6 x hx with h | h | h
    · by_cases hc : s.seen.contains x = true
      · exact Or.inl (List.mem_filter.mpr ⟨h, hc⟩)
      · exact Or.inr (Or.inr (List.mem_append_right _ (List.mem_filter.mpr ⟨h, by simpa using hc⟩)))
    · exact Or.inr (Or.inl h)
    · exact Or.inr (Or.inr (List.mem_append_left _ h))
  | unknown inst ts hl hn hb =>
    exact ⟨loadSynced_le h1, h2, trivial, fun _ hc => (nomatch hc), h5, h6⟩
  | loadFailed inst e hl ht =>
    exact ⟨loadSynced_le h1, h2, trivial, fun _ hc => (nomatch hc), h5, left_filter h6⟩
  | loaded inst ts n blob r hl ht _ _ _ hload =>
    dsimp only
    obtain ⟨hL, hlc⟩ := loadOnce_facts hload
    have hsl := loadSynced_le h1
    refine ⟨by omega, ⟨fun p hp => ?_, (h2.mono (by omega)).2⟩,
      ⟨by omega, fun hc => ?_⟩,
      fun hro _ => h4 hro (pcSending_loads hl), h5, left_filter h6⟩
    · have : p ∈ gh.uncap := by
        revert hp
        split
        · exact fun hp => (nomatch hp)
        · exact id
      have := h2.1 p this
      omega
    · have := PcInv0.loads (s := s) hl h3 hc
      refine ⟨by rw [hlc]; simp; omega, ?_⟩
      omega
  | noSend hpc hno =>
    rw [hpc] at h3 h4
    exact ⟨h1, h2, PcInv0.tail h3, fun hro _ => h4 hro rfl, h5, h6⟩
  | emptyGuard hpc harm => rw [hu] at harm; cases harm
  | toSend hpc hgt hown hd =>
    dsimp only
    rw [hpc] at h3 h4
    refine ⟨Nat.le_refl _, h2, ⟨fun hc => ?_, hown⟩, fun hro _ => h4 hro rfl, h5, h6⟩
    have := h3 hc
    rcases hgt with hgt | hgt
    · omega
    · rw [hu] at hgt; cases hgt
  | dumped r hpc hr =>
    dsimp only
    rw [hpc] at h3
    obtain ⟨_, hL⟩ := sendOnce_facts hr
    refine ⟨by omega, ⟨fun _ hp => (nomatch hp), fun _ hp => (nomatch hp)⟩,
      PcInv0.dump hr (cause_of_not_calm h3.1) h3.2 (fun hc => (nomatch hc)) h1, fun _ hc => (nomatch hc),
      cover_beginDump h5, h6⟩
  | roInitial t ts snap hpc hro =>
    dsimp only [atTop]
    rw [hpc] at h3
    obtain ⟨a1, a2, a3, a4, a5, a6, a7⟩ := h3
    exact ⟨by split <;> omega, h2, fun hc => min_le_of (a4 hc.1),
      fun hro' => (by rw [hro] at hro'; cases hro'), h5, h6⟩
  | roLoop t ts snap hpc hro =>
    dsimp only
    rw [hpc] at h3
    obtain ⟨a1, a2, a3, a4, a5, a6, a7⟩ := h3
    exact ⟨by split <;> omega, h2, PcInv0.tail fun hc => min_le_of (a4 hc.1),
      fun hro' => (by rw [hro] at hro'; cases hro'), h5, h6⟩
  | sendFailed | storeFailed => exact ⟨h1, h2, trivial, fun _ hc => (nomatch hc), h5, h6⟩
  | stored who t ts snap hpc hro hf =>
    dsimp only
    rw [hpc] at h3
    obtain ⟨a1, a2, a3, a4, a5, a6, a7⟩ := h3
    refine ⟨h1, h2, ⟨by split <;> omega, by split <;> omega, a3, fun hd => min_le_of (a4 hd), a5, a6, a7⟩,
      fun _ _ => rfl, fun p hp => ?_, h6⟩
    rcases h5 p hp with h | h | h
    · exact Or.inl h
    · exact Or.inr (Or.inr (List.mem_append_right _ h))
    · exact Or.inr (Or.inr (List.mem_append_left _ h))
  | doneInitial t hpc =>
    rw [hpc] at h3 h4
    obtain ⟨ht, _, _, hcaught, _⟩ := h3
    exact ⟨ht, h2, fun hc => hcaught hc.1, fun hro _ => h4 hro rfl, h5, h6⟩
  | doneLoop t hpc =>
    rw [hpc] at h3 h4
    obtain ⟨ht, _, _, hcaught, _⟩ := h3
    exact ⟨ht, h2, PcInv0.tail fun hc => hcaught hc.1, fun hro _ => h4 hro rfl, h5, h6⟩
  | woke hpc =>
    rw [hpc] at h3 h4
    exact ⟨h1, h2, h3, fun hro _ => h4 hro rfl, h5, h6⟩
  | stay e hpc => exact ⟨h1, h2, h3, h4, h5, h6⟩

theorem Inv0.step {c : LoopCfg} {g : G} (h : Inv0 c g) (e : Ev) : Inv0 c (step c g e) := by
  cases e with
  | go i => exact ⟨h.toInv0c.seg h.unarmed (go_seg ..), step_unarmed h.unarmed _⟩
  | app ops => exact h.app ops
  | list => exact ⟨h.toInv0c, h.unarmed⟩
  | others bs => exact ⟨h.toInv0c, h.unarmed⟩

theorem inv0_run (c : LoopCfg) (env : Env) (b : Bucket) (evs : List Ev) : Inv0 c (run c env b evs) :=
  run_induct (Inv0 c) (Inv0.init c env b) (fun _ e h => h.step e) evs

/-! ## the invariant that needs race-freedom (finding D9)

  Outside the send window every application transaction that is not yet captured / not yet covered
  by a dump has an id above `lastSynced`; and when the loop idles, what is not covered by a dump
  was committed after the latest `beforeInfo` decision. -/

/-- everything not covered by a dump was committed since the latest `beforeInfo` step -/
def Fresh (gh : Gh) : Prop := ∀ p ∈ gh.unpub, p ∈ gh.sinceInfo

def PcInv1 (c : LoopCfg) (S : Nat) (w : List InstId) (gh : Gh) : Pc → Prop
  | .boot => AllGt S gh
  | .top => AllGt S gh
  | .beforeInfo => AllGt S gh
  | .sleep => AllGt S gh ∧ (c.own ∉ w → Fresh gh)
  | .loadAfterTxn t lc _ _ _ => AllGt S gh ∧ (lc = false → AllGt t gh)
  | .beforeSend => True
  | .sendAfterTxn who t _ _ => AllGt t gh ∧ (who = .loop → Fresh gh)
  | .sendStored who t => AllGt t gh ∧ (who = .loop → Fresh gh)
  | .exited _ => True

/-- **the invariant of race-free schedules** -/
def Inv1 (c : LoopCfg) (g : G) : Prop := PcInv1 c g.st.lastSynced g.st.waiting g.gh g.st.pc

theorem AllGt.mono {n n' : Nat} {gh : Gh} (h : AllGt n gh) (hn : n' ≤ n) : AllGt n' gh :=
  ⟨fun p hp => Nat.lt_of_le_of_lt hn (h.1 p hp), fun p hp => Nat.lt_of_le_of_lt hn (h.2 p hp)⟩

theorem AllGt.congr {n : Nat} {gh gh' : Gh} (h : AllGt n gh) (h1 : gh'.uncap = gh.uncap ∨ gh'.uncap = [])
    (h2 : gh'.unpub = gh.unpub ∨ gh'.unpub = []) : AllGt n gh' := by
  refine ⟨fun p hp => ?_, fun p hp => ?_⟩
  · rcases h1 with h1 | h1 <;> rw [h1] at hp
    · exact h.1 p hp
    · cases hp
  · rcases h2 with h2 | h2 <;> rw [h2] at hp
    · exact h.2 p hp
    · cases hp

/-- nothing is outstanding when `lastSynced` has caught up with `lastTxn` -/
theorem AllGt.empty {L S : Nat} {gh : Gh} (h : AllGt S gh) (hle : AllLe L gh) (hLS : L ≤ S) :
    gh.uncap = [] ∧ gh.unpub = [] :=
  ⟨List.eq_nil_iff_forall_not_mem.mpr fun p hp => (by have := h.1 p hp; have := hle.1 p hp; omega),
   List.eq_nil_iff_forall_not_mem.mpr fun p hp => (by have := h.2 p hp; have := hle.2 p hp; omega)⟩

theorem allGt_of_nil {gh : Gh} (h1 : gh.uncap = []) (h2 : gh.unpub = []) (n : Nat) : AllGt n gh :=
  ⟨fun p hp => (by rw [h1] at hp; cases hp), fun p hp => (by rw [h2] at hp; cases hp)⟩

theorem Inv1.init (c : LoopCfg) (env : Env) (b : Bucket) : Inv1 c (G.init env b) :=
  ⟨fun _ hp => (nomatch hp), fun _ hp => (nomatch hp)⟩

theorem allGt_app {n L : Nat} {gh : Gh} (h : AllGt n gh) (hn : n ≤ L) : AllGt n (gh.app (L + 1)) :=
  ⟨List.forall_mem_cons.mpr ⟨by omega, h.1⟩, List.forall_mem_cons.mpr ⟨by omega, h.2⟩⟩

theorem fresh_app {gh : Gh} (h : Fresh gh) (p : Nat) : Fresh (gh.app p) := by
  intro q hq
  rcases List.mem_cons.mp hq with rfl | hq
  · exact List.mem_cons_self
  · exact List.mem_cons_of_mem _ (h q hq)

theorem Inv1.app {c : LoopCfg} {g : G} (h0 : Inv0 c g) (h : Inv1 c g) (ops : List AppOp)
    (hrf : ¬ (Racy g.st ∧ recorded g.st ops = true)) : Inv1 c (step c g (.app ops)) := by
  obtain ⟨hpc, hS, hw, _, hcase⟩ := step_app c g ops
  unfold Inv1 at h ⊢
  rw [hpc, hS, hw]
  rcases hcase with ⟨_, _, hg⟩ | ⟨hr, _, hg⟩ <;> rw [hg]
  · exact h
  · have hnr : ¬ Racy g.st := fun hh => hrf ⟨hh, hr⟩
    have hsl := h0.sync_le
    have hp0 := h0.pcinv
    unfold Racy at hnr
    cases hpc' : g.st.pc <;> rw [hpc'] at h hp0 hnr
    case boot | top | beforeInfo => exact allGt_app h hsl
    case loadAfterTxn t lc _ _ _ =>
      refine ⟨allGt_app h.1 hsl, fun hlc => allGt_app (h.2 hlc) ?_⟩
      have : ¬ g.st.env.lastTxn < t := fun hh => hnr ⟨hlc, hh⟩
      omega
    case beforeSend | exited => trivial
    case sendAfterTxn t _ _ =>
      exact ⟨allGt_app h.1 (Nat.le_of_not_lt hnr), fun hw => fresh_app (h.2 hw) _⟩
    case sendStored => exact ⟨allGt_app h.1 hp0.1, fun hw => fresh_app (h.2 hw) _⟩
    case sleep => exact ⟨allGt_app h.1 hsl, fun hw => fresh_app (h.2 hw) _⟩

theorem allGt_beginDump (n : Nat) (gh : Gh) : AllGt n gh.beginDump :=
  ⟨fun _ hp => (nomatch hp), fun _ hp => (nomatch hp)⟩

/-- what is outstanding lies above the `lastSynced` with which the load part is entered -/
theorem PcInv1.loads {c : LoopCfg} {s : St} {gh : Gh} (hl : InLoads s)
    (h : PcInv1 c s.lastSynced s.waiting gh s.pc) : AllGt (loadSynced s) gh := by
  unfold loadSynced
  rcases hl with hpc | ⟨t, lc, inst, ts, n, hpc⟩ <;> rw [hpc] at h ⊢
  · exact h
  · cases lc with
    | true => exact h.1
    | false => exact (h.2 rfl).mono (by dsimp only; split <;> omega)

theorem PcInv1.tail {c : LoopCfg} {S : Nat} {w w' : List InstId} {gh : Gh} (hgt : AllGt S gh)
    (hfr : c.own ∉ w → Fresh gh) : PcInv1 c S w gh (tailPc c w') := by
  rcases tailPc_cases c w' with e | ⟨e, _⟩ <;> rw [e]
  · exact ⟨hgt, hfr⟩
  · trivial

theorem PcInv1.seg {c : LoopCfg} {b : Bucket} {s : St} {i : In} {gh : Gh} {s' : St} {b' : Bucket} {gh' : Gh}
    (h0 : Inv0c c s.env.lastTxn s.lastSynced s.waiting s.pc gh) (hu : s.forceArmed = false)
    (h : PcInv1 c s.lastSynced s.waiting gh s.pc) (hseg : Seg c b s i gh s' b' gh') :
    PcInv1 c s'.lastSynced s'.waiting gh' s'.pc := by
  cases hseg with
  | bootFailed | unknown | loadFailed | toSend | sendFailed | storeFailed => trivial
  | booted env hpc =>
    rw [hpc] at h
    exact h.mono (Nat.zero_le _)
  | bootDumped => exact ⟨allGt_beginDump _ _, fun hc => (nomatch hc)⟩
  | endLoads hl => exact h.loads hl
  | loaded inst ts n blob r hl ht _ _ _ hload =>
    have hu' : ∀ l : List Nat, (if r.localChanged = true then [] else l) = l ∨
        (if r.localChanged = true then [] else l) = [] := by
      intro l; cases r.localChanged
      · exact Or.inl rfl
      · exact Or.inr rfl
    refine ⟨(h.loads hl).congr (hu' _) (Or.inl rfl), fun hf => ?_⟩
    rw [loadOnce_localChanged hload] at hf
    obtain ⟨e1, e2⟩ := (h.loads hl).empty h0.all_le (by simpa using hf)
    exact (allGt_of_nil e1 e2 _).congr (hu' _) (Or.inl rfl)
  | noSend hpc hno =>
    rw [hpc] at h
    refine PcInv1.tail h fun hown => ?_
    rcases hno with hno | ⟨hle, _⟩
    · exact absurd hno hown
    · intro p hp
      rw [(h.empty h0.all_le hle).2] at hp
      cases hp
  | emptyGuard hpc harm => rw [hu] at harm; cases harm
  | dumped => exact ⟨allGt_beginDump _ _, fun _ _ hp => (nomatch hp)⟩
  | roInitial t ts snap hpc =>
    rw [hpc] at h
    exact h.1.mono (by dsimp only [atTop]; split <;> omega)
  | roLoop t ts snap hpc =>
    rw [hpc] at h
    exact PcInv1.tail (h.1.mono (by dsimp only; split <;> omega)) fun _ => h.2 rfl
  | stored who t ts snap hpc =>
    rw [hpc] at h
    exact ⟨h.1.mono (by split <;> omega), h.2⟩
  | doneLoop t hpc =>
    rw [hpc] at h
    exact PcInv1.tail h.1 fun _ => h.2 rfl
  | doneInitial _ hpc | woke hpc =>
    rw [hpc] at h
    exact h.1
  | stay => exact h

theorem Inv1.step {c : LoopCfg} {g : G} (h0 : Inv0 c g) (h : Inv1 c g) (e : Ev)
    (hrf : ∀ ops, e = .app ops → ¬ (Racy g.st ∧ recorded g.st ops = true)) : Inv1 c (step c g e) := by
  cases e with
  | go i => exact PcInv1.seg h0.toInv0c h0.unarmed h (go_seg ..)
  | app ops => exact h.app h0 ops (hrf ops rfl)
  | list => exact h
  | others bs => exact h

/-- both invariants along a race-free schedule continued from `g` -/
theorem inv1_runFrom {c : LoopCfg} (g : G) (evs : List Ev) (h0 : Inv0 c g) (h1 : Inv1 c g)
    (hrf : RaceFreeFrom c Racy g evs) : Inv0 c (runFrom c g evs) ∧ Inv1 c (runFrom c g evs) := by
  induction evs generalizing g with
  | nil => exact ⟨h0, h1⟩
  | cons e es ih =>
    refine ih _ (h0.step e) (h1.step h0 e fun ops he => ?_) hrf.2
    subst he
    exact hrf.1

theorem inv1_run {c : LoopCfg} {env : Env} {b : Bucket} {evs : List Ev} (hrf : RaceFree c env b evs) :
    Inv1 c (run c env b evs) :=
  (inv1_runFrom (G.init env b) evs (Inv0.init c env b) (Inv1.init c env b) hrf).2

/-- under the race-free invariant, with an uncaptured application transaction outstanding, the
    loop enters `LoadOnce` with `lastSynced` below `lastTxn` -/
theorem prePoll_local_change {c : LoopCfg} {g : G} {s1 : St} {n p : Nat}
    (h0 : Inv0 c g) (h1 : Inv1 c g) (hp : prePoll g.st = some (s1, n)) (hu : p ∈ g.gh.uncap) :
    s1.lastSynced < p ∧ p ≤ s1.env.lastTxn := by
  obtain ⟨hl, e1, e2⟩ := prePoll_eq hp
  rw [e1, e2]
  exact ⟨(PcInv1.loads hl h1).1 p hu, h0.all_le.1 p hu⟩

/-- I1: every application transaction not yet captured has an id above `lastSynced` (and at most
    `lastTxn`) — except between `beforeInfo`'s decision to send and `SendOnce`'s capture
    (`pc = beforeSend`, where `lastSynced` has just been set to `lastTxn` and the capture follows
    in the next segment without a `LoadOnce` in between), and after the loop has ended. -/
def I1 (g : G) : Prop :=
  g.st.pc = .beforeSend ∨ (∃ e, g.st.pc = .exited e) ∨
    ∀ p ∈ g.gh.uncap, g.st.lastSynced < p ∧ p ≤ g.st.env.lastTxn

instance (pc : Pc) : Decidable (∃ e, pc = .exited e) := by
  cases pc
  case exited e => exact isTrue ⟨e, rfl⟩
  all_goals exact isFalse nofun

instance (g : G) : Decidable (I1 g) := by unfold I1; infer_instance

theorem i1_of_inv {c : LoopCfg} {g : G} (h0 : Inv0 c g) (h1 : Inv1 c g) : I1 g := by
  unfold I1
  unfold Inv1 at h1
  have hle := h0.all_le.1
  have hp0 := h0.pcinv
  cases hpc : g.st.pc <;> rw [hpc] at h1 hp0
  case beforeSend => exact Or.inl rfl
  case exited e => exact Or.inr (Or.inl ⟨e, rfl⟩)
  case boot | top | beforeInfo => exact Or.inr (Or.inr fun p hp => ⟨h1.1 p hp, hle p hp⟩)
  case loadAfterTxn | sleep => exact Or.inr (Or.inr fun p hp => ⟨h1.1.1 p hp, hle p hp⟩)
  case sendAfterTxn | sendStored =>
    exact Or.inr (Or.inr fun p hp => ⟨Nat.lt_of_le_of_lt hp0.2.1 (h1.1.1 p hp), hle p hp⟩)

end Ls.Loop
