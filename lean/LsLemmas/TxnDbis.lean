import LsLemmas.TxnBase
import LsLemmas.Bytes
/-
  Well-formed DBI lists (`SortedNames`: names strictly increasing, as in LMDB's root DBI) and the
  operations and passes that keep them well-formed (C06, C18): every pass only opens DBIs and
  writes one DBI's content back.
-/
namespace Ls.Txn
open Ls Ls.Lmdb Ls.Strategy

/-- the DBI names are strictly increasing in byte order: what LMDB's root DBI guarantees -/
def SortedNames (dbis : List Dbi) : Prop :=
  (dbis.map (·.name)).Pairwise (fun a b => bcmp a b < 0)

instance (dbis : List Dbi) : Decidable (SortedNames dbis) := by
  unfold SortedNames; exact inferInstance

theorem sortedNames_cons {x : Dbi} {rest : List Dbi} :
    SortedNames (x :: rest) ↔ (∀ y ∈ rest, bcmp x.name y.name < 0) ∧ SortedNames rest := by
  simp [SortedNames]

theorem sortedNames_nodup {dbis : List Dbi} (h : SortedNames dbis) : (dbis.map (·.name)).Nodup := by
  unfold SortedNames at h
  exact h.imp (fun {a b} hab he => by subst he; exact bytes_lt_irrefl _ (bcmp_lt.mp hab))

theorem findDbi_of_mem {dbis : List Dbi} (h : SortedNames dbis) {d : Dbi} (hd : d ∈ dbis) :
    findDbi dbis d.name = some d := by
  induction dbis with
  | nil => cases hd
  | cons x rest ih =>
    obtain ⟨h1, h2⟩ := sortedNames_cons.mp h
    rw [findDbi_cons]
    rcases List.mem_cons.mp hd with rfl | hd
    · rw [if_pos rfl]
    · rw [if_neg, ih h2 hd]
      intro he
      exact bytes_lt_irrefl _ (bcmp_lt.mp (he ▸ h1 d hd))

theorem sortedNames_setKvs {dbis : List Dbi} (n : Bytes) (kvs : KVs) (h : SortedNames dbis) :
    SortedNames (setKvs dbis n kvs) := by
  unfold SortedNames; rw [names_setKvs]; exact h

theorem sortedNames_insertDbi {dbis : List Dbi} (d : Dbi) (h : SortedNames dbis)
    (hnew : findDbi dbis d.name = none) : SortedNames (insertDbi dbis d) := by
  induction dbis with
  | nil => simp [insertDbi, SortedNames]
  | cons x rest ih =>
    have hne := findDbi_none.mp hnew
    obtain ⟨h1, h2⟩ := sortedNames_cons.mp h
    simp only [insertDbi]
    split
    · rename_i hlt
      refine sortedNames_cons.mpr ⟨fun y hy => ?_, h⟩
      rcases List.mem_cons.mp hy with rfl | hy
      · exact hlt
      · exact bcmp_lt.mpr (bytes_lt_trans (bcmp_lt.mp hlt) (bcmp_lt.mp (h1 y hy)))
    · rename_i hge
      refine sortedNames_cons.mpr ⟨fun y hy => ?_,
        ih h2 (findDbi_none.mpr fun y hy => hne y (List.mem_cons_of_mem x hy))⟩
      rcases List.mem_cons.mp ((insertDbi_perm rest d).mem_iff.mp hy) with rfl | hy
      · rcases bytes_trichotomy x.name y.name with h' | h' | h'
        · exact bcmp_lt.mpr h'
        · exact absurd h' (hne x List.mem_cons_self)
        · exact absurd (bcmp_lt.mpr h') hge
      · exact h1 y hy

theorem sortedNames_openCreate {w : W} (n : Bytes) (fl : Nat) (h : SortedNames w.dbis) :
    SortedNames (openCreate w n fl).dbis := by
  cases hf : findDbi w.dbis n with
  | some d => rw [openCreate_of_some hf]; exact h
  | none => rw [openCreate_of_none hf]; exact sortedNames_insertDbi _ h hf

theorem sortedNames_runOn {w w' : W} {n : Bytes} {f : S → Except Err S} (h : runOn w n f = .ok w')
    (hs : SortedNames w.dbis) : SortedNames w'.dbis := by
  obtain ⟨d, s, _, _, rfl⟩ := runOn_ok h
  exact sortedNames_setKvs _ _ hs

theorem m2sStep_sorted {c : Cfg} {txnID now cutoff : Nat} {w w' : W} {name : Bytes}
    (hs : SortedNames w.dbis) (h : m2sStep c txnID now cutoff w name = .ok w') :
    SortedNames w'.dbis := by
  -- a successful run either skips a private name or ends in `runOn` on the state after
  -- `openCreate`; the steps in between only fail or choose the entries
  unfold m2sStep at h
  split at h
  next => cases h; exact hs  -- private name
  obtain ⟨msg, _, h⟩ := except_bind_ok h
  split at h
  case h_2 => cases h  -- no DBI of that name
  dsimp only at h
  split at h
  next => cases h  -- duplicate keys without `dupsort_hack`
  split at h
  all_goals
    obtain ⟨entries, _, h⟩ := except_bind_ok h
    split at h
    · exact sortedNames_runOn h (sortedNames_openCreate _ _ hs)
    · cases h

theorem mainToShadow_sorted {c : Cfg} {txnID now cutoff : Nat} {w w' : W}
    (hs : SortedNames w.dbis) (h : mainToShadow c w txnID now cutoff = .ok w') :
    SortedNames w'.dbis :=
  foldlM_inv (l := dbiNames w) (f := m2sStep c txnID now cutoff) (fun w => SortedNames w.dbis)
    (fun _ _ _ _ hb hf => m2sStep_sorted hb hf) hs h

theorem s2mStep_sorted {c : Cfg} {w w' : W} {name : Bytes}
    (hs : SortedNames w.dbis) (h : s2mStep c w name = .ok w') : SortedNames w'.dbis := by
  -- a successful run either skips a private name or ends in `runOn` on the unchanged state
  unfold s2mStep at h
  split at h
  next => cases h; exact hs  -- private name
  split at h
  case h_2 => cases h  -- no DBI of that name
  dsimp only at h
  split at h
  next => cases h  -- duplicate keys without `dupsort_hack`
  obtain ⟨msg, _, h⟩ := except_bind_ok h
  split at h
  all_goals
    obtain ⟨entries, _, h⟩ := except_bind_ok h
    exact sortedNames_runOn h hs

theorem shadowToMain_sorted {c : Cfg} {w w' : W}
    (hs : SortedNames w.dbis) (h : shadowToMain c w = .ok w') : SortedNames w'.dbis :=
  foldlM_inv (l := dbiNames w) (f := s2mStep c) (fun w => SortedNames w.dbis)
    (fun _ _ _ _ hb hf => s2mStep_sorted hb hf) hs h

theorem appStep_sorted {w : W} (op : AppOp) (hs : SortedNames w.dbis) :
    SortedNames (appStep w op).dbis := by
  cases op with
  | create name flags => exact sortedNames_openCreate _ _ hs
  | put name k v =>
    simp only [appStep]
    split
    · exact hs
    · split
      · exact hs
      · exact sortedNames_setKvs _ _ hs
  | del name k =>
    simp only [appStep]
    split
    · exact hs
    · split <;> exact sortedNames_setKvs _ _ hs

end Ls.Txn
