import LsLemmas.AbsBucketNewest
/-
  The inductive invariant of the abstract bucket system (AbsBucket.lean) behind C05, its
  preservation by every enabled step (`inv_reach`), and schedules of steps (`brun`, `EnabledFrom`).
-/
namespace Ls.Abs
open Ls

/-- The invariant. `own`/`chain` speak about ALIVE own snapshots only: a snapshot deleted as
    stale by another instance (which re-published its content) need not be below what its
    owner publishes after a restart with an emptied database. -/
structure Inv (f : BF) : Prop where
  dbWF : ∀ i, (f.db i).WF
  blobWF : ∀ (p : Nat) (x : Blob), f.bucket[p]? = some x → x.content.WF
  /-- an instance that is not waiting for its own snapshot holds all its alive snapshots -/
  own : ∀ i, f.waitingOwn i = false → ∀ (p : Nat) (x : Blob), f.bucket[p]? = some x →
    x.inst = i → x.alive = true → x.content.le (f.db i)
  /-- an alive snapshot is below every later snapshot of the same instance -/
  chain : ∀ (p q : Nat) (x y : Blob), p < q → f.bucket[p]? = some x → f.bucket[q]? = some y →
    x.inst = y.inst → x.alive = true → x.content.le y.content
  /-- what an instance merged since its last restart is in its database -/
  merged : ∀ a idx, idx ∈ f.merged a → ∃ y : Blob, f.bucket[idx]? = some y ∧ y.content.le (f.db a)
  /-- what an instance merged before its latest upload is in a snapshot of its own stored
      strictly later -/
  committed : ∀ a idx, idx ∈ f.committed a → ∃ (y : Blob) (q : Nat) (z : Blob),
    f.bucket[idx]? = some y ∧ idx < q ∧ f.bucket[q]? = some z ∧ z.inst = a ∧ y.content.le z.content
  /-- every snapshot ever stored has a witness: a newest alive snapshot, stored no earlier, above it -/
  wit : ∀ (p : Nat) (x : Blob), f.bucket[p]? = some x →
    ∃ (q : Nat) (w : Blob), Newest f.bucket q w ∧ p ≤ q ∧ x.content.le w.content

theorem inv_init : Inv binit where
  dbWF := fun _ => empty_wf
  blobWF := fun p x h => by simp [binit] at h
  own := fun _ _ p x h => by simp [binit] at h
  chain := fun p q x y _ h => by simp [binit] at h
  merged := fun a idx h => by simp [binit] at h
  committed := fun a idx h => by simp [binit] at h
  wit := fun p x h => by simp [binit] at h

theorem Inv.le_newest {f : BF} (h : Inv f) {q : Nat} {w : Blob} (hn : Newest f.bucket q w)
    {p : Nat} {y : Blob} (hy : f.bucket[p]? = some y) (hi : y.inst = w.inst) (ha : y.alive = true) :
    y.content.le w.content := by
  rcases Nat.lt_trichotomy p q with hlt | rfl | hgt
  · exact h.chain p q y w hlt hy hn.1 hi ha
  · cases hy.symm.trans hn.1; exact le_refl _
  · rw [hn.2.2 p y hgt hy hi] at ha; cases ha

theorem inv_grow_at {f : BF} (h : Inv f) (i : Nat) {d : DB} (hd : d.WF) (hle : (f.db i).le d) :
    Inv { f with db := fun j => if j = i then d else f.db j } := by
  have hwf : ∀ j, (if j = i then d else f.db j).WF := fun j => by
    split
    · exact hd
    · exact h.dbWF j
  have hge : ∀ j, (f.db j).le (if j = i then d else f.db j) := fun j => by
    split
    · next hj => subst hj; exact hle
    · exact le_refl _
  refine ⟨hwf, h.blobWF, fun j hw p x hx hi ha => ?_, h.chain, fun a idx hm => ?_, h.committed, h.wit⟩
  · exact (h.own j hw p x hx hi ha).trans (hge j)
  · obtain ⟨y, hy, hyle⟩ := h.merged a idx hm
    exact ⟨y, hy, hyle.trans (hge a)⟩

theorem inv_write {f : BF} (h : Inv f) (i : Nat) (k : Key) (v : Ver) (hv : v.WF)
    (hm : join (f.db i k) (some v) = some v) : Inv (bstep f (.write i k v)) :=
  inv_grow_at h i (upd_wf (h.dbWF i) hv k) (le_upd hm)

theorem inv_send {f : BF} (h : Inv f) (i : Nat) (hw : f.waitingOwn i = false) :
    Inv (bstep f (.send i)) := by
  have old : ∀ {p : Nat} {x : Blob}, f.bucket[p]? = some x →
      (f.bucket ++ [⟨i, f.db i, true⟩])[p]? = some x := fun hx => getElem?_concat_some.mpr (Or.inl hx)
  refine ⟨h.dbWF, ?_, ?_, ?_, ?_, ?_, ?_⟩
  · intro p x hx
    rcases getElem?_concat_some.mp hx with hx | ⟨_, rfl⟩
    · exact h.blobWF p x hx
    · exact h.dbWF i
  · intro j hj p x hx hi ha
    rcases getElem?_concat_some.mp hx with hx | ⟨_, rfl⟩
    · exact h.own j hj p x hx hi ha
    · cases hi; exact le_refl _
  · intro p q x y hpq hx hy hi ha
    rcases getElem?_concat_some.mp hx with hx | ⟨hp, _⟩
    · rcases getElem?_concat_some.mp hy with hy | ⟨_, rfl⟩
      · exact h.chain p q x y hpq hx hy hi ha
      · exact h.own i hw p x hx hi ha
    · have := (List.getElem?_eq_some_iff.mp hy).1
      simp [bstep] at this; omega
  · intro a idx hm
    obtain ⟨y, hy, hyle⟩ := h.merged a idx hm
    exact ⟨y, old hy, hyle⟩
  · intro a idx hc
    dsimp only [bstep] at hc
    split at hc
    · next ha =>
      subst ha
      obtain ⟨y, hy, hyle⟩ := h.merged a idx hc
      exact ⟨y, f.bucket.length, _, old hy, (List.getElem?_eq_some_iff.mp hy).1, List.getElem?_concat_length, rfl, hyle⟩
    · obtain ⟨y, q, z, hy, hq, hz, hza, hle⟩ := h.committed a idx hc
      exact ⟨y, q, z, old hy, hq, old hz, hza, hle⟩
  · intro p x hx
    have hnew := Newest.append_new f.bucket ⟨i, f.db i, true⟩ rfl
    rcases getElem?_concat_some.mp hx with hx | ⟨hp, rfl⟩
    · obtain ⟨q, w, hn, hpq, hle⟩ := h.wit p x hx
      by_cases hwi : w.inst = i
      · exact ⟨_, _, hnew, Nat.le_of_lt ((List.getElem?_eq_some_iff.mp hx).1), hle.trans (h.own i hw q w hn.1 hwi hn.2.1)⟩
      · exact ⟨q, w, hn.append_other _ (fun e => hwi e.symm), hpq, hle⟩
    · exact ⟨_, _, hnew, Nat.le_of_eq hp, le_refl _⟩

theorem bstep_load_some {f : BF} {i idx : Nat} {x : Blob} (hx : f.bucket[idx]? = some x) :
    bstep f (.load i idx) =
      { f with db := fun j => if j = i then (f.db i).join x.content else f.db j,
               merged := fun j => if j = i then idx :: f.merged i else f.merged j,
               waitingOwn := fun j =>
                 if j = i ∧ x.inst = i ∧ newestIdx f.bucket i = some idx then false
                 else f.waitingOwn j } := by
  simp only [bstep, hx]

theorem bstep_load_none {f : BF} {i idx : Nat} (hx : f.bucket[idx]? = none) :
    bstep f (.load i idx) = f := by
  simp only [bstep, hx]

theorem bstep_load_bucket (f : BF) (i idx : Nat) : (bstep f (.load i idx)).bucket = f.bucket := by
  simp only [bstep]
  split <;> rfl

theorem inv_load {f : BF} (h : Inv f) (i idx : Nat) : Inv (bstep f (.load i idx)) := by
  cases hx : f.bucket[idx]? with
  | none => rw [bstep_load_none hx]; exact h
  | some x =>
    rw [bstep_load_some hx]
    have hxle := DB.le_join_right (f.db i) x.content
    have hg := inv_grow_at h i (join_wf' (h.dbWF i) (h.blobWF idx x hx)) (DB.le_join_left (f.db i) x.content)
    refine ⟨hg.dbWF, hg.blobWF, ?_, hg.chain, ?_, hg.committed, hg.wit⟩
    · intro j hj p y hy hyi hya
      dsimp only at hj
      split at hj
      · -- `i` merged its own newest snapshot `x`: every alive own snapshot is below `x`
        next hc =>
        obtain ⟨rfl, hxi, hnew⟩ := hc
        obtain ⟨w, hn, _⟩ := newestIdx_some_iff.mp hnew
        cases hn.1.symm.trans hx
        dsimp only
        rw [if_pos rfl]
        exact (h.le_newest hn hy (hyi.trans hxi.symm) hya).trans hxle
      · exact hg.own j hj p y hy hyi hya
    · intro a idx' hm
      dsimp only at hm
      split at hm
      · next ha =>
        subst ha
        rcases List.mem_cons.mp hm with rfl | hm
        · exact ⟨x, hx, by dsimp only; rw [if_pos rfl]; exact hxle⟩
        · exact hg.merged a idx' hm
      · exact hg.merged a idx' hm

theorem inv_restart {f : BF} (h : Inv f) (i : Nat) (wipe : Bool) :
    Inv (bstep f (.restart i wipe)) := by
  refine ⟨?_, h.blobWF, ?_, h.chain, ?_, ?_, h.wit⟩
  · intro j
    simp only [bstep]
    split
    · exact empty_wf
    · exact h.dbWF j
  · intro j hj p x hx hi ha
    simp only [bstep] at hj hx ⊢
    split at hj
    · -- the restarted instance is not waiting only if it has no alive snapshot
      next hji =>
      subst hji
      rw [newestIdx_none (by simpa using hj) p x hx hi] at ha
      cases ha
    · next hji =>
      rw [if_neg (fun hc => hji hc.1)]
      exact h.own j hj p x hx hi ha
  · intro a idx hm
    simp only [bstep] at hm ⊢
    split at hm
    · cases hm
    · next ha =>
      rw [if_neg (fun hc => ha hc.1)]
      exact h.merged a idx hm
  · intro a idx hm
    simp only [bstep] at hm
    split at hm
    · cases hm
    · exact h.committed a idx hm

theorem inv_delete {f : BF} (h : Inv f) (idx : Nat)
    (hc : ∀ w, Newest f.bucket idx w →
      ∃ (q' : Nat) (w' : Blob), Newest f.bucket q' w' ∧ idx < q' ∧ w.content.le w'.content) :
    Inv { f with bucket := setAlive f.bucket idx } := by
  have dead : ∀ {p : Nat} {x0 : Blob}, f.bucket[p]? = some x0 → (setAlive f.bucket idx)[p]? =
      some { x0 with alive := x0.alive && decide (p ≠ idx) } := fun hx0 =>
    getElem?_setAlive.mpr ⟨_, hx0, rfl⟩
  refine ⟨h.dbWF, ?_, ?_, ?_, ?_, ?_, ?_⟩
  · intro p x hx
    obtain ⟨x0, hx0, rfl⟩ := getElem?_setAlive.mp hx
    exact h.blobWF p x0 hx0
  · intro i hw p x hx hi ha
    obtain ⟨x0, hx0, rfl⟩ := getElem?_setAlive.mp hx
    exact h.own i hw p x0 hx0 hi (Bool.and_eq_true_iff.mp ha).1
  · intro p q x y hpq hx hy hi ha
    obtain ⟨x0, hx0, rfl⟩ := getElem?_setAlive.mp hx
    obtain ⟨y0, hy0, rfl⟩ := getElem?_setAlive.mp hy
    exact h.chain p q x0 y0 hpq hx0 hy0 hi (Bool.and_eq_true_iff.mp ha).1
  · intro a i hm
    obtain ⟨y, hy, hle⟩ := h.merged a i hm
    exact ⟨_, dead hy, hle⟩
  · intro a i hm
    obtain ⟨y, q, z, hy, hq, hz, hza, hle⟩ := h.committed a i hm
    exact ⟨_, q, _, dead hy, hq, dead hz, hza, hle⟩
  · intro p x hx
    obtain ⟨x0, hx0, rfl⟩ := getElem?_setAlive.mp hx
    obtain ⟨q, w, hn, hpq, hle⟩ := h.wit p x0 hx0
    by_cases hq : q = idx
    · subst hq
      obtain ⟨q', w', hn', hlt, hle'⟩ := hc w hn
      exact ⟨q', w', hn'.setAlive (by omega), by omega, hle.trans hle'⟩
    · exact ⟨q, w, hn.setAlive hq, hpq, hle⟩

theorem inv_cleanSuperseded {f : BF} (h : Inv f) (idx : Nat)
    (he : enabled f (.cleanSuperseded idx)) : Inv (bstep f (.cleanSuperseded idx)) := by
  apply inv_delete h idx
  intro w hn
  obtain ⟨x, hx, hne⟩ := he
  cases hn.1.symm.trans hx
  exact absurd hn.toIdx hne

/-- the deleted blob was merged by `a` before an upload of `a`; that upload's witness is above it -/
theorem inv_cleanStale {f : BF} (h : Inv f) (a idx : Nat)
    (he : enabled f (.cleanStale a idx)) : Inv (bstep f (.cleanStale a idx)) := by
  apply inv_delete h idx
  intro w hn
  obtain ⟨y, q, z, hy, hq, hz, _, hle⟩ := h.committed a idx he
  cases hn.1.symm.trans hy
  obtain ⟨q', w', hn', hqq', hle'⟩ := h.wit q z hz
  exact ⟨q', w', hn', by omega, hle.trans hle'⟩

theorem inv_step {f : BF} (h : Inv f) (s : BStep) (he : enabled f s) : Inv (bstep f s) := by
  cases s with
  | write i k v => exact inv_write h i k v he.1 he.2
  | send i => exact inv_send h i he
  | sendFails i => exact h
  | load i idx => exact inv_load h i idx
  | restart i wipe => exact inv_restart h i wipe
  | cleanSuperseded idx => exact inv_cleanSuperseded h idx he
  | cleanStale a idx => exact inv_cleanStale h a idx he

theorem inv_reach {f : BF} (h : Reach f) : Inv f := by
  induction h with
  | init => exact inv_init
  | step s _ he ih => exact inv_step ih s he

def brun (f : BF) (steps : List BStep) : BF := steps.foldl bstep f

def EnabledFrom (f : BF) : List BStep → Prop
  | [] => True
  | s :: rest => enabled f s ∧ EnabledFrom (bstep f s) rest

theorem reach_run {f : BF} (h : Reach f) (steps : List BStep) (he : EnabledFrom f steps) :
    Reach (brun f steps) := by
  induction steps generalizing f with
  | nil => exact h
  | cons s rest ih => exact ih (Reach.step s h he.1) he.2

theorem bstep_keeps {f : BF} (s : BStep) {p : Nat} {x : Blob} (hx : f.bucket[p]? = some x) :
    ∃ x', (bstep f s).bucket[p]? = some x' ∧ x'.inst = x.inst ∧ x'.content = x.content := by
  cases s with
  | write i k v => exact ⟨x, hx, rfl, rfl⟩
  | send i => exact ⟨x, getElem?_concat_some.mpr (Or.inl hx), rfl, rfl⟩
  | sendFails i => exact ⟨x, hx, rfl, rfl⟩
  | load i idx => rw [bstep_load_bucket]; exact ⟨x, hx, rfl, rfl⟩
  | restart i wipe => exact ⟨x, hx, rfl, rfl⟩
  | cleanSuperseded idx => exact ⟨_, getElem?_setAlive.mpr ⟨x, hx, rfl⟩, rfl, rfl⟩
  | cleanStale a idx => exact ⟨_, getElem?_setAlive.mpr ⟨x, hx, rfl⟩, rfl, rfl⟩

end Ls.Abs
