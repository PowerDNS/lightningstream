import LsLemmas.Strategy
/-
  strategy.IterUpdate against its specification (helper lemmas for C19). The two-cursor loop
  `iterBoth` is the fold of the callbacks along the merge-join `plan` of the input with the stored
  entries; that fold and `specIterUpdate` both compute the pure merge-join output `joinOut`.
-/
namespace Ls.Strategy
open Ls Ls.Lmdb

variable {E ε : Type}

/-! ### the merge-join plan -/

/-- what `iterBoth` asks the callback to do -/
inductive Act (E : Type) where
  | clean (dk dv : Bytes)            -- stored entry without input
  | insert (e : E)                   -- input entry without stored counterpart
  | both (e : E) (dk dv : Bytes)     -- input entry with the stored entry of the same key

/-- the merge-join of the input and the stored entries, both in the DBI's order -/
def plan (ik : Bool) (it : Iter E ε) : List E → KVs → List (Act E)
  | [], [] => []
  | [], (dk, dv) :: ds => .clean dk dv :: plan ik it [] ds
  | e :: es, [] => .insert e :: plan ik it es []
  | e :: es, (dk, dv) :: ds =>
    if kcmp ik dk (it.key e) < 0 then .clean dk dv :: plan ik it (e :: es) ds
    else if kcmp ik dk (it.key e) = 0 then .both e dk dv :: plan ik it es ds
    else .insert e :: plan ik it es ((dk, dv) :: ds)
termination_by I D => I.length + D.length

def runAct (ik : Bool) (it : Iter E ε) (s : S) : Act E → Except (SErr ε) S
  | .clean dk dv => cbClean ik it s dk dv
  | .insert e => cbInsert ik it s e
  | .both e _ dv => cbBoth ik it s e dv

def runPlan (ik : Bool) (it : Iter E ε) (s : S) (acts : List (Act E)) : Except (SErr ε) S :=
  acts.foldlM (runAct ik it) s

theorem runPlan_nil (ik : Bool) (it : Iter E ε) (s : S) : runPlan ik it s [] = .ok s := rfl

theorem runPlan_cons (ik : Bool) (it : Iter E ε) (s : S) (a : Act E) (as : List (Act E)) :
    runPlan ik it s (a :: as) = (runAct ik it s a >>= fun s' => runPlan ik it s' as) := by
  unfold runPlan; rw [List.foldlM_cons]

theorem plan_nil_nil (ik : Bool) (it : Iter E ε) : plan ik it [] [] = [] := by rw [plan]

theorem plan_nil_cons (ik : Bool) (it : Iter E ε) (dk dv ds) :
    plan ik it [] ((dk, dv) :: ds) = .clean dk dv :: plan ik it [] ds := by rw [plan]

theorem plan_cons_nil (ik : Bool) (it : Iter E ε) (e es) :
    plan ik it (e :: es) [] = .insert e :: plan ik it es [] := by rw [plan]

theorem plan_cons_cons (ik : Bool) (it : Iter E ε) (e es dk dv ds) :
    plan ik it (e :: es) ((dk, dv) :: ds) =
      if kcmp ik dk (it.key e) < 0 then .clean dk dv :: plan ik it (e :: es) ds
      else if kcmp ik dk (it.key e) = 0 then .both e dk dv :: plan ik it es ds
      else .insert e :: plan ik it es ((dk, dv) :: ds) := by rw [plan]

/-! ### one iteration of `iterBoth`, from a state in which nothing is fetched -/

theorem iuLoop_zero (ik : Bool) (it : Iter E ε) (prev itCur its dbCur dbs s) :
    iuLoop ik it 0 prev itCur its dbCur dbs s = .error .hang := rfl

theorem iuLoop_itfetch (ik : Bool) (it : Iter E ε) (fuel prev x xs dbCur dbs s) :
    iuLoop ik it (fuel + 1) prev none (x :: xs) dbCur dbs s
      = if (prev.isSome ∨ (it.key x).length = 0) ∧ kcmp ik (prev.getD []) (it.key x) ≥ 0 then .error .notSorted
        else if (it.key x).length > Gen.strategyMaxKeySize then .error .panic
        else iuLoop ik it (fuel + 1) (some (it.key x)) (some x) xs dbCur dbs s := by
  rw [iuLoop.eq_def]
  by_cases h1 : (prev.isSome ∨ (it.key x).length = 0) ∧ kcmp ik (prev.getD []) (it.key x) ≥ 0
  · simp only [if_pos h1]
  · by_cases h2 : (it.key x).length > Gen.strategyMaxKeySize
    · simp only [if_neg h1, if_pos h2]
    · simp only [if_neg h1, if_neg h2]
      rfl

/-- A fetched stored entry can be put back: the loop fetches before it looks, so a state holding a
    stored entry is the state in which that entry is still to be fetched. -/
theorem iuLoop_dbunfetch (ik : Bool) (it : Iter E ε) (fuel prev itCur its y ys s) :
    iuLoop ik it fuel prev itCur its (some y) ys s = iuLoop ik it fuel prev itCur its none (y :: ys) s := by
  cases fuel <;> rfl

theorem iuLoop_nil_nil (ik : Bool) (it : Iter E ε) (fuel prev s) :
    iuLoop ik it (fuel + 1) prev none [] none [] s = .ok s := rfl

theorem iuLoop_nil_cons (ik : Bool) (it : Iter E ε) (fuel prev dk dv ds s) :
    iuLoop ik it (fuel + 1) prev none [] none ((dk, dv) :: ds) s =
      runAct ik it s (.clean dk dv) >>= fun s' => iuLoop ik it fuel prev none [] none ds s' := rfl

section
variable {ik : Bool} {it : Iter E ε} {prev : Option Bytes} {x : E}
  (hp : ∀ p, prev = some p → kcmp ik p (it.key x) < 0)
  (hk : (it.key x).length ≠ 0 ∧ (it.key x).length ≤ Gen.strategyMaxKeySize)
include hp hk

/-- A fetched input entry of valid size above the previous key can be put back: it passes the
    checks when fetched again. -/
theorem iuLoop_itunfetch (fuel xs dbCur dbs s) :
    iuLoop ik it fuel (some (it.key x)) (some x) xs dbCur dbs s
      = iuLoop ik it fuel prev none (x :: xs) dbCur dbs s := by
  cases fuel with
  | zero => rfl
  | succ fuel =>
    rw [iuLoop_itfetch, if_neg, if_neg (by omega)]
    intro ⟨ha, hb⟩
    cases prev with
    | none => exact hk.1 (ha.resolve_left nofun)
    | some p => have := hp p rfl; simp only [Option.getD_some] at hb; omega

theorem iuLoop_cons_nil (fuel xs s) :
    iuLoop ik it (fuel + 1) prev none (x :: xs) none [] s =
      runAct ik it s (.insert x) >>= fun s' => iuLoop ik it fuel (some (it.key x)) none xs none [] s' := by
  rw [← iuLoop_itunfetch hp hk]; rfl

theorem iuLoop_cons_cons (fuel xs dk dv ds s) :
    iuLoop ik it (fuel + 1) prev none (x :: xs) none ((dk, dv) :: ds) s =
      if kcmp ik dk (it.key x) < 0 then
        runAct ik it s (.clean dk dv) >>= fun s' => iuLoop ik it fuel prev none (x :: xs) none ds s'
      else if kcmp ik dk (it.key x) = 0 then
        runAct ik it s (.both x dk dv) >>= fun s' => iuLoop ik it fuel (some (it.key x)) none xs none ds s'
      else
        runAct ik it s (.insert x) >>= fun s' =>
          iuLoop ik it fuel (some (it.key x)) none xs none ((dk, dv) :: ds) s' := by
  simp only [← iuLoop_itunfetch hp hk, ← iuLoop_dbunfetch ik it fuel _ _ _ (dk, dv)]
  rfl

end

/-! ### the loop is the fold of the callbacks along the plan -/

/-- input keys strictly increasing in the DBI's order -/
def ISorted (ik : Bool) (it : Iter E ε) (I : List E) : Prop :=
  I.Pairwise (fun a b => kcmp ik (it.key a) (it.key b) < 0)

/-- input keys of 1..511 bytes -/
def KeysOK (it : Iter E ε) (I : List E) : Prop :=
  ∀ e ∈ I, (it.key e).length ≠ 0 ∧ (it.key e).length ≤ Gen.strategyMaxKeySize

/-- `iterBoth` with the `IterUpdate` callback is the fold of the callbacks along the merge-join
    plan: with sorted input keys of valid size there is no `notSorted`, no `panic`, and the
    fuel `|input| + |stored| + 1` suffices. `prev` is the key of the last input entry consumed. -/
theorem iuLoop_plan (ik : Bool) (it : Iter E ε) : ∀ (fuel : Nat) (prev : Option Bytes) (I : List E) (D : KVs) (s : S),
    ISorted ik it I → KeysOK it I → (∀ p, prev = some p → ∀ x ∈ I, kcmp ik p (it.key x) < 0) →
    I.length + D.length < fuel →
    iuLoop ik it fuel prev none I none D s = runPlan ik it s (plan ik it I D) := by
  intro fuel
  induction fuel with
  | zero => intro _ _ _ _ _ _ _ hf; omega
  | succ fuel ih =>
    intro prev I D s hS hK hP hF
    match I with
    | [] =>
      match D with
      | [] => rw [iuLoop_nil_nil, plan_nil_nil]; rfl
      | (dk, dv) :: ds =>
        rw [iuLoop_nil_cons, plan_nil_cons, runPlan_cons]
        exact bind_congr fun s' => ih prev [] ds s' hS hK hP (by simp only [List.length_cons] at hF ⊢; omega)
    | x :: xs =>
      have ⟨hx, hS'⟩ := List.pairwise_cons.mp hS
      have hkx := hK x (List.mem_cons_self ..)
      have hK' : KeysOK it xs := fun y hy => hK y (List.mem_cons_of_mem _ hy)
      have hP' : ∀ p, some (it.key x) = some p → ∀ y ∈ xs, kcmp ik p (it.key y) < 0 :=
        fun p hp y hy => by cases hp; exact hx y hy
      have hpx := fun p hp => hP p hp x (List.mem_cons_self ..)
      simp only [List.length_cons] at hF
      match D with
      | [] =>
        rw [iuLoop_cons_nil hpx hkx, plan_cons_nil, runPlan_cons]
        exact bind_congr fun s' => ih _ xs [] s' hS' hK' hP' (by simp only [List.length_nil]; omega)
      | (dk, dv) :: ds =>
        simp only [List.length_cons] at hF
        rw [iuLoop_cons_cons hpx hkx, plan_cons_cons]
        by_cases hlt : kcmp ik dk (it.key x) < 0
        · rw [if_pos hlt, if_pos hlt, runPlan_cons]
          exact bind_congr fun s' => ih prev (x :: xs) ds s' hS hK hP (by simp only [List.length_cons]; omega)
        · rw [if_neg hlt, if_neg hlt]
          by_cases heq : kcmp ik dk (it.key x) = 0
          · rw [if_pos heq, if_pos heq, runPlan_cons]
            exact bind_congr fun s' => ih _ xs ds s' hS' hK' hP' (by omega)
          · rw [if_neg heq, if_neg heq, runPlan_cons]
            exact bind_congr fun s' => ih _ xs ((dk, dv) :: ds) s' hS' hK' hP' (by simp only [List.length_cons]; omega)

theorem iterUpdate_plan (ik : Bool) (it : Iter E ε) (s : S) (input : List E)
    (hS : ISorted ik it input) (hK : KeysOK it input) :
    iterUpdate ik it s input = runPlan ik it s (plan ik it input s.db) :=
  iuLoop_plan ik it _ none input s.db s hS hK (fun _ h => by cases h) (by omega)

theorem sortedKeys_iff (ik : Bool) (l : List Bytes) :
    sortedKeys ik l = true ↔ l.Pairwise (fun a b => kcmp ik a b < 0) := by
  induction l with
  | nil => simp [sortedKeys]
  | cons a rest ih =>
    cases rest with
    | nil => simp [sortedKeys]
    | cons b rest' =>
      simp only [sortedKeys, Bool.and_eq_true, decide_eq_true_eq, ih]
      constructor
      · intro ⟨h1, h2⟩
        refine List.pairwise_cons.mpr ⟨?_, h2⟩
        intro c hc
        rcases List.mem_cons.mp hc with h | h
        · rw [h]; exact h1
        · exact kcmp_lt_trans ik h1 ((List.pairwise_cons.mp h2).1 c h)
      · intro h
        have := List.pairwise_cons.mp h
        exact ⟨this.1 b (List.mem_cons_self ..), this.2⟩

theorem isorted_iff (ik : Bool) (it : Iter E ε) (I : List E) :
    ISorted ik it I ↔ sortedKeys ik (I.map it.key) = true := by
  rw [sortedKeys_iff, List.pairwise_map]; rfl

/-! ### a callback is a decision of the iterator followed by a write -/

/-- the value the iterator decides to leave under the key (`none`: no entry) -/
def Act.decision (it : Iter E ε) : Act E → Except ε (Option Bytes)
  | .clean _ dv => it.clean dv
  | .insert e => it.merge e [] >>= fun r => pure (setNew r)
  | .both e _ dv => it.merge e [] >>= fun _ => it.merge e dv >>= fun r => pure (setNew r)

/-- the key the callback writes -/
def Act.key (it : Iter E ε) : Act E → Bytes
  | .clean dk _ => dk
  | .insert e => it.key e
  | .both e _ _ => it.key e

/-- the value the callback is handed as stored under that key -/
def Act.stored : Act E → Option Bytes
  | .clean _ dv => some dv
  | .insert _ => none
  | .both _ _ dv => some dv

theorem runAct_eq (ik : Bool) (it : Iter E ε) (s : S) (a : Act E) :
    runAct ik it s a = liftIter (a.decision it) >>= wr ik s (a.key it) a.stored := by
  match a with
  | .clean dk dv =>
    show cbClean ik it s dk dv = liftIter (it.clean dv) >>= wr ik s dk (some dv)
    unfold cbClean
    refine bind_congr fun o => ?_
    match o with
    | none => rfl
    | some v => simp only [wr, Option.some.injEq]; rfl
  | .insert e =>
    show cbInsert ik it s e = liftIter (it.merge e [] >>= fun r => pure (setNew r)) >>= wr ik s (it.key e) none
    unfold cbInsert
    cases it.merge e [] with
    | error x => rfl
    | ok r =>
      match r with
      | none => rfl
      | some v =>
        by_cases hv : v.length = 0
        · simp only [liftIter, bind, Except.bind, pure, Except.pure, setNew, hv, if_true]; rfl
        · simp only [liftIter, bind, Except.bind, pure, Except.pure, setNew, hv, if_false, wr, reduceCtorEq]
  | .both e dk dv =>
    show cbBoth ik it s e dv =
      liftIter (it.merge e [] >>= fun _ => it.merge e dv >>= fun r => pure (setNew r)) >>= wr ik s (it.key e) (some dv)
    unfold cbBoth
    cases it.merge e [] with
    | error x => rfl
    | ok r0 =>
      cases it.merge e dv with
      | error x => rfl
      | ok r => exact setNewVal_eq_wr ik s (it.key e) dv r

/-- what decisions `mg`, `cl` leave under the key of a callback -/
def Act.decided (mg : E → Bytes → Option Bytes) (cl : Bytes → Option Bytes) : Act E → Option Bytes
  | .clean _ dv => cl dv
  | .insert e => setNew (mg e [])
  | .both e _ dv => setNew (mg e dv)

theorem runAct_ok_inv {ik : Bool} {it : Iter E ε} {s s' : S} {a : Act E} (h : runAct ik it s a = .ok s') :
    match a with
    | .clean _ dv => ∃ r, it.clean dv = .ok r
    | .insert e => ∃ r, it.merge e [] = .ok r
    | .both e _ dv => (∃ r, it.merge e [] = .ok r) ∧ ∃ r, it.merge e dv = .ok r := by
  rw [runAct_eq] at h
  cases hd : a.decision it with
  | error y => rw [hd] at h; cases h
  | ok o =>
    match a with
    | .clean _ dv => exact ⟨o, hd⟩
    | .insert e => obtain ⟨r, hr, _⟩ := except_bind_ok hd; exact ⟨r, hr⟩
    | .both e _ dv =>
      obtain ⟨r0, h0, h1⟩ := except_bind_ok hd
      obtain ⟨r, hr, _⟩ := except_bind_ok h1
      exact ⟨⟨r0, h0⟩, r, hr⟩

theorem runAct_err {ik : Bool} {it : Iter E ε} {s : S} {a : Act E} (hk : badKey (a.key it) = false) {err : SErr ε}
    (h : runAct ik it s a = .error err) : ∃ y, err = .iter y := by
  rw [runAct_eq] at h
  cases hd : a.decision it with
  | error y => rw [hd] at h; cases h; exact ⟨y, rfl⟩
  | ok o =>
    rw [hd] at h
    obtain ⟨s', hs'⟩ := wr_succeeds (ε := ε) (ik := ik) s a.stored o hk
    have : wr ik s (a.key it) a.stored o = .error err := h
    rw [hs'] at this; cases this

theorem runAct_noop {ik : Bool} {it : Iter E ε} (s : S) {a : Act E} (h : a.decision it = .ok a.stored) :
    runAct ik it s a = .ok s := by
  rw [runAct_eq, h]; exact wr_self ik s _ _

/-- a callback applies its decision to the content, if the value it was handed is the stored one -/
theorem runAct_apply {ik : Bool} {it : Iter E ε} (s : S) {a : Act E} {o : Option Bytes} {db' : KVs}
    (h : a.decision it = .ok o) (hk : badKey (a.key it) = false)
    (hst : applyOpt ik s.db (a.key it) a.stored = s.db) (hres : applyOpt ik s.db (a.key it) o = db') :
    ∃ d', runAct ik it s a = .ok ⟨db', d'⟩ := by
  rw [runAct_eq, h, ← hres]; exact wr_apply s a.stored o hk hst

theorem runAct_same_or_dirty {ik : Bool} {it : Iter E ε} {s s' : S} (a : Act E)
    (h : runAct ik it s a = .ok s') : s' = s ∨ s'.dirty = true := by
  rw [runAct_eq] at h
  obtain ⟨o, _, h2⟩ := except_bind_ok h
  exact wr_same_or_dirty h2

theorem runAct_dirty_mono {ik : Bool} {it : Iter E ε} {s s' : S} (a : Act E)
    (h : runAct ik it s a = .ok s') (hd : s.dirty = true) : s'.dirty = true := by
  rcases runAct_same_or_dirty a h with h' | h'
  · rw [h']; exact hd
  · exact h'

theorem runPlan_same_or_dirty {ik : Bool} {it : Iter E ε} (acts : List (Act E)) :
    ∀ s s', runPlan ik it s acts = .ok s' → s' = s ∨ s'.dirty = true :=
  fun _ _ h => foldlM_same_or (fun s => s.dirty = true) (fun a _ _ _ => runAct_same_or_dirty a) h

/-- the iterator's decisions never fail: they are the total functions `mg` and `cl` -/
structure Total (it : Iter E ε) (mg : E → Bytes → Option Bytes) (cl : Bytes → Option Bytes) : Prop where
  merge : ∀ e o, it.merge e o = .ok (mg e o)
  clean : ∀ v, it.clean v = .ok (cl v)

variable {mg : E → Bytes → Option Bytes} {cl : Bytes → Option Bytes}

theorem Total.decision {it : Iter E ε} (T : Total it mg cl) (a : Act E) :
    a.decision it = .ok (a.decided mg cl) := by
  match a with
  | .clean _ dv => exact T.clean dv
  | .insert e => simp only [Act.decision, T.merge]; rfl
  | .both e _ dv => simp only [Act.decision, T.merge]; rfl

theorem runAct_total {ik : Bool} {it : Iter E ε} (T : Total it mg cl) (s : S) (a : Act E)
    (hk : badKey (a.key it) = false) : ∃ s', runAct ik it s a = .ok s' := by
  rw [runAct_eq, T.decision]; exact wr_succeeds s _ _ hk

/-! ### the three ways the two sorted streams meet -/

/-- Induction along the merge-join of a sorted input with a sorted DBI. Each step issues one
    callback; its key is below every input key and every stored key still to come. -/
@[elab_as_elim]
theorem join_induct {ik : Bool} {it : Iter E ε} {P : List E → KVs → Prop}
    (nil : P [] [])
    (clean : ∀ I dk dv ds, (∀ x ∈ I, kcmp ik dk (it.key x) < 0) → (∀ q ∈ ds, kcmp ik dk q.1 < 0) →
      P I ds → P I ((dk, dv) :: ds))
    (both : ∀ e es dk dv ds, kcmp ik dk (it.key e) = 0 → (∀ x ∈ es, kcmp ik dk (it.key x) < 0) →
      (∀ q ∈ ds, kcmp ik dk q.1 < 0) → P es ds → P (e :: es) ((dk, dv) :: ds))
    (insert : ∀ e es D, (∀ x ∈ es, kcmp ik (it.key e) (it.key x) < 0) → (∀ q ∈ D, kcmp ik (it.key e) q.1 < 0) →
      P es D → P (e :: es) D)
    (I : List E) (D : KVs) (hI : ISorted ik it I) (hD : Sorted ik D) : P I D := by
  induction I, D using plan.induct (ik := ik) (it := it) with
  | case1 => exact nil
  | case2 dk dv ds ih =>
    have ⟨h, hD'⟩ := sorted_cons.mp hD
    exact clean [] dk dv ds (fun _ hx => by cases hx) h (ih hI hD')
  | case3 e es ih =>
    have ⟨h, hI'⟩ := List.pairwise_cons.mp hI
    exact insert e es [] h (fun _ hq => by cases hq) (ih hI' hD)
  | case4 e es dk dv ds hlt ih =>
    have ⟨h, hD'⟩ := sorted_cons.mp hD
    have ⟨hI1, _⟩ := List.pairwise_cons.mp hI
    refine clean (e :: es) dk dv ds (fun x hx => ?_) h (ih hI hD')
    rcases List.mem_cons.mp hx with rfl | hx
    · exact hlt
    · exact kcmp_lt_trans ik hlt (hI1 x hx)
  | case5 e es dk dv ds _ heq ih =>
    have ⟨h, hD'⟩ := sorted_cons.mp hD
    have ⟨hI1, hI'⟩ := List.pairwise_cons.mp hI
    exact both e es dk dv ds heq (fun x hx => kcmp_lt_of_eq_of_lt ik heq (hI1 x hx)) h (ih hI' hD')
  | case6 e es dk dv ds hnlt hne ih =>
    have ⟨h, _⟩ := sorted_cons.mp hD
    have ⟨hI1, hI'⟩ := List.pairwise_cons.mp hI
    have hgt := kcmp_lt_symm_of_not ik hnlt hne
    refine insert e es _ hI1 (fun q hq => ?_) (ih hI' hD)
    rcases List.mem_cons.mp hq with rfl | hq
    · exact hgt
    · exact kcmp_lt_trans ik hgt (h q hq)

theorem plan_clean {ik : Bool} {it : Iter E ε} {I : List E} {dk : Bytes} (dv : Bytes) (ds : KVs)
    (h : ∀ x ∈ I, kcmp ik dk (it.key x) < 0) :
    plan ik it I ((dk, dv) :: ds) = .clean dk dv :: plan ik it I ds := by
  match I with
  | [] => rw [plan_nil_cons]
  | e :: es => rw [plan_cons_cons, if_pos (h e (List.mem_cons_self ..))]

theorem plan_both {ik : Bool} {it : Iter E ε} {e : E} (es : List E) {dk : Bytes} (dv : Bytes) (ds : KVs)
    (h : kcmp ik dk (it.key e) = 0) :
    plan ik it (e :: es) ((dk, dv) :: ds) = .both e dk dv :: plan ik it es ds := by
  rw [plan_cons_cons, if_neg (by omega), if_pos h]

theorem plan_insert {ik : Bool} {it : Iter E ε} {e : E} (es : List E) {D : KVs}
    (h : ∀ q ∈ D, kcmp ik (it.key e) q.1 < 0) :
    plan ik it (e :: es) D = .insert e :: plan ik it es D := by
  match D with
  | [] => rw [plan_cons_nil]
  | (dk, dv) :: ds =>
    have := h (dk, dv) (List.mem_cons_self ..)
    rw [plan_cons_cons, if_neg (kcmp_lt_asymm ik this), if_neg (kcmp_ne_symm_of_lt ik this)]

/-! ### which callbacks are issued -/

/-- every callback of the plan is about entries of the two lists (any order of the lists) -/
theorem plan_forall {ik : Bool} {it : Iter E ε} (Q : Act E → Prop) (I : List E) (D : KVs) :
    (∀ q ∈ D, Q (.clean q.1 q.2)) → (∀ e ∈ I, Q (.insert e)) →
    (∀ e ∈ I, ∀ q ∈ D, Q (.both e q.1 q.2)) → ∀ a ∈ plan ik it I D, Q a := by
  fun_induction plan ik it I D with
  | case1 => intro _ _ _ a ha; cases ha
  | case2 dk dv ds ih =>
    intro hc hi hb a ha
    rcases List.mem_cons.mp ha with rfl | ha
    · exact hc (dk, dv) (List.mem_cons_self ..)
    · exact ih (fun q hq => hc q (List.mem_cons_of_mem _ hq)) hi
        (fun e he q hq => hb e he q (List.mem_cons_of_mem _ hq)) a ha
  | case3 e es ih =>
    intro hc hi hb a ha
    rcases List.mem_cons.mp ha with rfl | ha
    · exact hi e (List.mem_cons_self ..)
    · exact ih hc (fun x hx => hi x (List.mem_cons_of_mem _ hx))
        (fun x hx => hb x (List.mem_cons_of_mem _ hx)) a ha
  | case4 e es dk dv ds _ ih =>
    intro hc hi hb a ha
    rcases List.mem_cons.mp ha with rfl | ha
    · exact hc (dk, dv) (List.mem_cons_self ..)
    · exact ih (fun q hq => hc q (List.mem_cons_of_mem _ hq)) hi
        (fun x hx q hq => hb x hx q (List.mem_cons_of_mem _ hq)) a ha
  | case5 e es dk dv ds _ _ ih =>
    intro hc hi hb a ha
    rcases List.mem_cons.mp ha with rfl | ha
    · exact hb e (List.mem_cons_self ..) (dk, dv) (List.mem_cons_self ..)
    · exact ih (fun q hq => hc q (List.mem_cons_of_mem _ hq)) (fun x hx => hi x (List.mem_cons_of_mem _ hx))
        (fun x hx q hq => hb x (List.mem_cons_of_mem _ hx) q (List.mem_cons_of_mem _ hq)) a ha
  | case6 e es dk dv ds _ _ ih =>
    intro hc hi hb a ha
    rcases List.mem_cons.mp ha with rfl | ha
    · exact hi e (List.mem_cons_self ..)
    · exact ih hc (fun x hx => hi x (List.mem_cons_of_mem _ hx))
        (fun x hx => hb x (List.mem_cons_of_mem _ hx)) a ha

theorem keysOK_badKey {it : Iter E ε} {I : List E} (hK : KeysOK it I) {e : E} (he : e ∈ I) :
    badKey (it.key e) = false := by
  have := hK e he
  simp only [badKey, Bool.or_eq_false_iff, decide_eq_false_iff_not]
  exact ⟨this.1, by omega⟩

theorem plan_key_ok {ik : Bool} {it : Iter E ε} {I : List E} {D : KVs} (hK : KeysOK it I) (hDK : DKeysOK D) :
    ∀ a ∈ plan ik it I D, badKey (a.key it) = false :=
  plan_forall _ I D hDK (fun _ he => keysOK_badKey hK he) (fun _ he _ _ => keysOK_badKey hK he)

theorem inInput_cons (ik : Bool) (it : Iter E ε) (e : E) (es : List E) (k : Bytes) :
    inInput ik it (e :: es) k = (decide (kcmp ik (it.key e) k = 0) || inInput ik it es k) := rfl

theorem inInput_false {ik : Bool} {it : Iter E ε} {I : List E} {k : Bytes}
    (h : ∀ e ∈ I, ¬ kcmp ik (it.key e) k = 0) : inInput ik it I k = false := by
  unfold inInput
  rw [List.any_eq_false]
  intro e he; simpa using h e he

/-- what a callback of the plan is about: `clean` for a stored entry whose key is not in the input,
    `insert` for an input entry whose key is not stored, `both` for an input entry and the stored
    entry of the same key -/
def ActSpec (ik : Bool) (it : Iter E ε) (I : List E) (D : KVs) : Act E → Prop
  | .clean dk dv => (dk, dv) ∈ D ∧ inInput ik it I dk = false
  | .insert e => e ∈ I ∧ get ik D (it.key e) = none
  | .both e dk dv => e ∈ I ∧ (dk, dv) ∈ D ∧ kcmp ik (it.key e) dk = 0

theorem ActSpec.cons_stored {ik : Bool} {it : Iter E ε} {I : List E} {ds : KVs} {dk : Bytes} (dv : Bytes)
    {a : Act E} (h : ActSpec ik it I ds a) (hne : ∀ x, a = .insert x → ¬ kcmp ik (it.key x) dk = 0) :
    ActSpec ik it I ((dk, dv) :: ds) a := by
  match a with
  | .clean _ _ => exact ⟨List.mem_cons_of_mem _ h.1, h.2⟩
  | .insert x => exact ⟨h.1, by rw [get_cons, if_neg (hne x rfl)]; exact h.2⟩
  | .both _ _ _ => exact ⟨h.1, List.mem_cons_of_mem _ h.2.1, h.2.2⟩

theorem ActSpec.cons_input {ik : Bool} {it : Iter E ε} {e : E} {es : List E} {D : KVs}
    {a : Act E} (h : ActSpec ik it es D a) (hne : ∀ dk dv, a = .clean dk dv → ¬ kcmp ik (it.key e) dk = 0) :
    ActSpec ik it (e :: es) D a := by
  match a with
  | .clean dk dv => exact ⟨h.1, by rw [inInput_cons, h.2, decide_eq_false (hne dk dv rfl)]; rfl⟩
  | .insert _ => exact ⟨List.mem_cons_of_mem _ h.1, h.2⟩
  | .both _ _ _ => exact ⟨List.mem_cons_of_mem _ h.1, h.2.1, h.2.2⟩

theorem ActSpec.get_both {ik : Bool} {it : Iter E ε} {I : List E} {D : KVs} {e : E} {dk dv : Bytes}
    (h : ActSpec ik it I D (.both e dk dv)) (hD : Sorted ik D) : get ik D (it.key e) = some dv := by
  rw [get_congr ik D h.2.2]; exact get_of_mem hD h.2.1

theorem plan_mem {ik : Bool} {it : Iter E ε} (I : List E) (D : KVs) :
    ISorted ik it I → Sorted ik D → ∀ a ∈ plan ik it I D, ActSpec ik it I D a := by
  intro hS hD
  refine join_induct ?_ ?_ ?_ ?_ I D hS hD
  · intro a ha; rw [plan_nil_nil] at ha; cases ha
  · intro I dk dv ds hI _ ih a ha
    rw [plan_clean dv ds hI] at ha
    rcases List.mem_cons.mp ha with rfl | ha
    · exact ⟨List.mem_cons_self .., inInput_false fun x hx => kcmp_ne_symm_of_lt ik (hI x hx)⟩
    · have h := ih a ha
      exact h.cons_stored dv fun x hx => by subst hx; exact kcmp_ne_symm_of_lt ik (hI x h.1)
  · intro e es dk dv ds heq hes hds ih a ha
    rw [plan_both es dv ds heq] at ha
    have heq' := (kcmp_eq_comm ik _ _).mp heq
    rcases List.mem_cons.mp ha with rfl | ha
    · exact ⟨List.mem_cons_self .., List.mem_cons_self .., heq'⟩
    · have h := ih a ha
      refine (h.cons_stored dv fun x hx => ?_).cons_input fun dk' dv' hc => ?_
      · subst hx; exact kcmp_ne_symm_of_lt ik (hes x h.1)
      · subst hc; exact kcmp_ne_of_lt ik (kcmp_lt_of_eq_of_lt ik heq' (hds (dk', dv') h.1))
  · intro e es D _ hD ih a ha
    rw [plan_insert es hD] at ha
    rcases List.mem_cons.mp ha with rfl | ha
    · exact ⟨List.mem_cons_self .., get_none_of_lt hD⟩
    · have h := ih a ha
      exact h.cons_input fun dk' dv' hc => by subst hc; exact kcmp_ne_of_lt ik (hD (dk', dv') h.1)

theorem plan_complete (ik : Bool) (it : Iter E ε) (I : List E) (D : KVs) :
    (∀ e ∈ I, Act.insert e ∈ plan ik it I D ∨ ∃ dk dv, Act.both e dk dv ∈ plan ik it I D) ∧
    (∀ p ∈ D, Act.clean p.1 p.2 ∈ plan ik it I D ∨ ∃ e, Act.both e p.1 p.2 ∈ plan ik it I D) := by
  -- a callback of the rest of the plan is a callback of the plan
  have tlI : ∀ {a : Act E} {l : List (Act E)} {e : E}, (Act.insert e ∈ l ∨ ∃ dk dv, Act.both e dk dv ∈ l) →
      (Act.insert e ∈ a :: l ∨ ∃ dk dv, Act.both e dk dv ∈ a :: l) :=
    fun h => h.imp (List.mem_cons_of_mem _) fun ⟨dk, dv, h⟩ => ⟨dk, dv, List.mem_cons_of_mem _ h⟩
  have tlD : ∀ {a : Act E} {l : List (Act E)} {p : Bytes × Bytes}, (Act.clean p.1 p.2 ∈ l ∨ ∃ e, Act.both e p.1 p.2 ∈ l) →
      (Act.clean p.1 p.2 ∈ a :: l ∨ ∃ e, Act.both e p.1 p.2 ∈ a :: l) :=
    fun h => h.imp (List.mem_cons_of_mem _) fun ⟨e, h⟩ => ⟨e, List.mem_cons_of_mem _ h⟩
  fun_induction plan ik it I D with
  | case1 => exact ⟨(fun _ h => nomatch h), fun _ h => nomatch h⟩
  | case2 dk dv ds ih =>
    refine ⟨(fun _ h => nomatch h), fun p hp => ?_⟩
    rcases List.mem_cons.mp hp with rfl | hp
    · exact Or.inl (List.mem_cons_self ..)
    · exact tlD (ih.2 p hp)
  | case3 e es ih =>
    refine ⟨fun x hx => ?_, fun _ h => nomatch h⟩
    rcases List.mem_cons.mp hx with rfl | hx
    · exact Or.inl (List.mem_cons_self ..)
    · exact tlI (ih.1 x hx)
  | case4 e es dk dv ds _ ih =>
    refine ⟨fun x hx => tlI (ih.1 x hx), fun p hp => ?_⟩
    rcases List.mem_cons.mp hp with rfl | hp
    · exact Or.inl (List.mem_cons_self ..)
    · exact tlD (ih.2 p hp)
  | case5 e es dk dv ds _ _ ih =>
    refine ⟨fun x hx => ?_, fun p hp => ?_⟩
    · rcases List.mem_cons.mp hx with rfl | hx
      · exact Or.inr ⟨dk, dv, List.mem_cons_self ..⟩
      · exact tlI (ih.1 x hx)
    · rcases List.mem_cons.mp hp with rfl | hp
      · exact Or.inr ⟨e, List.mem_cons_self ..⟩
      · exact tlD (ih.2 p hp)
  | case6 e es dk dv ds _ _ ih =>
    refine ⟨fun x hx => ?_, fun p hp => tlD (ih.2 p hp)⟩
    rcases List.mem_cons.mp hx with rfl | hx
    · exact Or.inl (List.mem_cons_self ..)
    · exact tlI (ih.1 x hx)

/-! ### the merge-join output: keys, sortedness, pointwise reading -/

/-- zero or one entry -/
def optOut (k : Bytes) (o : Option Bytes) : KVs :=
  match o with
  | none => []
  | some v => [(k, v)]

theorem optOut_key {k : Bytes} {o : Option Bytes} : ∀ p ∈ optOut k o, p.1 = k := by
  intro p hp
  cases o with
  | none => simp [optOut] at hp
  | some v => simp [optOut] at hp; rw [hp]

/-- what a callback leaves at its key: the stored key bytes are kept for a stored entry -/
def actOut (it : Iter E ε) (mg : E → Bytes → Option Bytes) (cl : Bytes → Option Bytes) : Act E → KVs
  | .clean dk dv => optOut dk (cl dv)
  | .insert e => optOut (it.key e) (setNew (mg e []))
  | .both e dk dv => optOut dk (setNew (mg e dv))

/-- the content `IterUpdate` produces, as a pure merge-join -/
def joinOut (ik : Bool) (it : Iter E ε) (mg : E → Bytes → Option Bytes) (cl : Bytes → Option Bytes)
    (I : List E) (D : KVs) : KVs :=
  (plan ik it I D).flatMap (actOut it mg cl)

theorem joinOut_nil_nil (ik : Bool) (it : Iter E ε) (mg : E → Bytes → Option Bytes) (cl : Bytes → Option Bytes) :
    joinOut ik it mg cl [] [] = [] := by
  unfold joinOut; rw [plan_nil_nil]; rfl

theorem joinOut_clean {ik : Bool} {it : Iter E ε} {I : List E} {dk : Bytes} (dv : Bytes) (ds : KVs)
    (h : ∀ x ∈ I, kcmp ik dk (it.key x) < 0) :
    joinOut ik it mg cl I ((dk, dv) :: ds) = optOut dk (cl dv) ++ joinOut ik it mg cl I ds := by
  unfold joinOut; rw [plan_clean dv ds h, List.flatMap_cons]; rfl

theorem joinOut_both {ik : Bool} {it : Iter E ε} {e : E} (es : List E) {dk : Bytes} (dv : Bytes) (ds : KVs)
    (h : kcmp ik dk (it.key e) = 0) :
    joinOut ik it mg cl (e :: es) ((dk, dv) :: ds) = optOut dk (setNew (mg e dv)) ++ joinOut ik it mg cl es ds := by
  unfold joinOut; rw [plan_both es dv ds h, List.flatMap_cons]; rfl

theorem joinOut_insert {ik : Bool} {it : Iter E ε} {e : E} (es : List E) {D : KVs}
    (h : ∀ q ∈ D, kcmp ik (it.key e) q.1 < 0) :
    joinOut ik it mg cl (e :: es) D = optOut (it.key e) (setNew (mg e [])) ++ joinOut ik it mg cl es D := by
  unfold joinOut; rw [plan_insert es h, List.flatMap_cons]; rfl

/-- every output key is an input key or a stored key (any order of the lists) -/
theorem joinOut_forall {ik : Bool} {it : Iter E ε} (P : Bytes → Prop) {I : List E} {D : KVs}
    (hI : ∀ e ∈ I, P (it.key e)) (hD : ∀ q ∈ D, P q.1) : ∀ p ∈ joinOut ik it mg cl I D, P p.1 := by
  intro p hp
  obtain ⟨a, ha, hpa⟩ := List.mem_flatMap.mp hp
  revert hpa
  refine plan_forall (fun a => p ∈ actOut it mg cl a → P p.1) I D ?_ ?_ ?_ a ha
  · intro q hq hpa; rw [optOut_key p hpa]; exact hD q hq
  · intro e he hpa; rw [optOut_key p hpa]; exact hI e he
  · intro _ _ q hq hpa; rw [optOut_key p hpa]; exact hD q hq

theorem joinOut_gt {ik : Bool} {it : Iter E ε} (mg : E → Bytes → Option Bytes) (cl : Bytes → Option Bytes)
    (I : List E) (D : KVs) (k : Bytes) :
    (∀ e ∈ I, kcmp ik k (it.key e) < 0) → (∀ q ∈ D, kcmp ik k q.1 < 0) →
    ∀ p ∈ joinOut ik it mg cl I D, kcmp ik k p.1 < 0 :=
  joinOut_forall (fun x => kcmp ik k x < 0)

theorem joinOut_dkeysOK {ik : Bool} {it : Iter E ε} (mg : E → Bytes → Option Bytes) (cl : Bytes → Option Bytes)
    {I : List E} {D : KVs} (hK : KeysOK it I) (hDK : DKeysOK D) : DKeysOK (joinOut ik it mg cl I D) :=
  joinOut_forall (fun x => badKey x = false) (fun _ he => keysOK_badKey hK he) hDK

theorem get_optOut_append {ik : Bool} (k0 : Bytes) (o : Option Bytes) (rest : KVs) (k : Bytes)
    (h : ∀ p ∈ rest, kcmp ik k0 p.1 < 0) :
    get ik (optOut k0 o ++ rest) k = if kcmp ik k k0 = 0 then o else get ik rest k := by
  cases o with
  | none =>
    simp only [optOut, List.nil_append]
    split
    · rename_i hk; exact get_none_of_lt (fun p hp => kcmp_lt_of_eq_of_lt ik hk (h p hp))
    · rfl
  | some v => simp only [optOut, List.singleton_append, get_cons]

theorem sorted_optOut_append {ik : Bool} (k0 : Bytes) (o : Option Bytes) (rest : KVs)
    (h : ∀ p ∈ rest, kcmp ik k0 p.1 < 0) (hs : Sorted ik rest) : Sorted ik (optOut k0 o ++ rest) := by
  cases o with
  | none => exact hs
  | some v => exact sorted_cons.mpr ⟨h, hs⟩

theorem sorted_joinOut {ik : Bool} {it : Iter E ε} (mg : E → Bytes → Option Bytes) (cl : Bytes → Option Bytes)
    (I : List E) (D : KVs) : ISorted ik it I → Sorted ik D → Sorted ik (joinOut ik it mg cl I D) := by
  intro hS hD
  refine join_induct ?_ ?_ ?_ ?_ I D hS hD
  · rw [joinOut_nil_nil]; exact sorted_nil ik
  · intro I dk dv ds hI hds ih
    rw [joinOut_clean dv ds hI]
    exact sorted_optOut_append _ _ _ (joinOut_gt mg cl I ds dk hI hds) ih
  · intro e es dk dv ds heq hes hds ih
    rw [joinOut_both es dv ds heq]
    exact sorted_optOut_append _ _ _ (joinOut_gt mg cl es ds dk hes hds) ih
  · intro e es D hes hD ih
    rw [joinOut_insert es hD]
    exact sorted_optOut_append _ _ _ (joinOut_gt mg cl es D _ hes hD) ih

/-- the input entry whose key is (equivalent to) `k` -/
def lookupI (ik : Bool) (it : Iter E ε) (I : List E) (k : Bytes) : Option E :=
  I.find? (fun e => kcmp ik (it.key e) k = 0)

theorem lookupI_cons_pos {ik : Bool} {it : Iter E ε} {e : E} {es : List E} {k : Bytes}
    (h : kcmp ik (it.key e) k = 0) : lookupI ik it (e :: es) k = some e := by
  unfold lookupI; rw [List.find?_cons_of_pos]; simpa using h

theorem lookupI_cons_neg {ik : Bool} {it : Iter E ε} {e : E} {es : List E} {k : Bytes}
    (h : ¬ kcmp ik (it.key e) k = 0) : lookupI ik it (e :: es) k = lookupI ik it es k := by
  unfold lookupI; rw [List.find?_cons_of_neg]; simpa using h

theorem lookupI_none {ik : Bool} {it : Iter E ε} {I : List E} {k : Bytes}
    (h : ∀ e ∈ I, ¬ kcmp ik (it.key e) k = 0) : lookupI ik it I k = none := by
  unfold lookupI; rw [List.find?_eq_none]; intro e he; simpa using h e he

theorem lookupI_none_of_inInput {ik : Bool} {it : Iter E ε} {I : List E} {k : Bytes}
    (h : inInput ik it I k = false) : lookupI ik it I k = none := by
  unfold inInput at h
  rw [List.any_eq_false] at h
  exact lookupI_none (fun e he => by simpa using h e he)

theorem lookupI_of_mem {ik : Bool} {it : Iter E ε} {I : List E} (hS : ISorted ik it I) {e : E} (he : e ∈ I) :
    lookupI ik it I (it.key e) = some e := by
  induction I with
  | nil => cases he
  | cons x xs ih =>
    have ⟨hx, hS'⟩ := List.pairwise_cons.mp hS
    rcases List.mem_cons.mp he with rfl | he
    · exact lookupI_cons_pos (kcmp_refl ik _)
    · rw [lookupI_cons_neg (kcmp_ne_of_lt ik (hx e he))]; exact ih hS' he

theorem get_joinOut {ik : Bool} {it : Iter E ε} (mg : E → Bytes → Option Bytes) (cl : Bytes → Option Bytes)
    (k : Bytes) (I : List E) (D : KVs) : ISorted ik it I → Sorted ik D →
    get ik (joinOut ik it mg cl I D) k =
      match lookupI ik it I k with
      | some e => setNew (mg e ((get ik D k).getD []))
      | none => (get ik D k).bind cl := by
  intro hS hD
  refine join_induct ?_ ?_ ?_ ?_ I D hS hD
  · rw [joinOut_nil_nil]; rfl
  · intro I dk dv ds hI hds ih
    rw [joinOut_clean dv ds hI, get_optOut_append _ _ _ _ (joinOut_gt mg cl I ds dk hI hds), ih, get_cons]
    by_cases hk : kcmp ik k dk = 0
    · rw [if_pos hk, if_pos hk, lookupI_none fun x hx => kcmp_ne_symm_of_lt ik (kcmp_lt_of_eq_of_lt ik hk (hI x hx))]
      rfl
    · rw [if_neg hk, if_neg hk]
  · intro e es dk dv ds heq hes hds ih
    rw [joinOut_both es dv ds heq, get_optOut_append _ _ _ _ (joinOut_gt mg cl es ds dk hes hds), ih, get_cons]
    by_cases hk : kcmp ik k dk = 0
    · have hke : kcmp ik (it.key e) k = 0 :=
        kcmp_eq_trans ik ((kcmp_eq_comm ik _ _).mp heq) ((kcmp_eq_comm ik _ _).mp hk)
      rw [if_pos hk, if_pos hk, lookupI_cons_pos hke]; rfl
    · have hke : ¬ kcmp ik (it.key e) k = 0 := fun h =>
        hk ((kcmp_eq_comm ik _ _).mp (kcmp_eq_trans ik heq h))
      rw [if_neg hk, if_neg hk, lookupI_cons_neg hke]
  · intro e es D hes hD ih
    rw [joinOut_insert es hD, get_optOut_append _ _ _ _ (joinOut_gt mg cl es D _ hes hD), ih]
    by_cases hk : kcmp ik k (it.key e) = 0
    · rw [if_pos hk, lookupI_cons_pos ((kcmp_eq_comm ik _ _).mp hk),
        get_none_of_lt fun q hq => kcmp_lt_of_eq_of_lt ik hk (hD q hq)]
      rfl
    · rw [if_neg hk, lookupI_cons_neg (fun h => hk ((kcmp_eq_comm ik _ _).mp h))]

/-! ### writing at the cursor: behind the entries already passed -/

theorem applyOpt_mid_eq {ik : Bool} {done : KVs} {k dk : Bytes} (dv : Bytes) (ds : KVs) (o : Option Bytes)
    (hd : ∀ p ∈ done, kcmp ik p.1 k < 0) (he : kcmp ik k dk = 0) :
    applyOpt ik (done ++ (dk, dv) :: ds) k o = done ++ optOut dk o ++ ds := by
  cases o with
  | none => simp only [applyOpt, del_append_gt _ hd, del_head_eq dv ds he, optOut, List.append_nil]
  | some v =>
    simp only [applyOpt, put_append_gt _ _ hd, put_head_eq dv ds v he, optOut, List.append_assoc,
      List.singleton_append]

theorem applyOpt_mid_lt {ik : Bool} {done : KVs} {k : Bytes} (X : KVs) (o : Option Bytes)
    (hd : ∀ p ∈ done, kcmp ik p.1 k < 0) (hx : ∀ p ∈ X, kcmp ik k p.1 < 0) :
    applyOpt ik (done ++ X) k o = done ++ optOut k o ++ X := by
  cases o with
  | none => simp only [applyOpt, del_append_gt _ hd, del_before X hx, optOut, List.append_nil]
  | some v =>
    simp only [applyOpt, put_append_gt _ _ hd, put_before X v hx, optOut, List.append_assoc,
      List.singleton_append]

/-- the prefix already written is below everything still to come -/
def Below (ik : Bool) (it : Iter E ε) (done : KVs) (I : List E) (D : KVs) : Prop :=
  ∀ p ∈ done, (∀ e ∈ I, kcmp ik p.1 (it.key e) < 0) ∧ (∀ q ∈ D, kcmp ik p.1 q.1 < 0)

theorem below_append {ik : Bool} {it : Iter E ε} {done : KVs} {I I' : List E} {D D' : KVs} {k : Bytes}
    {o : Option Bytes} (hb : Below ik it done I D) (hI : ∀ e ∈ I', e ∈ I) (hD : ∀ q ∈ D', q ∈ D)
    (hkI : ∀ e ∈ I', kcmp ik k (it.key e) < 0) (hkD : ∀ q ∈ D', kcmp ik k q.1 < 0) :
    Below ik it (done ++ optOut k o) I' D' := by
  intro p hp
  rcases List.mem_append.mp hp with h | h
  · exact ⟨fun e he => (hb p h).1 e (hI e he), fun q hq => (hb p h).2 q (hD q hq)⟩
  · rw [optOut_key p h]; exact ⟨hkI, hkD⟩

theorem runPlan_step {ik : Bool} {it : Iter E ε} {s s1 : S} {a : Act E} (acts : List (Act E))
    (h : runAct ik it s a = .ok s1) : runPlan ik it s (a :: acts) = runPlan ik it s1 acts := by
  rw [runPlan_cons, h]; rfl

/-- running the plan from a state `done ++ D` writes the merge-join output behind `done`, if the
    decisions consulted are those of `mg`, `cl` and LMDB accepts the keys written -/
theorem runPlan_out {ik : Bool} {it : Iter E ε} (mg : E → Bytes → Option Bytes) (cl : Bytes → Option Bytes)
    (I : List E) (D : KVs) (hS : ISorted ik it I) (hD : Sorted ik D) :
    (∀ a ∈ plan ik it I D, a.decision it = .ok (a.decided mg cl) ∧ badKey (a.key it) = false) →
    ∀ (done : KVs) (d : Bool), Below ik it done I D →
    ∃ d', runPlan ik it ⟨done ++ D, d⟩ (plan ik it I D) = .ok ⟨done ++ joinOut ik it mg cl I D, d'⟩ := by
  refine join_induct ?_ ?_ ?_ ?_ I D hS hD
  · intro _ done d _
    exact ⟨d, by rw [plan_nil_nil, joinOut_nil_nil]; rfl⟩
  · intro I dk dv ds hI hds ih hok done d hb
    rw [plan_clean dv ds hI] at hok ⊢
    have ⟨h0, hk⟩ := hok _ (List.mem_cons_self ..)
    have hmid : ∀ o, applyOpt ik (done ++ (dk, dv) :: ds) dk o = done ++ optOut dk o ++ ds := fun o =>
      applyOpt_mid_eq dv ds o (fun p hp => (hb p hp).2 (dk, dv) (List.mem_cons_self ..)) (kcmp_refl ik dk)
    obtain ⟨d1, h1⟩ := runAct_apply (ik := ik) ⟨done ++ (dk, dv) :: ds, d⟩ h0 hk
      ((hmid (some dv)).trans (by simp [optOut])) (hmid (cl dv))
    obtain ⟨d2, h2⟩ := ih (fun a ha => hok a (List.mem_cons_of_mem _ ha)) _ d1
      (below_append hb (fun _ he => he) (fun _ hq => List.mem_cons_of_mem _ hq) hI hds)
    exact ⟨d2, by rw [runPlan_step _ h1, h2, joinOut_clean dv ds hI, List.append_assoc]⟩
  · intro e es dk dv ds heq hes hds ih hok done d hb
    rw [plan_both es dv ds heq] at hok ⊢
    have ⟨h0, hk⟩ := hok _ (List.mem_cons_self ..)
    have hmid : ∀ o, applyOpt ik (done ++ (dk, dv) :: ds) (it.key e) o = done ++ optOut dk o ++ ds := fun o =>
      applyOpt_mid_eq dv ds o (fun p hp => (hb p hp).1 e (List.mem_cons_self ..)) ((kcmp_eq_comm ik _ _).mp heq)
    obtain ⟨d1, h1⟩ := runAct_apply (ik := ik) ⟨done ++ (dk, dv) :: ds, d⟩ h0 hk
      ((hmid (some dv)).trans (by simp [optOut])) (hmid (setNew (mg e dv)))
    obtain ⟨d2, h2⟩ := ih (fun a ha => hok a (List.mem_cons_of_mem _ ha)) _ d1
      (below_append hb (fun _ he => List.mem_cons_of_mem _ he) (fun _ hq => List.mem_cons_of_mem _ hq) hes hds)
    exact ⟨d2, by rw [runPlan_step _ h1, h2, joinOut_both es dv ds heq, List.append_assoc]⟩
  · intro e es D hes hD ih hok done d hb
    rw [plan_insert es hD] at hok ⊢
    have ⟨h0, hk⟩ := hok _ (List.mem_cons_self ..)
    have hmid : ∀ o, applyOpt ik (done ++ D) (it.key e) o = done ++ optOut (it.key e) o ++ D := fun o =>
      applyOpt_mid_lt D o (fun p hp => (hb p hp).1 e (List.mem_cons_self ..)) hD
    obtain ⟨d1, h1⟩ := runAct_apply (ik := ik) ⟨done ++ D, d⟩ h0 hk
      ((hmid none).trans (by simp [optOut])) (hmid (setNew (mg e [])))
    obtain ⟨d2, h2⟩ := ih (fun a ha => hok a (List.mem_cons_of_mem _ ha)) _ d1
      (below_append hb (fun _ he => List.mem_cons_of_mem _ he) (fun _ hq => hq) hes hD)
    exact ⟨d2, by rw [runPlan_step _ h1, h2, joinOut_insert es hD, List.append_assoc]⟩

/-! ### the decisions actually consulted -/

/-- The decisions IterUpdate consults for this input and this stored content do not fail, and are
    given by `mg` / `cl`: `Merge(nil)` for every input entry, `Merge(stored)` for an input entry
    whose key is stored, `Clean(stored)` for every stored entry whose key is not in the input. -/
structure LocalTotal (ik : Bool) (it : Iter E ε) (mg : E → Bytes → Option Bytes) (cl : Bytes → Option Bytes)
    (input : List E) (db : KVs) : Prop where
  mergeNil : ∀ e ∈ input, it.merge e [] = .ok (mg e [])
  mergeStored : ∀ e ∈ input, ∀ dv, get ik db (it.key e) = some dv → it.merge e dv = .ok (mg e dv)
  clean : ∀ p ∈ db, inInput ik it input p.1 = false → it.clean p.2 = .ok (cl p.2)

theorem Total.local {ik : Bool} {it : Iter E ε} (T : Total it mg cl) (input : List E) (db : KVs) :
    LocalTotal ik it mg cl input db :=
  ⟨fun e _ => T.merge e [], fun e _ dv _ => T.merge e dv, fun p _ _ => T.clean p.2⟩

theorem LocalTotal.decision {ik : Bool} {it : Iter E ε} {input : List E} {db : KVs}
    (L : LocalTotal ik it mg cl input db) (hS : ISorted ik it input) (hD : Sorted ik db) :
    ∀ a ∈ plan ik it input db, a.decision it = .ok (a.decided mg cl) := by
  intro a ha
  have h := plan_mem input db hS hD a ha
  match a with
  | .clean dk dv => exact L.clean (dk, dv) h.1 h.2
  | .insert e => simp only [Act.decision, L.mergeNil e h.1]; rfl
  | .both e _ dv => simp only [Act.decision, L.mergeNil e h.1, L.mergeStored e h.1 dv (h.get_both hD)]; rfl

/-- the total decisions extracted from an iterator (where it fails: nil) -/
def mgOf (it : Iter E ε) (e : E) (o : Bytes) : Option Bytes :=
  match it.merge e o with
  | .ok r => r
  | .error _ => none

def clOf (it : Iter E ε) (v : Bytes) : Option Bytes :=
  match it.clean v with
  | .ok r => r
  | .error _ => none

theorem mgOf_ok {it : Iter E ε} {e : E} {o : Bytes} (h : ∃ r, it.merge e o = .ok r) :
    it.merge e o = .ok (mgOf it e o) := by
  obtain ⟨r, hr⟩ := h; simp only [mgOf, hr]

theorem clOf_ok {it : Iter E ε} {v : Bytes} (h : ∃ r, it.clean v = .ok r) :
    it.clean v = .ok (clOf it v) := by
  obtain ⟨r, hr⟩ := h; simp only [clOf, hr]

theorem total_of_nofail (it : Iter E ε) (hm : ∀ e o, ∃ r, it.merge e o = .ok r) (hc : ∀ v, ∃ r, it.clean v = .ok r) :
    Total it (mgOf it) (clOf it) :=
  ⟨fun e o => mgOf_ok (hm e o), fun v => clOf_ok (hc v)⟩

theorem localTotal_of_ok {ik : Bool} {it : Iter E ε} (db : KVs) (d : Bool) (input : List E) (s' : S)
    (hS : ISorted ik it input) (hK : KeysOK it input) (hD : Sorted ik db)
    (h : iterUpdate ik it ⟨db, d⟩ input = .ok s') :
    LocalTotal ik it (mgOf it) (clOf it) input db := by
  rw [iterUpdate_plan ik it _ input hS hK] at h
  have hall : ∀ a ∈ plan ik it input db, ∃ s1 s2, runAct ik it s1 a = .ok s2 := foldlM_ok_mem h
  have hcomp := plan_complete ik it input db
  have hmem := plan_mem input db hS hD
  refine ⟨fun e he => ?_, fun e he dv hg => ?_, fun p hp hin => ?_⟩
  · rcases hcomp.1 e he with ha | ⟨dk, dv, ha⟩
    · obtain ⟨_, _, hr⟩ := hall _ ha; exact mgOf_ok (runAct_ok_inv hr)
    · obtain ⟨_, _, hr⟩ := hall _ ha; exact mgOf_ok (runAct_ok_inv hr).1
  · rcases hcomp.1 e he with ha | ⟨dk, dv', ha⟩
    · rw [(hmem _ ha).2] at hg; cases hg
    · rw [(hmem _ ha).get_both hD] at hg; cases hg
      obtain ⟨_, _, hr⟩ := hall _ ha; exact mgOf_ok (runAct_ok_inv hr).2
  · rcases hcomp.2 p hp with ha | ⟨e, ha⟩
    · obtain ⟨_, _, hr⟩ := hall _ ha; exact clOf_ok (runAct_ok_inv hr)
    · have hsp := hmem _ ha
      have : inInput ik it input p.1 = true :=
        List.any_eq_true.mpr ⟨e, hsp.1, by simpa using hsp.2.2⟩
      rw [this] at hin; cases hin

/-! ### the specification `specIterUpdate` computes the merge-join output -/

/-- the stored entries after the clean phase of the specification -/
def cleaned (cl : Bytes → Option Bytes) (inp : Bytes → Bool) (D : KVs) : KVs :=
  D.flatMap (fun kv => if inp kv.1 then [kv] else optOut kv.1 (cl kv.2))

theorem cleaned_cons (cl : Bytes → Option Bytes) (inp : Bytes → Bool) (dk dv : Bytes) (ds : KVs) :
    cleaned cl inp ((dk, dv) :: ds)
      = (if inp dk then [(dk, dv)] else optOut dk (cl dv)) ++ cleaned cl inp ds := by
  unfold cleaned; rw [List.flatMap_cons]

theorem cleaned_keys {cl : Bytes → Option Bytes} {inp : Bytes → Bool} {D : KVs} :
    ∀ p ∈ cleaned cl inp D, ∃ q ∈ D, p.1 = q.1 := by
  intro p hp
  unfold cleaned at hp
  obtain ⟨q, hq, hpq⟩ := List.mem_flatMap.mp hp
  refine ⟨q, hq, ?_⟩
  split at hpq
  · simp at hpq; rw [hpq]
  · exact optOut_key p hpq

/-- the step of the clean phase of `specIterUpdate` for a clean decision that cannot fail (`cl`);
    `inp` says which stored keys are in the input -/
def cleanStepP (ik : Bool) (cl : Bytes → Option Bytes) (inp : Bytes → Bool) (acc : KVs) (kv : Bytes × Bytes) : KVs :=
  if inp kv.1 then acc else applyOpt ik acc kv.1 (cl kv.2)

/-- the step of the merge phase of `specIterUpdate` for a merge decision that cannot fail (`mg`),
    taken on the value stored in `db` -/
def mergeStepP (ik : Bool) (it : Iter E ε) (mg : E → Bytes → Option Bytes) (db : KVs) (acc : KVs) (e : E) : KVs :=
  applyOpt ik acc (it.key e) (setNew (mg e ((get ik db (it.key e)).getD [])))

/-- with the decisions it consults given by `mg`, `cl`, the specification is two pure folds -/
theorem specIterUpdate_total {ik : Bool} {it : Iter E ε} {db : KVs} {input : List E}
    (L : LocalTotal ik it mg cl input db) :
    specIterUpdate ik it db input
      = .ok (input.foldl (mergeStepP ik it mg db) (db.foldl (cleanStepP ik cl (inInput ik it input)) db)) := by
  unfold specIterUpdate
  rw [foldlM_pure (cleanStepP ik cl (inInput ik it input))]
  · show List.foldlM _ _ input = _
    refine foldlM_pure (mergeStepP ik it mg db) (fun e he acc => ?_) _
    have : it.merge e ((get ik db (it.key e)).getD []) = .ok (mg e ((get ik db (it.key e)).getD [])) := by
      cases hg : get ik db (it.key e) with
      | none => exact L.mergeNil e he
      | some dv => exact L.mergeStored e he dv hg
    simp only [this, mergeStepP]; rfl
  · intro p hp acc
    unfold cleanStepP
    split
    · rfl
    · rename_i hin
      rw [L.clean p hp (by simpa using hin)]; rfl

theorem clean_phase {ik : Bool} (cl : Bytes → Option Bytes) (inp : Bytes → Bool) (D : KVs) :
    Sorted ik D → ∀ done : KVs, (∀ p ∈ done, ∀ q ∈ D, kcmp ik p.1 q.1 < 0) →
    D.foldl (cleanStepP ik cl inp) (done ++ D) = done ++ cleaned cl inp D := by
  induction D with
  | nil => intro _ done _; rfl
  | cons q ds ih =>
    obtain ⟨dk, dv⟩ := q
    intro hD done hb
    have hD' := sorted_cons.mp hD
    rw [List.foldl_cons, cleaned_cons]
    have hstep : cleanStepP ik cl inp (done ++ (dk, dv) :: ds) (dk, dv)
        = (done ++ (if inp dk then [(dk, dv)] else optOut dk (cl dv))) ++ ds := by
      unfold cleanStepP
      split
      · simp
      · exact applyOpt_mid_eq dv ds _ (fun p hp => hb p hp (dk, dv) (List.mem_cons_self ..)) (kcmp_refl ik dk)
    rw [hstep, ih hD'.2, List.append_assoc]
    intro p hp q hq
    rcases List.mem_append.mp hp with h | h
    · exact hb p h q (List.mem_cons_of_mem _ hq)
    · have : p.1 = dk := by
        split at h
        · simp at h; rw [h]
        · exact optOut_key p h
      rw [this]; exact hD'.1 q hq

/-- the merge phase, started behind `done` on the cleaned rest `D`; `inp` says which stored keys
    the whole input has, `db0` is the content the decisions are taken on -/
theorem merge_phase {ik : Bool} {it : Iter E ε} (mg : E → Bytes → Option Bytes) (cl : Bytes → Option Bytes)
    (inp : Bytes → Bool) (db0 : KVs) (I : List E) (D : KVs) (hS : ISorted ik it I) (hD : Sorted ik D) :
    ∀ done : KVs, Below ik it done I D →
    (∀ q ∈ D, inp q.1 = inInput ik it I q.1) → (∀ e ∈ I, get ik db0 (it.key e) = get ik D (it.key e)) →
    I.foldl (mergeStepP ik it mg db0) (done ++ cleaned cl inp D) = done ++ joinOut ik it mg cl I D := by
  refine join_induct ?_ ?_ ?_ ?_ I D hS hD
  · intro done _ _ _; rw [joinOut_nil_nil]; rfl
  · intro I dk dv ds hI hds ih done hb hin hget
    have h0 : inp dk = false := by
      rw [hin (dk, dv) (List.mem_cons_self ..)]
      exact inInput_false fun x hx => kcmp_ne_symm_of_lt ik (hI x hx)
    rw [cleaned_cons, h0, joinOut_clean dv ds hI, ← List.append_assoc, ← List.append_assoc]
    exact ih _ (below_append hb (fun _ he => he) (fun _ hq => List.mem_cons_of_mem _ hq) hI hds)
      (fun q hq => hin q (List.mem_cons_of_mem _ hq))
      (fun x hx => by rw [hget x hx, get_cons, if_neg (kcmp_ne_symm_of_lt ik (hI x hx))])
  · intro e es dk dv ds heq hes hds ih done hb hin hget
    have heq' : kcmp ik (it.key e) dk = 0 := (kcmp_eq_comm ik _ _).mp heq
    have h0 : inp dk = true := by
      rw [hin (dk, dv) (List.mem_cons_self ..), inInput_cons]; simp [heq']
    have hstep : mergeStepP ik it mg db0 (done ++ (dk, dv) :: cleaned cl inp ds) e
        = (done ++ optOut dk (setNew (mg e dv))) ++ cleaned cl inp ds := by
      unfold mergeStepP
      rw [hget e (List.mem_cons_self ..), get_cons, if_pos heq']
      exact applyOpt_mid_eq dv _ _ (fun p hp => (hb p hp).1 e (List.mem_cons_self ..)) heq'
    rw [List.foldl_cons, cleaned_cons, h0, if_pos rfl, List.singleton_append, hstep,
      joinOut_both es dv ds heq, ← List.append_assoc]
    exact ih _ (below_append hb (fun _ he => List.mem_cons_of_mem _ he) (fun _ hq => List.mem_cons_of_mem _ hq) hes hds)
      (fun q hq => by
        have : ¬ kcmp ik (it.key e) q.1 = 0 := kcmp_ne_of_lt ik (kcmp_lt_of_eq_of_lt ik heq' (hds q hq))
        rw [hin q (List.mem_cons_of_mem _ hq), inInput_cons, decide_eq_false this]; rfl)
      (fun x hx => by
        rw [hget x (List.mem_cons_of_mem _ hx), get_cons, if_neg (kcmp_ne_symm_of_lt ik (hes x hx))])
  · intro e es D hes hD ih done hb hin hget
    have hstep : mergeStepP ik it mg db0 (done ++ cleaned cl inp D) e
        = (done ++ optOut (it.key e) (setNew (mg e []))) ++ cleaned cl inp D := by
      unfold mergeStepP
      rw [hget e (List.mem_cons_self ..), get_none_of_lt hD]
      refine applyOpt_mid_lt _ _ (fun p hp => (hb p hp).1 e (List.mem_cons_self ..)) fun p hp => ?_
      obtain ⟨q, hq, hpq⟩ := cleaned_keys p hp
      rw [hpq]; exact hD q hq
    rw [List.foldl_cons, hstep, joinOut_insert es hD, ← List.append_assoc]
    exact ih _ (below_append hb (fun _ he => List.mem_cons_of_mem _ he) (fun _ hq => hq) hes hD)
      (fun q hq => by
        have : ¬ kcmp ik (it.key e) q.1 = 0 := kcmp_ne_of_lt ik (hD q hq)
        rw [hin q hq, inInput_cons, decide_eq_false this]; rfl)
      (fun x hx => hget x (List.mem_cons_of_mem _ hx))

/-- on a sorted DBI and a sorted input the specification of IterUpdate is the merge-join output
    (both orders; a put on a stored key keeps the stored key bytes on both sides) -/
theorem specIterUpdate_eq {ik : Bool} {it : Iter E ε} {db : KVs} {input : List E}
    (L : LocalTotal ik it mg cl input db) (hS : ISorted ik it input) (hD : Sorted ik db) :
    specIterUpdate ik it db input = .ok (joinOut ik it mg cl input db) := by
  have h1 := clean_phase (ik := ik) cl (inInput ik it input) db hD [] (fun _ hp => nomatch hp)
  have h2 := merge_phase (ik := ik) (it := it) mg cl (inInput ik it input) db input db hS hD []
    (fun _ hp => nomatch hp) (fun _ _ => rfl) (fun _ _ => rfl)
  simp only [List.nil_append] at h1 h2
  rw [specIterUpdate_total L, h1, h2]

/-! ### IterUpdate, assembled -/

theorem iterUpdate_main {ik : Bool} {it : Iter E ε} (db : KVs) (d : Bool) (input : List E)
    (L : LocalTotal ik it mg cl input db) (hS : ISorted ik it input) (hK : KeysOK it input)
    (hD : Sorted ik db) (hDK : DKeysOK db) :
    ∃ d', iterUpdate ik it ⟨db, d⟩ input = .ok ⟨joinOut ik it mg cl input db, d'⟩ ∧
      specIterUpdate ik it db input = .ok (joinOut ik it mg cl input db) := by
  obtain ⟨d', h⟩ := runPlan_out mg cl input db hS hD
    (fun a ha => ⟨L.decision hS hD a ha, plan_key_ok hK hDK a ha⟩) [] d (fun _ hp => nomatch hp)
  exact ⟨d', by rw [iterUpdate_plan ik it _ input hS hK]; exact h, specIterUpdate_eq L hS hD⟩

/-- the no-op hypothesis on merge decisions: for a stored key the decision is the stored (non-empty)
    value and the preliminary `Merge(nil)` call does not fail; for an absent key the decision is
    nil or empty -/
def MergeNoop (ik : Bool) (it : Iter E ε) (db : KVs) (e : E) : Prop :=
  match get ik db (it.key e) with
  | some dv => dv ≠ [] ∧ it.merge e dv = .ok (some dv) ∧ ∃ r, it.merge e [] = .ok r
  | none => ∃ r, it.merge e [] = .ok r ∧ setNew r = none

theorem iterUpdate_noop {ik : Bool} {it : Iter E ε} (db : KVs) (d : Bool) (input : List E)
    (hS : ISorted ik it input) (hK : KeysOK it input) (hD : Sorted ik db)
    (hM : ∀ e ∈ input, MergeNoop ik it db e)
    (hC : ∀ p ∈ db, inInput ik it input p.1 = false → it.clean p.2 = .ok (some p.2)) :
    iterUpdate ik it ⟨db, d⟩ input = .ok ⟨db, d⟩ := by
  rw [iterUpdate_plan ik it _ input hS hK]
  refine foldlM_fix fun a ha => runAct_noop _ ?_
  have h := plan_mem input db hS hD a ha
  match a with
  | .clean dk dv => exact hC (dk, dv) h.1 h.2
  | .insert e =>
    have hm := hM e h.1
    unfold MergeNoop at hm
    rw [h.2] at hm
    obtain ⟨r, hr, hn⟩ := hm
    simp only [Act.decision, hr]
    exact congrArg Except.ok hn
  | .both e dk dv =>
    have hm := hM e h.1
    unfold MergeNoop at hm
    rw [h.get_both hD] at hm
    obtain ⟨hne, h1, r, h2⟩ := hm
    have hl : ¬ dv.length = 0 := fun h => hne (List.length_eq_zero_iff.mp h)
    simp only [Act.decision, h1, h2]
    show Except.ok (setNew (some dv)) = _
    simp only [setNew, hl, if_false]; rfl

/-- with sorted input and valid keys (input and stored) the only failure of IterUpdate is an
    error returned by the iterator: never `notSorted`, `badKey`, `hang` or `panic` -/
theorem iterUpdate_err {ik : Bool} {it : Iter E ε} (s : S) (input : List E)
    (hS : ISorted ik it input) (hK : KeysOK it input) (hDK : DKeysOK s.db) :
    ∀ err, iterUpdate ik it s input = .error err → ∃ y, err = .iter y := by
  intro err h
  rw [iterUpdate_plan ik it s input hS hK] at h
  obtain ⟨a, ha, _, h1⟩ := foldlM_error_mem h
  exact runAct_err (plan_key_ok hK hDK a ha) h1

/-! ### unsorted input -/

/-- if the keys still to be checked (the last one consumed, then the remaining input) are not
    strictly increasing, `iterBoth` reports it: none of the callbacks run before fails (decisions
    total, keys valid) -/
theorem iuLoop_unsorted {ik : Bool} {it : Iter E ε} (T : Total it mg cl) : ∀ (fuel : Nat) (prev : Option Bytes)
    (I : List E) (D : KVs) (s : S), KeysOK it I → DKeysOK D →
    ¬ (prev.toList ++ I.map it.key).Pairwise (fun a b => kcmp ik a b < 0) →
    I.length + D.length < fuel →
    iuLoop ik it fuel prev none I none D s = .error .notSorted := by
  intro fuel
  induction fuel with
  | zero => intro _ _ _ _ _ _ _ hf; omega
  | succ fuel ih =>
    intro prev I D s hK hDK hU hF
    match I with
    | [] => exact absurd (by cases prev <;> simp) hU
    | x :: xs =>
      by_cases h1 : (prev.isSome ∨ (it.key x).length = 0) ∧ kcmp ik (prev.getD []) (it.key x) ≥ 0
      · rw [iuLoop_itfetch, if_pos h1]
      · have hkx := hK x (List.mem_cons_self ..)
        have hbk := keysOK_badKey hK (List.mem_cons_self ..)
        have hK' : KeysOK it xs := fun y hy => hK y (List.mem_cons_of_mem _ hy)
        have hpx : ∀ p, prev = some p → kcmp ik p (it.key x) < 0 := fun p hp => by
          subst hp
          have : ¬ kcmp ik p (it.key x) ≥ 0 := fun hge => h1 ⟨Or.inl rfl, hge⟩
          omega
        -- the check passed, so the disorder is behind `x`
        have hU' : ¬ ((some (it.key x)).toList ++ xs.map it.key).Pairwise (fun a b => kcmp ik a b < 0) := by
          intro hs
          apply hU
          cases prev with
          | none => exact hs
          | some p =>
            refine List.pairwise_cons.mpr ⟨fun c hc => ?_, hs⟩
            rcases List.mem_cons.mp hc with rfl | hc
            · exact hpx p rfl
            · exact kcmp_lt_trans ik (hpx p rfl) ((List.pairwise_cons.mp hs).1 c hc)
        simp only [List.length_cons] at hF
        match D with
        | [] =>
          obtain ⟨s', hs'⟩ := runAct_total (ik := ik) T s (.insert x) hbk
          rw [iuLoop_cons_nil hpx hkx, hs']
          exact ih _ xs [] s' hK' hDK hU' (by simp only [List.length_nil]; omega)
        | (dk, dv) :: ds =>
          simp only [List.length_cons] at hF
          have hDK' : DKeysOK ds := fun q hq => hDK q (List.mem_cons_of_mem _ hq)
          rw [iuLoop_cons_cons hpx hkx]
          split
          · obtain ⟨s', hs'⟩ := runAct_total (ik := ik) T s (.clean dk dv) (hDK (dk, dv) (List.mem_cons_self ..))
            rw [hs']
            exact ih prev (x :: xs) ds s' hK hDK' hU (by simp only [List.length_cons]; omega)
          · split
            · obtain ⟨s', hs'⟩ := runAct_total (ik := ik) T s (.both x dk dv) hbk
              rw [hs']
              exact ih _ xs ds s' hK' hDK' hU' (by omega)
            · obtain ⟨s', hs'⟩ := runAct_total (ik := ik) T s (.insert x) hbk
              rw [hs']
              exact ih _ xs ((dk, dv) :: ds) s' hK' hDK hU' (by simp only [List.length_cons]; omega)

theorem iterUpdate_unsorted {ik : Bool} {it : Iter E ε} (T : Total it mg cl) (s : S) (input : List E)
    (hK : KeysOK it input) (hDK : DKeysOK s.db) (hU : ¬ ISorted ik it input) :
    iterUpdate ik it s input = .error .notSorted :=
  iuLoop_unsorted T _ none input s.db s hK hDK
    (fun h => hU (by simpa [ISorted, List.pairwise_map] using h)) (by omega)

end Ls.Strategy
