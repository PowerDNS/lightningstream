import LsLemmas.CleanerHist
/-
  A concrete two-snapshot history used by the witnesses of C12 (satisfiability of the hypotheses, and the
  backwards-clock counterexample): that it meets the hypotheses, and what the model does on it.
-/
namespace Ls.Cleaner

/-- two snapshots of instance `a`: "S" (timestamp 10) and the newer "N" (timestamp 20); the kind
    `"snapshot"` is the value of `Gen.kindSnapshot` -/
def wparse : Parse := fun n =>
  if n = "S" then some ⟨"snapshot", "a", 10⟩
  else if n = "N" then some ⟨"snapshot", "a", 20⟩ else none

def wcfg : Cfg := { enabled := true, mustKeep := 30, removeOld := 1000000, pfx := "" }

/-- `List.mergeSort` is defined by well-founded recursion: `decide`, `decide +kernel` and `simp` all get
    stuck on it, so the sorted list is given by hand and the runs below are evaluated by `simp` -/
theorem wsort : ([⟨"N", "a", 20⟩, ⟨"S", "a", 10⟩] : List Cand).mergeSort newerEq
    = [⟨"N", "a", 20⟩, ⟨"S", "a", 10⟩] :=
  List.mergeSort_of_pairwise (by simp [newerEq])

section runs
attribute [local simp] exec step runOnce wcfg candidates candOf wparse Gen.kindSnapshot St.init stage1
  stage2 toDelete gcFirstSeen sortCands filter1 filter2 look newIgnored wsort

/-- "S" first listed at 100, "N" at 50 (the clock went back): at 120 "S" counts as recent and marks the
    instance, the newest "N" does not and is deleted -/
theorem wrun_clock_back :
    (runOnce wparse wcfg (exec wparse wcfg [Ev.run 100 (some ["S"]) (fun _ => false),
      Ev.run 50 (some ["N", "S"]) (fun _ => false)]) 120 (some ["N", "S"]) (fun _ => false)).2.delCalls
      = ["N"] := by
  simp

/-- "S" first listed at 100, "N" at 110: at 200 both are past the keep interval and the superseded "S" goes -/
theorem wrun_monotone :
    (runOnce wparse wcfg (exec wparse wcfg [Ev.run 100 (some ["S"]) (fun _ => false),
      Ev.run 110 (some ["N", "S"]) (fun _ => false)]) 200 (some ["N", "S"]) (fun _ => false)).2.deleted
      = ["S"] := by
  simp

theorem wrun_nothing_committed (t1 t2 : Int) :
    getCommitted (exec wparse wcfg [Ev.run t1 (some ["S"]) (fun _ => false),
      Ev.run t2 (some ["N", "S"]) (fun _ => false)]) "a" = none := by
  simp [getCommitted]

end runs

theorem wsnap {n : String} {i : Info} (h : IsSnap wparse n i) :
    (n = "S" ∧ i = ⟨"snapshot", "a", 10⟩) ∨ (n = "N" ∧ i = ⟨"snapshot", "a", 20⟩) := by
  have h1 := h.1
  unfold wparse at h1
  split at h1
  · next hS => cases h1; exact Or.inl ⟨hS, rfl⟩
  · split at h1
    · next hN => cases h1; exact Or.inr ⟨hN, rfl⟩
    · cases h1

theorem wdistinct : DistinctTimes wparse ["N", "S"] := by
  unfold DistinctTimes
  simp only [List.pairwise_cons, List.mem_cons, List.mem_nil_iff, or_false, forall_eq,
    List.Pairwise.nil, and_true, false_imp_iff, implies_true]
  intro i j hi hj _
  rcases wsnap hi with ⟨h, rfl⟩ | ⟨_, rfl⟩
  · simp at h
  · rcases wsnap hj with ⟨_, rfl⟩ | ⟨h, rfl⟩
    · simp
    · simp at h

theorem wnewest : Newest wparse ["N", "S"] "N" ⟨"snapshot", "a", 20⟩ := by
  refine ⟨⟨by simp [wparse], rfl⟩, ?_⟩
  intro m j _ hne hs _
  rcases wsnap hs with ⟨_, rfl⟩ | ⟨h, rfl⟩
  · simp
  · exact absurd h hne

/-- "S" is listed first, then "N" appears next to it -/
theorem worder (t1 t2 t3 : Int) :
    AppearInOrder wparse ([Ev.run t1 (some ["S"]) (fun _ => false),
      Ev.run t2 (some ["N", "S"]) (fun _ => false)] ++ [Ev.run t3 (some ["N", "S"]) (fun _ => false)]) := by
  have h1 : AppearInOrder wparse ([] ++ [Ev.run t1 (some ["S"]) (fun _ => false)]) := by
    refine AppearInOrder.nil.snoc ?_
    rintro _ _ _ ⟨⟩ a b i j _ _ _ _ _ _ hb
    simp [since] at hb
  have h2 : AppearInOrder wparse
      (([] ++ [Ev.run t1 (some ["S"]) (fun _ => false)]) ++ [Ev.run t2 (some ["N", "S"]) (fun _ => false)]) := by
    refine h1.snoc ?_
    rintro _ _ _ ⟨⟩ a b i j _ _ hsa hsb _ hna hnb
    rcases wsnap hsa with ⟨rfl, rfl⟩ | ⟨rfl, rfl⟩
    · simp [since, sinceStep] at hna
    · rcases wsnap hsb with ⟨rfl, rfl⟩ | ⟨rfl, rfl⟩
      · simp
      · simp [since, sinceStep] at hnb
  refine h2.snoc ?_
  rintro _ _ _ ⟨⟩ a b i j _ _ hsa hsb _ hna _
  rcases wsnap hsa with ⟨rfl, rfl⟩ | ⟨rfl, rfl⟩ <;> simp [since, sinceStep] at hna

end Ls.Cleaner
