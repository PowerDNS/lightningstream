import LsLemmas.TxnDbis
import LsLemmas.TxnSend
import LsLemmas.MergeRefine
import LsLemmas.Strategy
/-
  `Txn.loadDbi` as DBI creation followed by the gated merge (`loadDbi_eq`), `Txn.loadOnce` as its
  three phases (`loadOnce_eq`, `loadOnce_ok`), and the lookup table after each (C18, C01).
-/
namespace Ls.Txn
open Ls Ls.Lmdb Ls.Strategy Ls.Merge

/-- the duplicate-keys bit is below 2^64: the `uint` conversion does not affect it -/
theorem isDupSort_mod (n : Nat) : isDupSort (n % 2 ^ 64) = isDupSort n := by
  unfold isDupSort
  rw [← Nat.and_two_pow_sub_one_eq_mod, Nat.and_assoc]
  have : (2 ^ 64 - 1) &&& Gen.dbiDupSort = Gen.dbiDupSort := by decide
  rw [this]

/-- the decision of `ValidateTransform`: supported transform, none for a native schema, and from
    format version 3 on the duplicate-keys flag exactly with `dupsort_hack_v1` -/
theorem validateTransform_iff (m : DbiMsg) (fv : Nat) (native : Bool) :
    validateTransform m fv native = true ↔
      (m.transform = [] ∨ m.transform = strBytes Gen.transformDupSortHackV1) ∧
      (native = true → m.transform = []) ∧
      (fv ≥ 3 → (isDupSort m.flags = true ↔ m.transform = strBytes Gen.transformDupSortHackV1)) := by
  have no : ∀ {p : Prop}, ¬ p → ((false = true) ↔ p) := fun hp => ⟨(nomatch ·), fun h => absurd h hp⟩
  have yes : ∀ {p : Prop}, p → ((true = true) ↔ p) := fun hp => ⟨fun _ => hp, fun _ => rfl⟩
  unfold validateTransform
  simp only [isDupSort_mod, transformSupported, Bool.or_eq_true, decide_eq_true_eq]
  -- one `if` of the definition after the other; each refusing branch contradicts one conjunct
  split
  next hS => exact no fun h => hS h.1
  rename_i hS
  split
  next hN => exact no fun h => hN.2 (h.2.1 hN.1)
  rename_i hN
  have hS := Classical.not_not.mp hS
  have hN : native = true → m.transform = [] := fun hn => Classical.not_not.mp fun ht => hN ⟨hn, ht⟩
  split
  case isFalse hV => exact yes ⟨hS, hN, fun h => absurd h hV⟩
  rename_i hV
  split
  next h => exact no fun h' => h.2 ((h'.2.2 hV).mp h.1)
  rename_i h1
  split
  next h => exact no fun h' => h.1 ((h'.2.2 hV).mpr h.2)
  rename_i h2
  exact yes ⟨hS, hN, fun _ => ⟨fun hD => Classical.not_not.mp fun hH => h1 ⟨hD, hH⟩,
    fun hH => Classical.not_not.mp fun hD => h2 ⟨hD, hH⟩⟩⟩

/-- the DBI a message is merged into -/
def targetName (c : Cfg) (m : DbiMsg) : Bytes := if c.native then m.name else shadowName m.name

/-- phase 1 of `loadDbi`: make sure the application DBI and the merge target exist -/
def createDbis (c : Cfg) (snap : Snap) (w : W) (m : DbiMsg) : Except Err W :=
  if c.native then .ok (openCreate w m.name (createFlags c m))
  else match findDbi w.dbis m.name with
    | some _ =>
      .ok (openCreate w (shadowName m.name) (createFlags c m &&& Gen.allowedShadowDBIFlagsMask))
    | none =>
      if snap.fv < 3 ∧ (ovrOf c m).isNone = true then .error .createUnsafe
      else .ok (openCreate (openCreate w m.name (createFlags c m)) (shadowName m.name)
                  (createFlags c m &&& Gen.allowedShadowDBIFlagsMask))

/-- phase 2 of `loadDbi`: the version gate of `NewNativeIterator`, then `strategy.Update` -/
def mergeDbi (c : Cfg) (snap : Snap) (txnID cutoff : Nat) (w : W) (m : DbiMsg) : Except Err W :=
  match findDbi w.dbis (targetName c m) with
  | none => .error .dbiMissing
  | some td =>
    if versionOk snap.fv snap.cv = false then .error .version
    else runOn w (targetName c m) fun s =>
      mapStratErr (update (isIntKey td.flags)
        (nativeIter { fv := snap.fv, defTs := 0, txn := txnID, cutoff := cutoff, pad := c.pad })
        s m.entries)

/-- `loadDbi` = private skip, transform check, DBI creation, version gate, merge -/
theorem loadDbi_eq (c : Cfg) (snap : Snap) (txnID cutoff : Nat) (w : W) (m : DbiMsg) :
    loadDbi c snap txnID cutoff w m =
      if isPrivate m.name = true then .ok w
      else if validateTransform m snap.fv c.native = false then .error .transform
      else match createDbis c snap w m with
        | .error err => .error err
        | .ok w1 => mergeDbi c snap txnID cutoff w1 m := by
  -- The model opens a DBI only where the lookup finds none; `openCreate` on an existing DBI is the
  -- identity (`openCreate_of_some`), so each such `match` is `openCreate`, and what follows it is
  -- `mergeDbi` of the opened state. This is shown lookup by lookup, because the `match` inside
  -- `loadDbi` is a matcher constant of LsModel/Txn.lean that no rewriting lemma stated here can
  -- mention: hence the `generalize` of the opened states and the override lookup written out in `hcu`.
  unfold loadDbi
  by_cases hp : isPrivate m.name = true
  · simp [hp]; rfl
  · by_cases hv : validateTransform m snap.fv c.native = true
    · simp only [hp, hv, if_false, not_true_eq_false, Bool.true_eq_false]
      unfold createDbis mergeDbi targetName createFlags ovrOf
      cases hn : c.native
      · simp only [Bool.false_eq_true, if_false, bind, Except.bind, pure, Except.pure]
        cases hf : findDbi w.dbis m.name with
        | some d =>
          simp only
          cases hs : findDbi w.dbis (shadowName m.name) with
          | some sd =>
            simp only [openCreate_of_some hs, hs]
            cases versionOk snap.fv snap.cv <;> rfl
          | none =>
            simp only
            generalize openCreate w (shadowName m.name) _ = w1
            cases findDbi w1.dbis (shadowName m.name) with
            | none => rfl
            | some td => cases versionOk snap.fv snap.cv <;> rfl
        | none =>
          simp only
          by_cases hcu : snap.fv < 3 ∧
              (Option.map (fun x => x.snd) (List.find? (fun x => decide (x.fst = m.name)) c.override)).isNone = true
          · simp only [hcu, and_self, if_true]; rfl
          · simp only [hcu, if_false]
            generalize openCreate w m.name _ = w0
            cases hs : findDbi w0.dbis (shadowName m.name) with
            | some sd =>
              simp only [openCreate_of_some hs, hs]
              cases versionOk snap.fv snap.cv <;> rfl
            | none =>
              simp only
              generalize openCreate w0 (shadowName m.name) _ = w1
              cases findDbi w1.dbis (shadowName m.name) with
              | none => rfl
              | some td => cases versionOk snap.fv snap.cv <;> rfl
      · simp only [if_true, bind, Except.bind, pure, Except.pure]
        cases hs : findDbi w.dbis m.name with
        | some sd =>
          simp only [openCreate_of_some hs, hs]
          cases versionOk snap.fv snap.cv <;> rfl
        | none =>
          simp only
          generalize openCreate w m.name _ = w1
          cases findDbi w1.dbis m.name with
          | none => rfl
          | some td => cases versionOk snap.fv snap.cv <;> rfl
    · simp only [Bool.not_eq_true] at hv
      simp [hp, hv]; rfl

/-- a new, empty DBI -/
def newDbi (name : Bytes) (flags : Nat) : Dbi := { name := name, flags := flags, kvs := [] }

/-- the flags a missing shadow DBI is created with -/
def shadowCreateFlags (c : Cfg) (m : DbiMsg) : Nat := createFlags c m &&& Gen.allowedShadowDBIFlagsMask

/-- is creating the application DBI refused? (shadow mode, DBI missing, pre-v3 snapshot, no override) -/
def createRefused (c : Cfg) (snap : Snap) (w : W) (m : DbiMsg) : Prop :=
  c.native = false ∧ findDbi w.dbis m.name = none ∧ snap.fv < 3 ∧ ovrOf c m = none

/-- `createDbis` in one line per mode -/
theorem createDbis_eq (c : Cfg) (snap : Snap) (w : W) (m : DbiMsg) :
    createDbis c snap w m =
      if c.native = true then .ok (openCreate w m.name (createFlags c m))
      else if findDbi w.dbis m.name = none ∧ snap.fv < 3 ∧ ovrOf c m = none then .error .createUnsafe
      else .ok (openCreate (openCreate w m.name (createFlags c m)) (shadowName m.name)
                  (shadowCreateFlags c m)) := by
  unfold createDbis shadowCreateFlags
  cases hn : c.native
  · simp only [Bool.false_eq_true, if_false]
    cases hf : findDbi w.dbis m.name with
    | some d => simp only [openCreate_of_some hf]; simp
    | none =>
      simp only [true_and, Option.isNone_iff_eq_none]
  · simp

theorem mergeDbi_ok {c : Cfg} {snap : Snap} {txnID cutoff : Nat} {w w' : W} {m : DbiMsg}
    (h : mergeDbi c snap txnID cutoff w m = .ok w') :
    versionOk snap.fv snap.cv = true ∧
    ∃ td s, findDbi w.dbis (targetName c m) = some td ∧
      mapStratErr (update (isIntKey td.flags)
        (nativeIter { fv := snap.fv, defTs := 0, txn := txnID, cutoff := cutoff, pad := c.pad })
        { db := td.kvs, dirty := w.dirty } m.entries) = .ok s ∧
      w' = { dbis := setKvs w.dbis (targetName c m) s.db, dirty := s.dirty } := by
  unfold mergeDbi at h
  split at h
  · cases h
  · rename_i td htd
    split at h
    · cases h
    · rename_i hv
      obtain ⟨d, s, hd, hs, hw⟩ := runOn_ok h
      rw [htd] at hd; injection hd with hd; subst hd
      exact ⟨by simpa using hv, td, s, htd, hs, hw⟩

theorem loadDbi_ok {c : Cfg} {snap : Snap} {txnID cutoff : Nat} {w w' : W} {m : DbiMsg}
    (hp : isPrivate m.name = false) (h : loadDbi c snap txnID cutoff w m = .ok w') :
    validateTransform m snap.fv c.native = true ∧
    ∃ w1, createDbis c snap w m = .ok w1 ∧ mergeDbi c snap txnID cutoff w1 m = .ok w' := by
  rw [loadDbi_eq] at h
  simp only [hp, Bool.false_eq_true, if_false] at h
  split at h
  · cases h
  · rename_i hv
    split at h
    · cases h
    · rename_i w1 hw1
      exact ⟨by simpa using hv, w1, hw1, h⟩

theorem createDbis_sorted {c : Cfg} {snap : Snap} {w w1 : W} {m : DbiMsg}
    (hs : SortedNames w.dbis) (h : createDbis c snap w m = .ok w1) : SortedNames w1.dbis := by
  rw [createDbis_eq] at h
  split at h
  · cases h; exact sortedNames_openCreate _ _ hs
  · split at h
    · cases h
    · cases h; exact sortedNames_openCreate _ _ (sortedNames_openCreate _ _ hs)

theorem createDbis_mono {c : Cfg} {snap : Snap} {w w1 : W} {m : DbiMsg}
    (h : createDbis c snap w m = .ok w1) {n : Bytes} {d : Dbi} (hd : findDbi w.dbis n = some d) :
    findDbi w1.dbis n = some d := by
  rw [createDbis_eq] at h
  split at h
  · cases h; exact findDbi_openCreate_of_some hd _ _
  · split at h
    · cases h
    · cases h; exact findDbi_openCreate_of_some (findDbi_openCreate_of_some hd _ _) _ _

theorem loadDbi_sorted {c : Cfg} {snap : Snap} {txnID cutoff : Nat} {w w' : W} {m : DbiMsg}
    (hs : SortedNames w.dbis) (h : loadDbi c snap txnID cutoff w m = .ok w') :
    SortedNames w'.dbis := by
  cases hp : isPrivate m.name with
  | true => rw [loadDbi_private hp] at h; injection h with h; subst h; exact hs
  | false =>
    obtain ⟨_, w1, h1, h2⟩ := loadDbi_ok hp h
    obtain ⟨_, td, s, _, _, rfl⟩ := mergeDbi_ok h2
    exact sortedNames_setKvs _ _ (createDbis_sorted hs h1)

theorem loadFold_private {c : Cfg} {snap : Snap} {txnID cutoff : Nat} :
    ∀ (dbs : List DbiMsg) (w : W), (∀ m ∈ dbs, isPrivate m.name = true) →
      dbs.foldlM (loadDbi c snap txnID cutoff) w = .ok w :=
  fun _ _ h => foldlM_fix fun m hm => loadDbi_private (h m hm)

theorem loadFold_sorted {c : Cfg} {snap : Snap} {txnID cutoff : Nat} {dbs : List DbiMsg} {w w' : W}
    (hs : SortedNames w.dbis) (h : dbs.foldlM (loadDbi c snap txnID cutoff) w = .ok w') :
    SortedNames w'.dbis :=
  foldlM_inv (fun w => SortedNames w.dbis) (fun _ _ _ _ hb hf => loadDbi_sorted hb hf) hs h

/-- the state the snapshot is merged into: after `mainToShadow` when the schema is not native
    and the application has written since the last sync, else the environment as it is -/
def preLoad (c : Cfg) (e : Env) (lastSynced now cutoff : Nat) : Except Err W :=
  if c.native = false ∧ lastSynced < e.lastTxn then
    mainToShadow c { dbis := e.dbis, dirty := false } (e.lastTxn + 1) now cutoff
  else .ok { dbis := e.dbis, dirty := false }

/-- the step after the merge -/
def postLoad (c : Cfg) (w : W) : Except Err W := if c.native then .ok w else shadowToMain c w

/-- `loadOnce` as its three phases and the commit -/
theorem loadOnce_eq (c : Cfg) (e : Env) (snap : Snap) (lastSynced now cutoff : Nat) :
    loadOnce c e snap lastSynced now cutoff =
      preLoad c e lastSynced now cutoff >>= fun w0 =>
      snap.dbs.foldlM (loadDbi c snap (e.lastTxn + 1) cutoff) w0 >>= fun w1 =>
      postLoad c w1 >>= fun w2 =>
      pure { env := commit e w2, txnID := (commit e w2).lastTxn,
             localChanged := decide (lastSynced < e.lastTxn) } := by
  unfold loadOnce preLoad postLoad
  simp only [Nat.add_sub_cancel, commit_lastTxn_min]
  cases c.native
  · simp only [Bool.false_eq_true, not_false_eq_true, true_and, if_true, if_false]
    split <;> rfl
  · simp only [not_true_eq_false, false_and, if_false, Bool.true_eq_false, if_true]
    rfl

theorem loadOnce_ok {c : Cfg} {e : Env} {snap : Snap} {lastSynced now cutoff : Nat} {r : LoadRes} :
    loadOnce c e snap lastSynced now cutoff = .ok r ↔
      ∃ w0 w1 w2, preLoad c e lastSynced now cutoff = .ok w0 ∧
        snap.dbs.foldlM (loadDbi c snap (e.lastTxn + 1) cutoff) w0 = .ok w1 ∧
        postLoad c w1 = .ok w2 ∧
        r = { env := commit e w2, txnID := (commit e w2).lastTxn,
              localChanged := decide (lastSynced < e.lastTxn) } := by
  rw [loadOnce_eq]
  constructor
  · intro h
    obtain ⟨w0, h0, h⟩ := except_bind_ok h
    obtain ⟨w1, h1, h⟩ := except_bind_ok h
    obtain ⟨w2, h2, h⟩ := except_bind_ok h
    cases h
    exact ⟨w0, w1, w2, h0, h1, h2, rfl⟩
  · rintro ⟨w0, w1, w2, h0, h1, h2, rfl⟩
    simp only [h0, h1, h2, bind, Except.bind]
    rfl

theorem createDbis_lookup {c : Cfg} {snap : Snap} {w w1 : W} {m : DbiMsg}
    (h : createDbis c snap w m = .ok w1) (n : Bytes) :
    findDbi w1.dbis n =
      if c.native = true then
        (if n = m.name then some ((findDbi w.dbis m.name).getD (newDbi m.name (createFlags c m)))
         else findDbi w.dbis n)
      else
        (if n = shadowName m.name then
           some ((findDbi w.dbis (shadowName m.name)).getD
             (newDbi (shadowName m.name) (shadowCreateFlags c m)))
         else if n = m.name then some ((findDbi w.dbis m.name).getD (newDbi m.name (createFlags c m)))
         else findDbi w.dbis n) := by
  rw [createDbis_eq] at h
  cases hn : c.native
  · simp only [hn, Bool.false_eq_true, if_false] at h ⊢
    split at h
    · cases h
    · injection h with h; subst h
      rw [findDbi_openCreate]
      by_cases h1 : n = shadowName m.name
      · subst h1
        simp only [if_true]
        rw [findDbi_openCreate, if_neg (shadowName_ne m.name)]
        rfl
      · simp only [h1, if_false]
        rw [findDbi_openCreate]
        rfl
  · simp only [hn, if_true] at h ⊢
    injection h with h; subst h
    exact findDbi_openCreate _ _ _ _

/-- the merge target exists after phase 1 -/
theorem createDbis_target {c : Cfg} {snap : Snap} {w w1 : W} {m : DbiMsg}
    (h : createDbis c snap w m = .ok w1) : ∃ td, findDbi w1.dbis (targetName c m) = some td := by
  rw [createDbis_lookup h]
  unfold targetName
  cases c.native <;> simp

/-- the version gate sits after the lookup of the target: a refused version pair fails phase 2 -/
theorem mergeDbi_version_refused {c : Cfg} {snap : Snap} {txnID cutoff : Nat} {w : W} {m : DbiMsg}
    {td : Dbi} (htd : findDbi w.dbis (targetName c m) = some td)
    (hver : versionOk snap.fv snap.cv = false) :
    mergeDbi c snap txnID cutoff w m = .error .version := by
  unfold mergeDbi
  rw [htd]
  simp only [hver, if_true]

end Ls.Txn
