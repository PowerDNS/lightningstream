import LsLemmas.TxnMirror
/-
  `mainToShadow`: the capture of application changes into the shadow DBI.
-/
namespace Ls.Txn
open Ls Ls.Lmdb Ls.Strategy Ls.Merge

/-- the iterator configuration of the capture pass -/
def captureCfg (txnID now cutoff : Nat) : Merge.Cfg :=
  { fv := Gen.currentFormatVersion, defTs := now, txn := txnID, cutoff := cutoff, pad := false }

/-- the shadow DBI the capture pass works on: the existing one, or a new empty one carrying only
    the flags allowed for shadow DBIs (MDB_INTEGERKEY) -/
def shadowOf (w : W) (name : Bytes) (d : Dbi) : Dbi :=
  (findDbi w.dbis (shadowName name)).getD
    { name := shadowName name, flags := d.flags &&& Gen.allowedShadowDBIFlagsMask, kvs := [] }

theorem shadowOf_congr {w w1 : W} {n : Bytes} (d : Dbi)
    (h : findDbi w1.dbis (shadowName n) = findDbi w.dbis (shadowName n)) : shadowOf w1 n d = shadowOf w n d := by
  unfold shadowOf; rw [h]

theorem shadowOf_isIntKey_new {w : W} {n : Bytes} {d : Dbi} (h : findDbi w.dbis (shadowName n) = none) :
    isIntKey (shadowOf w n d).flags = isIntKey d.flags ∧ (shadowOf w n d).kvs = [] := by
  unfold shadowOf; rw [h]; exact ⟨isIntKey_mask d.flags, rfl⟩

theorem shadowOf_of_some {w : W} {n : Bytes} {d sd : Dbi} (h : findDbi w.dbis (shadowName n) = some sd) :
    shadowOf w n d = sd := by
  unfold shadowOf; rw [h]; rfl

theorem m2sStep_private {c : Cfg} {txnID now cutoff : Nat} {w : W} {name : Bytes} (h : isPrivate name = true) :
    m2sStep c txnID now cutoff w name = .ok w := by
  unfold m2sStep; rw [if_pos h]; rfl

/-- shape of a successful capture step on an application DBI: its raw entries (encoded, under the
    dupsort hack) go through `IterUpdate` into its shadow, which is created when missing -/
theorem m2sStep_ok {c : Cfg} {txnID now cutoff : Nat} {w w' : W} {name : Bytes}
    (hp : isPrivate name = false) (h : m2sStep c txnID now cutoff w name = .ok w') :
    ∃ d entries d0 s, findDbi w.dbis name = some d ∧
      (if c.hack = true ∧ isDupSort d.flags = true
        then DupSort.encodeAll (rawEntries d.kvs) = .ok entries else entries = rawEntries d.kvs) ∧
      iterUpdate (isIntKey (shadowOf w name d).flags) (nativeIter (captureCfg txnID now cutoff))
        ⟨(shadowOf w name d).kvs, d0⟩ entries = .ok s ∧
      w' = ⟨setKvs (openCreate w (shadowName name) (d.flags &&& Gen.allowedShadowDBIFlagsMask)).dbis
              (shadowName name) s.db, s.dirty⟩ := by
  unfold m2sStep at h
  rw [if_neg (by simp [hp])] at h
  obtain ⟨msg, hr, h⟩ := except_bind_ok h
  obtain ⟨d, o, hd, ho, hnd, hent⟩ := readDBI_entryOf_ok hr
  cases hd.symm.trans ho
  rw [mapM_entryOf_true] at hent
  have hsd := findDbi_openCreate w (shadowName name) (d.flags &&& Gen.allowedShadowDBIFlagsMask) (shadowName name)
  rw [if_pos rfl] at hsd
  simp only [hd, hnd, if_false, hsd, ← Except.ok.inj hent] at h
  have : ∃ entries, (if c.hack = true ∧ isDupSort d.flags = true
        then DupSort.encodeAll (rawEntries d.kvs) = .ok entries else entries = rawEntries d.kvs) ∧
      runOn (openCreate w (shadowName name) (d.flags &&& Gen.allowedShadowDBIFlagsMask)) (shadowName name)
        (fun s => mapStratErr (iterUpdate (isIntKey (shadowOf w name d).flags)
          (nativeIter (captureCfg txnID now cutoff)) s entries)) = .ok w' := by
    split at h
    · rename_i hh
      obtain ⟨entries, he, h⟩ := except_bind_ok h
      split at he
      · rename_i henc; cases he; exact ⟨_, by rw [if_pos hh]; exact henc, h⟩
      · cases he
    · rename_i hh
      exact ⟨_, by rw [if_neg hh], h⟩
  obtain ⟨entries, hent, hr⟩ := this
  obtain ⟨sd, s, hsd', hs, hw⟩ := runOn_ok hr
  cases hsd.symm.trans hsd'
  exact ⟨d, entries, _, s, hd, hent, mapStratErr_ok hs, hw⟩

theorem m2sStep_edits {c : Cfg} {txnID now cutoff : Nat} {w w1 : W} {m : Bytes}
    (h : m2sStep c txnID now cutoff w m = .ok w1) :
    Edits (fun x => isPrivate m = false ∧ x = shadowName m) w.dbis w1.dbis := by
  cases hp : isPrivate m with
  | true => rw [m2sStep_private hp] at h; cases h; exact .refl _
  | false =>
    obtain ⟨d, _, _, s, _, _, _, rfl⟩ := m2sStep_ok hp h
    exact .set _ _ ⟨rfl, rfl⟩ (.opened w.dirty _ _ ⟨rfl, rfl⟩ (.refl _))

/-- the entry the capture pass presents for an application value -/
def rawEntry (k v : Bytes) : KV := { key := k, val := v, ts := 0, flags := 0 }

theorem merge_key_irrel (mc : Merge.Cfg) (e : KV) (k : Bytes) (old : Bytes) :
    merge mc { e with key := k } old = merge mc e old := rfl

/-- what the capture pass decides for one key: the application has the key (value `v`) — `Merge`
    of the raw entry (timestamp 0) with the stored shadow value; the application does not have it
    — `Clean` of the stored shadow value (nothing stored: nothing written) -/
def captureSpec (mc : Merge.Cfg) (appv stored : Option Bytes) : Except Header.Err (Option Bytes) :=
  match appv with
  | some v =>
    match merge mc (rawEntry [] v) (stored.getD []) with
    | .ok r => .ok (setNew r)
    | .error e => .error e
  | none =>
    match stored with
    | none => .ok none
    | some old => clean mc old

theorem capture_get {ik : Bool} {app sh : KVs} {d0 : Bool} {s : S} (mc : Merge.Cfg)
    (hA : Sorted ik app) (hAK : DKeysOK app) (hS : Sorted ik sh) (hSK : DKeysOK sh)
    (h : iterUpdate ik (nativeIter mc) ⟨sh, d0⟩ (rawEntries app) = .ok s) :
    Sorted ik s.db ∧ DKeysOK s.db ∧
    ∀ k, captureSpec mc (get ik app k) (get ik sh k) = .ok (get ik s.db k) := by
  have hk : ∀ e, (nativeIter mc).key e = e.key := fun _ => rfl
  have hr := keyRel_raw app
  have L := localTotal_of_ok sh d0 (rawEntries app) s (hr.isorted _ hk hA) (hr.keysOK _ hk hAK) hS h
  obtain ⟨h1, h2, hpt⟩ := iterUpdate_keyRel hk hr hA hAK hS hSK L h
  refine ⟨h1, h2, fun k => ?_⟩
  rcases hpt k with ⟨ha, hg, hc⟩ | ⟨⟨ek, ev, ets, efl⟩, v, _, _, ha, ⟨rfl, rfl, rfl⟩, hg, hm⟩
  · rw [ha, hg]
    cases hs : get ik sh k with
    | none => rfl
    | some dv => exact hc dv hs
  · rw [ha, hg]
    -- `Merge` does not look at the key of the entry
    simp only [captureSpec, show merge mc (rawEntry [] ev) ((get ik sh k).getD []) = _ from hm]

/-- the bytes the capture pass writes for a new or changed application value -/
def liveBytes (now txnID : Nat) (v : Bytes) : Bytes := Header.putBasic now txnID 0 ++ v
/-- the bytes the capture pass writes for a key the application deleted -/
def markerBytes (now txnID : Nat) : Bytes := Header.putBasic now txnID (UInt8.ofNat Gen.flagDeleted)

theorem maskedFlags_raw (k v : Bytes) : maskedFlags (rawEntry k v) = 0 := by
  show Header.masked (UInt8.ofNat (0 % 256)) = 0
  decide

theorem entryDeleted_raw (txnID now cutoff : Nat) (k v : Bytes) :
    entryDeleted (captureCfg txnID now cutoff) (rawEntry k v) = false := by
  unfold entryDeleted
  rw [maskedFlags_raw]
  simp [captureCfg, Gen.currentFormatVersion, Header.isDeleted]

theorem addHeader_capture_live (txnID now cutoff : Nat) (k v : Bytes) :
    addHeader (captureCfg txnID now cutoff) (rawEntry k v).val (rawEntry k v).ts (maskedFlags (rawEntry k v))
      = liveBytes now txnID v := by
  rw [maskedFlags_raw]
  simp [addHeader, captureCfg, rawEntry, liveBytes, Gen.currentFormatVersion, Header.isDeleted]

theorem liveBytes_length (now txnID : Nat) (v : Bytes) : (liveBytes now txnID v).length ≠ 0 := by
  simp [liveBytes, Header.putBasic_length]

theorem markerBytes_length (now txnID : Nat) : (markerBytes now txnID).length ≠ 0 := by
  simp [markerBytes, Header.putBasic_length]

/-- the application value is the value behind the stored header: stored bytes untouched -/
theorem capture_unchanged (txnID now cutoff : Nat) (v old : Bytes) (hd : Header.Hdr)
    (hp : Header.parse old = .ok (hd, v)) :
    captureSpec (captureCfg txnID now cutoff) (some v) (some old) = .ok (some old) := by
  have hl := Header.parse_ok_length hp
  have hk := (merge_present (captureCfg txnID now cutoff) (rawEntry [] v) old hd v hl hp).1
    (Or.inl ⟨rfl, rfl, by rw [entryDeleted_raw]; simp⟩)
  simp only [captureSpec, Option.getD_some, hk, setNew, hl, if_false]

/-- nothing stored (or an empty stored value): new live version stamped `now` -/
theorem capture_new (txnID now cutoff : Nat) (v : Bytes) (stored : Option Bytes)
    (hs : stored.getD [] = []) :
    captureSpec (captureCfg txnID now cutoff) (some v) stored = .ok (some (liveBytes now txnID v)) := by
  simp only [captureSpec, hs]
  rw [merge_absent, maskedFlags_raw]
  have : ¬ (entryDeleted (captureCfg txnID now cutoff) (rawEntry [] v) = true ∧ (rawEntry [] v).ts < (captureCfg txnID now cutoff).cutoff) := by
    intro h; rw [entryDeleted_raw] at h; exact absurd h.1 (by decide)
  rw [if_neg this]
  have := addHeader_capture_live txnID now cutoff [] v
  rw [maskedFlags_raw] at this
  simp only [this, setNew, liveBytes_length, if_false]

/-- a different value stored with an older timestamp: new live version stamped `now` -/
theorem capture_changed (txnID now cutoff : Nat) (v old a : Bytes) (hd : Header.Hdr)
    (hp : Header.parse old = .ok (hd, a)) (hne : a ≠ v) (hts : hd.ts < now) :
    captureSpec (captureCfg txnID now cutoff) (some v) (some old) = .ok (some (liveBytes now txnID v)) := by
  have hl := Header.parse_ok_length hp
  have hnk : ¬ keep (captureCfg txnID now cutoff) (rawEntry [] v) hd a := by
    unfold keep
    simp only [rawEntry, captureCfg, if_true]
    rintro (⟨_, h, _⟩ | h | ⟨h, _⟩)
    · exact hne h
    · omega
    · omega
  have hk := (merge_present (captureCfg txnID now cutoff) (rawEntry [] v) old hd a hl hp).2 hnk
  simp only [captureSpec, Option.getD_some, hk, addHeader_capture_live, setNew, liveBytes_length, if_false]

/-- key gone from the application, live entry stored: deletion marker stamped `now` -/
theorem capture_deleted (txnID now cutoff : Nat) (old a : Bytes) (hd : Header.Hdr)
    (hp : Header.parse old = .ok (hd, a)) (hlive : Header.isDeleted hd.flags = false) :
    captureSpec (captureCfg txnID now cutoff) none (some old) = .ok (some (markerBytes now txnID)) := by
  simp only [captureSpec, clean, hp, hlive, Bool.false_eq_true, if_false]
  simp [addHeader, captureCfg, markerBytes, Gen.currentFormatVersion, Header.isDeleted, Gen.flagDeleted]

/-- key gone from the application, marker stored: untouched -/
theorem capture_marker_kept (txnID now cutoff : Nat) (old a : Bytes) (hd : Header.Hdr)
    (hp : Header.parse old = .ok (hd, a)) (hdel : Header.isDeleted hd.flags = true) :
    captureSpec (captureCfg txnID now cutoff) none (some old) = .ok (some old) := by
  simp only [captureSpec, clean, hp, hdel, if_true]

theorem parse_liveBytes (now txnID : Nat) (v : Bytes) (hn : now < two64) (ht : txnID < two64) :
    Header.parse (liveBytes now txnID v) =
      .ok ({ ts := now, txn := txnID, version := 0, flags := 0, numExtra := 0, extra := [] }, v) :=
  Header.parse_putBasic now txnID 0 v hn ht

theorem parse_markerBytes (now txnID : Nat) (hn : now < two64) (ht : txnID < two64) :
    Header.parse (markerBytes now txnID) =
      .ok ({ ts := now, txn := txnID, version := 0, flags := UInt8.ofNat Gen.flagDeleted, numExtra := 0,
             extra := [] }, []) := by
  rw [← Header.parse_putBasic now txnID _ [] hn ht, List.append_nil]; rfl

theorem decodeS_liveBytes (now txnID : Nat) (v : Bytes) (hn : now < two64) (ht : txnID < two64) :
    decodeS (liveBytes now txnID v) = .ok (some { ts := now, del := false, val := v }) := by
  unfold decodeS
  rw [if_neg (liveBytes_length now txnID v), parse_liveBytes now txnID v hn ht]
  have h0 : Header.isDeleted (0 : UInt8) = false := by decide
  simp only [h0]

theorem decodeS_markerBytes (now txnID : Nat) (hn : now < two64) (ht : txnID < two64) :
    decodeS (markerBytes now txnID) = .ok (some { ts := now, del := true, val := [] }) := by
  unfold decodeS
  rw [if_neg (markerBytes_length now txnID), parse_markerBytes now txnID hn ht]
  have h0 : Header.isDeleted (UInt8.ofNat Gen.flagDeleted) = true := by decide
  simp only [h0]

/-- the application did not change key `k` since the last capture: it holds the value behind the
    stored header; or it does not have the key and the shadow has no entry or a deletion marker -/
def Unchanged (appv stored : Option Bytes) : Prop :=
  (∃ v old hd, appv = some v ∧ stored = some old ∧ Header.parse old = .ok (hd, v)) ∨
  (appv = none ∧ stored = none) ∨
  (∃ old hd a, appv = none ∧ stored = some old ∧ Header.parse old = .ok (hd, a) ∧
    Header.isDeleted hd.flags = true)

theorem captureSpec_unchanged (txnID now cutoff : Nat) {appv stored : Option Bytes}
    (h : Unchanged appv stored) : captureSpec (captureCfg txnID now cutoff) appv stored = .ok stored := by
  rcases h with ⟨v, old, hd, rfl, rfl, hp⟩ | ⟨rfl, rfl⟩ | ⟨old, hd, a, rfl, rfl, hp, hdel⟩
  · exact capture_unchanged txnID now cutoff v old hd hp
  · rfl
  · exact capture_marker_kept txnID now cutoff old a hd hp hdel

theorem mainToShadow_edits {c : Cfg} {txnID now cutoff : Nat} {w w' : W}
    (h : mainToShadow c w txnID now cutoff = .ok w') :
    Edits (fun x => ∃ m ∈ dbiNames w, isPrivate m = false ∧ x = shadowName m) w.dbis w'.dbis :=
  foldlM_edits (f := m2sStep c txnID now cutoff) (l := dbiNames w) (fun _ _ _ => m2sStep_edits) h

/-- `mainToShadow` writes only shadow DBIs of existing application DBIs: every other name
    (application DBIs, private non-shadow DBIs, shadows of no present DBI) is looked up as before -/
theorem mainToShadow_frame {c : Cfg} {txnID now cutoff : Nat} {w w' : W}
    (h : mainToShadow c w txnID now cutoff = .ok w') :
    (DistinctNames w.dbis → DistinctNames w'.dbis) ∧
    ∀ x, (∀ m ∈ dbiNames w, isPrivate m = false → x ≠ shadowName m) →
      findDbi w'.dbis x = findDbi w.dbis x :=
  ⟨(mainToShadow_edits h).distinct,
   fun _ hx => (mainToShadow_edits h).find (fun ⟨m, hm, hp, he⟩ => hx m hm hp he)⟩

theorem mainToShadow_app_unchanged {c : Cfg} {txnID now cutoff : Nat} {w w' : W}
    (h : mainToShadow c w txnID now cutoff = .ok w') (x : Bytes) (hx : isPrivate x = false) :
    findDbi w'.dbis x = findDbi w.dbis x :=
  (mainToShadow_frame h).2 x (fun m _ _ he => by rw [he, isPrivate_shadowName] at hx; cases hx)

/-- the shadow of one application DBI after `mainToShadow` is what that DBI's own step made of the
    shadow as it was at the start -/
theorem mainToShadow_dbi {c : Cfg} {txnID now cutoff : Nat} {w w' : W} (hdist : DistinctNames w.dbis)
    (h : mainToShadow c w txnID now cutoff = .ok w') {n : Bytes} {d : Dbi}
    (hp : isPrivate n = false) (hd : findDbi w.dbis n = some d) :
    ∃ entries d0 s,
      (if c.hack = true ∧ isDupSort d.flags = true
        then DupSort.encodeAll (rawEntries d.kvs) = .ok entries else entries = rawEntries d.kvs) ∧
      iterUpdate (isIntKey (shadowOf w n d).flags) (nativeIter (captureCfg txnID now cutoff))
        ⟨(shadowOf w n d).kvs, d0⟩ entries = .ok s ∧
      findDbi w'.dbis (shadowName n) = some { shadowOf w n d with kvs := s.db } := by
  have hmem : n ∈ dbiNames w := findDbi_isSome_iff.mp (by rw [hd]; rfl)
  obtain ⟨w1, w2, hs, hfr⟩ := foldlM_isolate (f := m2sStep c txnID now cutoff)
    (fun _ _ _ => m2sStep_edits) (distinct_nodup hdist) hmem h
  have hd1 := (hfr n (fun m _ _ ⟨_, he⟩ => by rw [he, isPrivate_shadowName] at hp; cases hp)).1
  have hsd := hfr (shadowName n) (fun m _ hne ⟨_, he⟩ => hne (shadowName_inj he).symm)
  obtain ⟨d1, entries, d0, s, hd1', hent, hiu, rfl⟩ := m2sStep_ok hp hs
  cases (hd1.trans hd).symm.trans hd1'
  rw [shadowOf_congr d hsd.1] at hiu
  refine ⟨entries, d0, s, hent, hiu, ?_⟩
  rw [hsd.2, findDbi_setKvs_if, if_pos rfl, findDbi_openCreate, if_pos rfl]
  show some { (shadowOf w1 n d) with kvs := s.db } = _
  rw [shadowOf_congr d hsd.1]

/-- the shadow of an ordinary application DBI after `mainToShadow`, pointwise -/
theorem mainToShadow_nondup {c : Cfg} {txnID now cutoff : Nat} {w w' : W} (hdist : DistinctNames w.dbis)
    (h : mainToShadow c w txnID now cutoff = .ok w') {n : Bytes} {d : Dbi}
    (hp : isPrivate n = false) (hd : findDbi w.dbis n = some d) (hnd : isDupSort d.flags = false) :
    ∃ kvs', findDbi w'.dbis (shadowName n) = some { shadowOf w n d with kvs := kvs' } ∧
      (Sorted (isIntKey (shadowOf w n d).flags) d.kvs → DKeysOK d.kvs →
       Sorted (isIntKey (shadowOf w n d).flags) (shadowOf w n d).kvs → DKeysOK (shadowOf w n d).kvs →
        Sorted (isIntKey (shadowOf w n d).flags) kvs' ∧ DKeysOK kvs' ∧
        ∀ k, captureSpec (captureCfg txnID now cutoff) (get (isIntKey (shadowOf w n d).flags) d.kvs k)
            (get (isIntKey (shadowOf w n d).flags) (shadowOf w n d).kvs k)
          = .ok (get (isIntKey (shadowOf w n d).flags) kvs' k)) := by
  obtain ⟨entries, d0, s, hent, hiu, hf⟩ := mainToShadow_dbi hdist h hp hd
  rw [if_neg (by simp [hnd])] at hent
  subst hent
  exact ⟨s.db, hf, fun hA hAK hS hSK => capture_get _ hA hAK hS hSK hiu⟩

end Ls.Txn
