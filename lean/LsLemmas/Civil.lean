import LsModel.Civil
/-
  The civil-date conversion is correct for every day: `civilFromDays d` is an existing date,
  `daysFromCivil` inverts it, and later days have later dates. Only the year range 1970..2262
  needs the bound on `d` that nanosecond timestamps below 2^63 give.

  Both algorithms count years from 1 March, so that the leap day is the last day of its year,
  and split the years into eras of 400 (146097 days). `civilFromDays_spec` says what the computed
  date is in those terms; everything after it is linear arithmetic about the variables it
  introduces. Where a proof `clear`s hypotheses before `omega`, or proves a small step as a lemma
  of its own, that only keeps the problem `omega` is given small.
-/
namespace Ls.Civil

/-- yyyymmdd as a number -/
def dateNum (c : Nat × Nat × Nat) : Nat := c.1 * 10000 + c.2.1 * 100 + c.2.2

/-- days of an era before its year `n` (years counted from March, `n ≤ 399`) -/
def yearStart (n : Nat) : Nat := 365 * n + n / 4 - n / 100

theorem yearStart_add_le_of_lt {a b : Nat} (h : a < b) : yearStart a + 365 ≤ yearStart b := by
  induction b with
  | zero => exact absurd h (Nat.not_lt_zero a)
  | succ b ih =>
    have : yearStart b + 365 ≤ yearStart (b + 1) := by unfold yearStart; omega
    rcases Nat.lt_succ_iff_lt_or_eq.1 h with h | rfl
    · exact Nat.le_trans (ih h) (Nat.le_trans (Nat.le_add_right _ _) this)
    · exact this

theorem isLeap_iff (y : Nat) : isLeap y = true ↔ y % 4 = 0 ∧ (y % 100 ≠ 0 ∨ y % 400 = 0) := by
  simp [isLeap]

/-- quotient and remainder as variables with their equation, which is what `omega` is good at -/
theorem div_spec (x n : Nat) (h : 0 < n) : ∃ q r, x / n = q ∧ n * q + r = x ∧ r < n :=
  ⟨_, _, rfl, Nat.div_add_mod x n, Nat.mod_lt x h⟩

/-- A day of an era (but the last) lies in century `c`, four-year cycle `q` of the century, year
    `j` of the cycle, and is day `k` of that year; day 365 exists only in the last year of a
    cycle, and not in the last cycle of a century. -/
theorem era_split (doe : Nat) (h : doe < 146096) :
    ∃ c q j k, c ≤ 3 ∧ q ≤ 24 ∧ j ≤ 3 ∧ (k ≤ 364 ∨ k = 365 ∧ j = 3 ∧ q < 24) ∧
      doe = 36524 * c + 1461 * q + 365 * j + k ∧ doe / 36524 = c := by
  obtain ⟨c, r, ec, rfl, hr⟩ := div_spec doe 36524 (by decide)
  obtain ⟨q, s, -, rfl, hs⟩ := div_spec r 1461 (by decide)
  -- the year of the cycle is `s / 365`, except on day 1460, the leap day, which belongs to year 3
  exact ⟨c, q, min (s / 365) 3, s - 365 * min (s / 365) 3,
    by omega, by omega, Nat.min_le_right _ _, by omega, by omega, ec⟩

/-- The closed formula for the year of the era finds `100 c + 4 q + j`. (`omega` cannot see this
    from the formula alone: it takes the digits of `era_split`.) -/
theorem yoe_of_split (c q j k doe : Nat) (hc : c ≤ 3) (hq : q ≤ 24) (hj : j ≤ 3)
    (hk : k ≤ 364 ∨ k = 365 ∧ j = 3 ∧ q < 24)
    (hd : doe = 36524 * c + 1461 * q + 365 * j + k) (h1 : doe / 36524 = c)
    (h2 : doe / 146096 = 0) :
    (doe - doe / 1460 + doe / 36524 - doe / 146096) / 365 = 100 * c + 4 * q + j := by
  obtain ⟨g, t, eg, hg, ht⟩ := div_spec doe 1460 (by decide)
  rw [h1, h2, eg, Nat.sub_zero]
  obtain ⟨n, u, en, hn, hu⟩ := div_spec (doe - g + c) 365 (by decide)
  rw [en]
  clear h1 h2 eg en
  subst hd
  omega

/-- The year of the era that the algorithm computes for day `doe` of an era is the one `doe` lies
    in; `era` only says which year that is. -/
theorem year_spec (era doe yoe : Nat) (h : doe < 146097)
    (hy : (doe - doe / 1460 + doe / 36524 - doe / 146096) / 365 = yoe) :
    ∃ doy, doe = yearStart yoe + doy ∧ yoe ≤ 399 ∧ doy ≤ 365 ∧
      (doy = 365 → isLeap (yoe + era * 400 + 1) = true) := by
  unfold yearStart
  by_cases hl : doe = 146096
  · -- the last day of the era, the only one with `doe / 146096 = 1`
    subst hl hy
    exact ⟨365, by decide, by decide, by decide, fun _ => by rw [isLeap_iff]; omega⟩
  have hlt := Nat.lt_of_le_of_ne (Nat.le_of_lt_succ h) hl
  obtain ⟨c, q, j, k, hc, hq, hj, hk, hd, h1⟩ := era_split doe hlt
  rw [yoe_of_split c q j k doe hc hq hj hk hd h1 (Nat.div_eq_of_lt hlt)] at hy
  clear h hl hlt h1
  subst hy hd
  have h4 : (100 * c + 4 * q + j) / 4 = 25 * c + q := by omega
  have h100 : (100 * c + 4 * q + j) / 100 = c := by omega
  rw [h4, h100, isLeap_iff]
  exact ⟨k, by omega, by omega, by omega, by omega⟩

/-- the month (counted from March = 0) of day `doy` of a year: `(153 mp + 2) / 5` days of the
    year precede month `mp` -/
theorem month_spec (doy : Nat) (h : doy ≤ 365) :
    (5 * doy + 2) / 153 ≤ 11 ∧ (153 * ((5 * doy + 2) / 153) + 2) / 5 ≤ doy ∧
      doy < (153 * ((5 * doy + 2) / 153 + 1) + 2) / 5 := by omega

/-- `civilFromDays d` in terms of the era, the year `yoe` of the era, the day `doy` of that year
    and the month `mp`; months 10 and 11 are January and February of the next civil year. -/
theorem civilFromDays_spec (d : Nat) :
    ∃ era yoe doy, d + 719468 = era * 146097 + yearStart yoe + doy ∧ yoe ≤ 399 ∧
      yearStart yoe + doy < 146097 ∧ doy ≤ 365 ∧ (doy = 365 → isLeap (yoe + era * 400 + 1) = true) ∧
      ∃ mp Y m dd, civilFromDays d = (Y, m, dd) ∧
        mp ≤ 11 ∧ (153 * mp + 2) / 5 + dd = doy + 1 ∧ 1 ≤ dd ∧ doy < (153 * (mp + 1) + 2) / 5 ∧
        (mp < 10 ∧ m = mp + 3 ∧ Y = yoe + era * 400 ∨
          10 ≤ mp ∧ m + 9 = mp ∧ Y = yoe + era * 400 + 1) := by
  have hlt := Nat.mod_lt (d + 719468) (by decide : 0 < 146097)
  obtain ⟨doy, hdoe, hyoe, hdoy, hleap⟩ := year_spec ((d + 719468) / 146097) _ _ hlt rfl
  obtain ⟨h1, h2, h3⟩ := month_spec doy hdoy
  have hsub : _ - (365 * _ + _ / 4 - _ / 100) = doy := Nat.sub_eq_of_eq_add' hdoe
  refine ⟨_, _, doy, ?_, hyoe, hdoe ▸ hlt, hdoy, hleap, (5 * doy + 2) / 153, _, _, _,
    by simp only [civilFromDays, hsub]; rfl, h1, Nat.add_sub_cancel' h2 ▸ (Nat.add_assoc _ _ 1).symm,
    Nat.le_add_left 1 _, h3, ?_⟩
  · rw [Nat.add_assoc, ← hdoe, Nat.mul_comm, Nat.div_add_mod]
  · generalize (5 * doy + 2) / 153 = mp at h1
    by_cases h : mp < 10
    · rw [if_pos h, if_neg (by omega)]; exact .inl ⟨h, rfl, rfl⟩
    · rw [if_neg h, if_pos (by omega)]; exact .inr ⟨by omega, by omega, rfl⟩

theorem daysFromCivilShifted_civilFromDays (d : Nat) :
    daysFromCivilShifted (civilFromDays d).1 (civilFromDays d).2.1 (civilFromDays d).2.2
      = d + epochShift := by
  obtain ⟨era, yoe, doy, hz, hyoe, -, -, -, mp, Y, m, dd, heq, hmp, hdd, -, -, hm⟩ :=
    civilFromDays_spec d
  have e1 : (if m ≤ 2 then Y + 399 else Y + 400) = yoe + (era + 1) * 400 := by
    clear hz hdd; split <;> omega
  have e2 : (if m > 2 then m - 3 else m + 9) = mp := by clear hz hdd; split <;> omega
  simp only [heq, daysFromCivilShifted, e1, e2, Nat.add_mul_div_right _ _ (by decide : 0 < 400),
    Nat.add_mul_mod_self_right, Nat.div_eq_of_lt (Nat.lt_succ_of_le hyoe),
    Nat.mod_eq_of_lt (Nat.lt_succ_of_le hyoe), epochShift]
  -- with the quotients as variables what is left is linear
  have hb : yoe / 100 ≤ yoe / 4 := Nat.div_le_div_left (by decide) (by decide)
  unfold yearStart at hz
  clear e1 e2 hm heq hmp hyoe
  generalize yoe / 4 = a at *
  generalize yoe / 100 = b at *
  generalize (153 * mp + 2) / 5 = p at *
  omega

theorem daysFromCivil_civilFromDays (d : Nat) :
    daysFromCivil (civilFromDays d).1 (civilFromDays d).2.1 (civilFromDays d).2.2 = (d : Int) := by
  unfold daysFromCivil
  rw [daysFromCivilShifted_civilFromDays]
  omega

theorem daysIn_ne_feb (m y : Nat) (h : m ≠ 2) : daysIn m y = daysIn m 0 := by
  unfold daysIn; split <;> first | rfl | exact absurd rfl h

/-- the lengths of the months other than February are the differences of `(153 mp + 2) / 5` -/
theorem daysIn_add (m y : Nat) (h1 : 1 ≤ m) (h12 : m ≤ 12) (h2 : m ≠ 2) :
    (153 * ((m + 9) % 12) + 2) / 5 + daysIn m y = (153 * ((m + 9) % 12 + 1) + 2) / 5 := by
  have table : ∀ m, m < 13 → 1 ≤ m → m ≠ 2 →
      (153 * ((m + 9) % 12) + 2) / 5 + daysIn m 0 = (153 * ((m + 9) % 12 + 1) + 2) / 5 := by decide
  rw [daysIn_ne_feb m y h2]
  exact table m (Nat.lt_succ_of_le h12) h1 h2

theorem daysIn_le (m y : Nat) : daysIn m y ≤ 31 := by
  unfold daysIn; split <;> try omega
  split <;> omega

theorem civilFromDays_valid (d : Nat) :
    (1 ≤ (civilFromDays d).2.1 ∧ (civilFromDays d).2.1 ≤ 12) ∧
    (1 ≤ (civilFromDays d).2.2 ∧
      (civilFromDays d).2.2 ≤ daysIn (civilFromDays d).2.1 (civilFromDays d).1) := by
  obtain ⟨era, yoe, doy, -, -, -, hdoy, hleap, mp, Y, m, dd, heq, hmp, hdd, hdd1, hlt, hm⟩ :=
    civilFromDays_spec d
  simp only [heq]
  have hm12 : 1 ≤ m ∧ m ≤ 12 := by clear hdd hlt; omega
  refine ⟨hm12, hdd1, ?_⟩
  by_cases h2 : m = 2
  · -- February is the last month of its year, so day 365 of that year is its 29th
    obtain ⟨rfl, rfl⟩ : mp = 11 ∧ Y = yoe + era * 400 + 1 := by clear hdd hlt; omega
    subst h2
    show dd ≤ if isLeap (yoe + era * 400 + 1) then 29 else 28
    clear hm hm12
    split
    · omega
    · have : doy ≠ 365 := fun h => ‹¬ _› (hleap h)
      omega
  · have := daysIn_add m Y hm12.1 hm12.2 h2
    rw [(by clear hdd hlt; omega : (m + 9) % 12 = mp)] at this
    clear hm
    omega

/-- day numbers compare first by the year counted from March, then by the day of the year -/
theorem year_lex (z1 z2 era1 yoe1 doy1 era2 yoe2 doy2 : Nat) (h : z1 < z2)
    (hz1 : z1 = era1 * 146097 + yearStart yoe1 + doy1) (hy1 : yoe1 ≤ 399)
    (hz2 : z2 = era2 * 146097 + yearStart yoe2 + doy2) (he2 : yearStart yoe2 + doy2 < 146097)
    (hl2 : doy2 ≤ 365) :
    yoe1 + era1 * 400 < yoe2 + era2 * 400 ∨
      yoe1 + era1 * 400 = yoe2 + era2 * 400 ∧ doy1 < doy2 := by
  rcases Nat.lt_trichotomy era1 era2 with he | rfl | he
  · omega
  · rcases Nat.lt_trichotomy yoe1 yoe2 with hy | rfl | hy
    · omega
    · omega
    · have := yearStart_add_le_of_lt hy
      omega
  · omega

theorem dateNum_civilFromDays_lt {d1 d2 : Nat} (h : d1 < d2) :
    dateNum (civilFromDays d1) < dateNum (civilFromDays d2) := by
  obtain ⟨era1, yoe1, doy1, hz1, hy1, -, -, -, r1⟩ := civilFromDays_spec d1
  obtain ⟨era2, yoe2, doy2, hz2, -, he2, hl2, -, r2⟩ := civilFromDays_spec d2
  have hy := year_lex _ _ era1 yoe1 doy1 era2 yoe2 doy2 (Nat.add_lt_add_right h 719468)
    hz1 hy1 hz2 he2 hl2
  clear hz1 hz2 hy1 he2 hl2
  generalize yoe1 + era1 * 400 = y1 at *
  generalize yoe2 + era2 * 400 = y2 at *
  obtain ⟨mp1, Y1, m1, dd1, heq1, hmp1, hdd1, hp1, hlt1, hm1⟩ := r1
  obtain ⟨mp2, Y2, m2, dd2, heq2, hmp2, hdd2, hp2, hlt2, hm2⟩ := r2
  simp only [heq1, heq2, dateNum]
  -- then the month counted from March, then the day of the month
  have hmp : y1 < y2 ∨ y1 = y2 ∧ (mp1 < mp2 ∨ mp1 = mp2 ∧ dd1 < dd2) := by
    clear hm1 hm2 hmp1 hmp2; omega
  have hd : dd1 ≤ 31 := by clear hm1 hm2 hy hmp; omega
  clear hy hdd1 hdd2 hlt1 hlt2
  omega

theorem dateNum_lt_iff (d1 d2 : Nat) :
    dateNum (civilFromDays d1) < dateNum (civilFromDays d2) ↔ d1 < d2 := by
  refine ⟨fun h => Nat.lt_of_not_le fun hle => ?_, dateNum_civilFromDays_lt⟩
  rcases Nat.eq_or_lt_of_le hle with rfl | hlt
  · exact Nat.lt_irrefl _ h
  · exact Nat.lt_asymm h (dateNum_civilFromDays_lt hlt)

/-- The days of nanosecond timestamps below 2^63 (2^63 ns = 106751 days + 23:47:16.854775808)
    run from 1970-01-01 to 2262-04-11. -/
theorem dateNum_range (d : Nat) (h : d < 106752) :
    19700101 ≤ dateNum (civilFromDays d) ∧ dateNum (civilFromDays d) ≤ 22620411 := by
  have h0 : dateNum (civilFromDays 0) = 19700101 := by decide
  have h1 : dateNum (civilFromDays 106751) = 22620411 := by decide
  have a := (dateNum_lt_iff d 0).1
  have b := (dateNum_lt_iff 106751 d).1
  omega

theorem civilFromDays_year (d : Nat) (h : d < 106752) :
    1970 ≤ (civilFromDays d).1 ∧ (civilFromDays d).1 ≤ 2262 := by
  have hr := dateNum_range d h
  have hv := civilFromDays_valid d
  have := daysIn_le (civilFromDays d).2.1 (civilFromDays d).1
  unfold dateNum at hr
  omega

end Ls.Civil
