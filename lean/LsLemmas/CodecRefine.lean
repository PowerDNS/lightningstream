import LsLemmas.CodecTotal
/-
  Refinement: the offset-level model of the decoders (LsModel/Codec.lean: Go `int` offsets,
  bounds-checked slice expressions, uint64/int conversions) computes exactly the functions of the
  remaining input defined in LsLemmas/CodecS.lean, for every buffer of length < 2^63.

  An offset `k` stands for the suffix `data.drop k`; a result with a suffix `rest` is mapped back
  to the offset where `rest` begins (`offOf`).  Every statement has the form `x = omap g y`; the
  lemmas `ref_*` build such equations along the common structure of `x` and `y`, the lemmas `*At`
  do so for the blocks the decoders share (read a varint at an offset, skip a field, cut out a
  length-delimited payload).
-/
namespace Ls.CodecS
open Ls Ls.Wire Ls.Codec

/-- the offset at which the suffix `rest` of a buffer of length `len` begins -/
def offOf (len : Nat) (rest : Bytes) : Int := ((len - rest.length : Nat) : Int)

theorem offOf_drop {data : Bytes} {m : Nat} (h : m ≤ data.length) : offOf data.length (data.drop m) = m := by
  unfold offOf; rw [List.length_drop]; omega

def liftStep {σ : Type} (len : Nat) : Outcome (σ × Bytes) → Outcome (Int × σ) :=
  omap fun x => (offOf len x.2, x.1)

def liftVal {α : Type} (len : Nat) : Outcome (α × Bytes) → Outcome (α × Int) :=
  omap fun x => (x.1, offOf len x.2)

theorem adv_pos {data rest : Bytes} {k : Nat} (hk : k ≤ data.length) (h : Adv (data.drop k) rest) :
    ∃ j, rest = data.drop j ∧ k < j ∧ j ≤ data.length := by
  obtain ⟨m, h1, h2, rfl⟩ := h
  rw [List.length_drop] at h2
  exact ⟨k + m, List.drop_drop .., by omega, by omega⟩

theorem omap_bind {α β γ : Type} (g : β → γ) (x : Outcome α) (f : α → Outcome β) :
    omap g (x >>= f) = x >>= fun a => omap g (f a) := by
  cases x <;> rfl

theorem ref_ite {α β : Type} {g : α → β} {c : Prop} [Decidable c] {a b : Outcome β} {a' b' : Outcome α}
    (ht : c → a = omap g a') (he : ¬ c → b = omap g b') :
    (if c then a else b) = omap g (if c then a' else b') := by
  split
  · exact ht ‹c›
  · exact he ‹¬ c›

theorem ref_guard {α β : Type} {g : α → β} {c : Prop} [Decidable c] {e : Err} {b : Outcome β} {b' : Outcome α}
    (h : ¬ c → b = omap g b') : (if c then .err e else b) = omap g (if c then .err e else b') :=
  ref_ite (fun _ => rfl) h

/-- the same, where the two sides test differently -/
theorem ref_ite' {α β : Type} {g : α → β} {c c' : Prop} [Decidable c] [Decidable c'] (hc : c ↔ c')
    {a b : Outcome β} {a' b' : Outcome α} (ht : c → a = omap g a') (he : ¬ c → b = omap g b') :
    (if c then a else b) = omap g (if c' then a' else b') := by
  by_cases h : c
  · rw [if_pos h, if_pos (hc.mp h)]; exact ht h
  · rw [if_neg h, if_neg (mt hc.mpr h)]; exact he h

theorem ref_ok {σ : Type} {data : Bytes} {off : Int} {m : Nat} (hoff : off = m) (hm : m ≤ data.length)
    (s : σ) : Outcome.ok (off, s) = liftStep data.length (.ok (s, data.drop m)) := by
  rw [hoff]; exact congrArg (fun o => Outcome.ok (o, s)) (offOf_drop hm).symm

/-- read a varint at offset `m` -/
theorem varintAt {α β : Type} {g : α → β} {data : Bytes} {off : Int} {m : Nat} (hoff : off = m)
    (hm : m ≤ data.length) {F : Nat × Nat → Outcome β} {FS : Nat × Nat → Outcome α}
    (h : ∀ x : Nat × Nat, m + x.2 ≤ data.length → F x = omap g (FS x)) :
    (sliceFrom data off >>= fun p => decodeVarint p >>= F) = omap g (decodeVarint (data.drop m) >>= FS) := by
  rw [sliceFrom_eq data off m hoff hm, bind_ok, omap_bind]
  refine bind_congr_ok fun x hx => h x ?_
  have := (decodeVarint_bounds _ _ _ hx).2.1
  rw [List.length_drop] at this
  omega

theorem two63_lt : two63 < two64 := by decide
theorem defaultMax_lt : defaultMaxFieldLen < two63 := by decide
theorem snapshotMax_lt : snapshotMaxFieldLen < two63 := by decide

theorem skipTag_eq (p : Bytes) (wt : Nat) (h63 : p.length < two63) :
    skipTag p wt = omap (offOf p.length) (skipS p wt) := by
  have h64 := two63_lt
  -- `fin` of the model (the closing range test on the skip) against the test on the remaining input
  have fin : ∀ (i : Int) (j : Nat), i = j →
      (if i > (p.length : Int) then Outcome.err .eof else .ok i)
        = omap (offOf p.length) (if j > p.length then .err .eof else .ok (p.drop j)) := by
    intro i j hi
    refine ref_ite' (by omega) (fun _ => rfl) fun hj => ?_
    rw [hi]; exact congrArg Outcome.ok (offOf_drop (by omega)).symm
  have fin' : ∀ (i : Int) (j : Nat), i = j → j ≤ p.length →
      (if i > (p.length : Int) then Outcome.err .eof else .ok i) = omap (offOf p.length) (.ok (p.drop j)) := by
    intro i j hi hj
    rw [fin i j hi, if_neg (by omega)]
  unfold skipTag skipS
  refine ref_ite (fun _ => ?_) fun _ => ref_ite (fun _ => ?_) fun _ =>
    ref_ite (fun _ => fin _ 4 rfl) fun _ => ref_ite (fun _ => fin _ 8 rfl) fun _ => rfl
  · exact (decodeVarint_post p).elim (fun x h => fin' _ x.2 rfl h.2.1) fun _ => rfl
  · refine (decodeVarint_post p).elim (fun x h => ?_) fun _ => rfl
    have hu := toUInt64_sub p.length x.2 h.2.1 (by omega)
    refine ref_ite' (by rw [hu]) (fun _ => rfl) fun hs => ?_
    rw [hu] at hs
    refine fin' _ (x.2 + x.1) ?_ (by omega)
    rw [toInt64_small x.1 (by omega), wrapInt64_small _ (by omega) (by omega)]; omega

/-- skip a field at offset `m` -/
theorem skipAt {α β : Type} {g : α → β} {data : Bytes} {off : Int} {m : Nat} (hoff : off = m)
    (hm : m ≤ data.length) (h63 : data.length < two63) (wt : Nat)
    {F : Int → Outcome β} {FS : Bytes → Outcome α}
    (h : ∀ j : Nat, m + j ≤ data.length → F j = omap g (FS (data.drop (m + j)))) :
    (sliceFrom data off >>= fun p => skipTag p wt >>= F) = omap g (skipS (data.drop m) wt >>= FS) := by
  rw [sliceFrom_eq data off m hoff hm, bind_ok, skipTag_eq _ _ (by rw [List.length_drop]; omega), omap_bind]
  refine (skipS_post (data.drop m) wt).elim (fun r hr => ?_) fun _ => rfl
  obtain ⟨j, _, h2, rfl⟩ := hr
  rw [List.length_drop] at h2
  show F (offOf _ _) = omap g (FS _)
  rw [offOf_drop (by rw [List.length_drop]; exact h2), List.drop_drop]
  exact h j (by omega)

/-- the slice of `n` bytes at offset `a` -/
theorem sliceAt {α β : Type} {g : α → β} {data : Bytes} {off : Int} {a : Nat} (hoff : off = a) (n : Nat)
    (h : a + n ≤ data.length) {F : Bytes → Outcome β} {y : Outcome α}
    (hF : F ((data.drop a).take n) = omap g y) : (sliceLH data off (off + n) >>= F) = omap g y := by
  rw [sliceLH_eq data _ _ a (a + n) hoff (by rw [hoff]; rfl) (by omega) h, bind_ok, Nat.add_sub_cancel_left]
  exact hF

/-- cut out a length-delimited payload of `v` bytes at offset `a` -/
theorem payloadAt {α β : Type} {g : α → β} {data : Bytes} {off : Int} {a v : Nat} (hoff : off = a)
    (ha : a ≤ data.length) (h63 : data.length < two63)
    {F : Bytes → Outcome β} {y : Outcome α}
    (h : a + v ≤ data.length → toInt64 v = v → F ((data.drop a).take v) = omap g y) :
    (if toUInt64 ((data.length : Int) - off) < v then .err .other else sliceLH data off (off + toInt64 v) >>= F)
      = omap g (if (data.drop a).length < v then .err .other else y) := by
  have h64 := two63_lt
  rw [hoff, toUInt64_sub data.length a ha (by omega), List.length_drop]
  refine ref_guard fun hlt => ?_
  have hi := toInt64_small v (by omega)
  rw [hi]
  exact sliceAt rfl v (by omega) (h (by omega) hi)

theorem kvStep_eq (data : Bytes) (k : Nat) (kv : KV) (h63 : data.length < two63) (hk : k ≤ data.length) :
    kvStep data (k : Int) kv = liftStep data.length (kvStepS (data.drop k) kv) := by
  unfold kvStep kvStepS liftStep
  refine varintAt rfl hk fun x h2 => ?_
  dsimp only
  rw [List.drop_drop]
  refine ref_ite (fun _ => ref_guard fun _ => ?_) fun _ =>
    ref_ite (fun _ => ref_guard fun _ => ?_) fun _ =>
    ref_ite (fun _ => ref_guard fun _ => ?_) fun _ => ?_
  · refine varintAt rfl h2 fun y g2 => ?_
    rw [List.drop_drop]
    refine payloadAt rfl g2 h63 fun hv hi => ?_
    rw [List.drop_drop, hi]
    exact ref_ite (fun _ => ref_ok rfl hv _) fun _ => ref_ok rfl hv _
  · refine varintAt rfl h2 fun y g2 => ?_
    rw [List.drop_drop]
    exact ref_ok rfl g2 _
  · rw [List.length_drop]
    refine ref_ite' (by omega) (fun _ => rfl) fun h8 => ?_
    have h8 : k + x.2 + 8 ≤ data.length := by omega
    refine sliceAt rfl 8 h8 ?_
    rw [List.drop_drop]
    exact ref_ok rfl h8 _
  · exact skipAt rfl h2 h63 _ fun j hj => ref_ok rfl hj _

theorem kvLoop_eq (data : Bytes) (h63 : data.length < two63) :
    ∀ (fuel k : Nat) (kv : KV), k ≤ data.length →
      kvLoop data fuel (k : Int) kv = kvLoopS fuel (data.drop k) kv
  | 0, _, _, _ => rfl
  | fuel + 1, k, kv, hk => by
    rw [kvLoop, kvLoopS, kvStep_eq data k kv h63 hk]
    refine (kvStepS_post _ kv).elim (fun ⟨kv', rest⟩ hx => ?_) fun _ => rfl
    obtain ⟨j, rfl, _, hjl⟩ := adv_pos hk hx.1
    show (if offOf _ _ = _ then _ else kvLoop data fuel (offOf _ _) kv')
      = if data.drop j = [] then .ok kv' else kvLoopS fuel (data.drop j) kv'
    rw [offOf_drop hjl, kvLoop_eq data h63 fuel j kv' hjl]
    exact ite_congr (propext (by rw [List.drop_eq_nil_iff]; omega)) (fun _ => rfl) fun _ => rfl

theorem kvUnmarshal_eq (data : Bytes) (h63 : data.length < two63) :
    kvUnmarshal data = kvUnmarshalS data :=
  kvLoop_eq data h63 (data.length + 1) 0 kvZero (Nat.zero_le _)

/-- Any offset-level loop of the shape of `idxLoop`, `metaLoop`, `snapLoop` (stop at the end of
    the data, else step) against the loop on the remaining input over the refined step. -/
theorem loop_refines {σ : Type} {data : Bytes} {step : Int → σ → Outcome (Int × σ)}
    {stepS : Bytes → σ → Outcome (σ × Bytes)} {L : Nat → Int → σ → Outcome σ} {LS : Nat → Bytes → σ → Outcome σ}
    (hL0 : ∀ off s, L 0 off s = .hang) (hLS0 : ∀ p s, LS 0 p s = .hang)
    (hL : ∀ fuel (k : Nat) s, L (fuel + 1) k s =
      if data.length ≤ k then .ok s else step k s >>= fun x => L fuel x.1 x.2)
    (hLS : ∀ fuel p s, LS (fuel + 1) p s = if p = [] then .ok s else stepS p s >>= fun x => LS fuel x.2 x.1)
    (hstep : ∀ (k : Nat) s, k ≤ data.length → step k s = liftStep data.length (stepS (data.drop k) s))
    (hadv : ∀ p s, (stepS p s).Post fun x => Adv p x.2) :
    ∀ (fuel k : Nat) (s : σ), k ≤ data.length → L fuel k s = LS fuel (data.drop k) s
  | 0, _, _, _ => (hL0 _ _).trans (hLS0 _ _).symm
  | fuel + 1, k, s, hk => by
    rw [hL, hLS, hstep k s hk]
    by_cases hend : data.length ≤ k
    · rw [if_pos hend, if_pos (List.drop_eq_nil_iff.mpr hend)]
    · rw [if_neg hend, if_neg (mt List.drop_eq_nil_iff.mp hend)]
      refine (hadv _ s).elim (fun x hx => ?_) fun _ => rfl
      obtain ⟨j, hj, _, hjl⟩ := adv_pos hk hx
      show L fuel (offOf _ x.2) x.1 = LS fuel x.2 x.1
      rw [hj, offOf_drop hjl]
      exact loop_refines hL0 hLS0 hL hLS hstep hadv fuel j x.1 hjl

theorem idxStep_eq (data : Bytes) (k : Nat) (hd0 : DBIHdr) (h63 : data.length < two63) (hk : k ≤ data.length) :
    idxStep data (k : Int) hd0 = liftStep data.length (idxStepS (data.drop k) hd0) := by
  unfold idxStep idxStepS liftStep
  refine varintAt rfl hk fun x h2 => ?_
  dsimp only
  rw [List.drop_drop]
  refine ref_ite (fun ht => ref_guard fun _ => ?_) fun _ =>
    ref_ite (fun _ => ref_guard fun _ => ?_) fun _ => ?_
  · refine varintAt rfl h2 fun y g2 => ?_
    rw [List.drop_drop]
    refine payloadAt rfl g2 h63 fun hv hi => ?_
    rw [List.drop_drop, hi]
    refine ref_ite (fun _ => ref_ok rfl hv _) fun he => ref_ite (fun _ => ref_ok rfl hv _) fun hn => ?_
    rw [if_pos (ht.resolve_left he |>.resolve_left hn)]
    exact ref_ok rfl hv _
  · refine varintAt rfl h2 fun y g2 => ?_
    rw [List.drop_drop]
    exact ref_ok rfl g2 _
  · exact skipAt rfl h2 h63 _ fun j hj => ref_ok rfl hj _

theorem idxLoop_succ (data : Bytes) (fuel k : Nat) (h : DBIHdr) : idxLoop data (fuel + 1) k h =
    if data.length ≤ k then .ok h else idxStep data k h >>= fun x => idxLoop data fuel x.1 x.2 := by
  rw [idxLoop]; simp only [ge_iff_le, Int.ofNat_le]; cases idxStep data k h <;> rfl

theorem indexData_eq (data : Bytes) (h63 : data.length < two63) : indexData data = indexDataS data :=
  loop_refines (fun _ _ => rfl) (fun _ _ => rfl) (idxLoop_succ data) idxLoopS_succ
    (fun k h hk => idxStep_eq data k h h63 hk) idxStepS_post (data.length + 1) 0 hdrZero (Nat.zero_le _)

/-- What `dbiNext` does with the result of `nextSeek`, so that `dbiNext data cur` is
    `nextSeek data (data.length + 1) cur >>= nextK data` by definition (`dbiNext_eq` relies on it). -/
def nextK (data : Bytes) (r : Option (Int × Nat)) : Outcome (Option (KV × Int)) :=
  match r with
  | none => .ok none
  | some (offset, wt) => do
    let (b, cur') ← nextEntry data offset wt
    let kv ← kvUnmarshal b
    .ok (some (kv, cur'))

def liftNext (len : Nat) : Outcome (Option (KV × Bytes)) → Outcome (Option (KV × Int)) :=
  omap fun r => r.map fun x => (x.1, offOf len x.2)

theorem nextEntry_eq (data : Bytes) (m wt : Nat) (h63 : data.length < two63) (hm : m ≤ data.length) :
    nextEntry data m wt = liftVal data.length
      (if wt ≠ wtLen then .err .wireType else
        decodeVarint (data.drop m) >>= fun y =>
          if (data.drop (m + y.2)).length < y.1 then .err .other
          else .ok ((data.drop (m + y.2)).take y.1, data.drop (m + y.2 + y.1))) := by
  unfold nextEntry liftVal
  refine ref_guard fun _ => varintAt rfl hm fun y g2 => ?_
  refine payloadAt rfl g2 h63 fun hv hi => ?_
  rw [hi]
  exact congrArg (fun o => Outcome.ok (_, o)) (offOf_drop hv).symm

theorem nextSeek_eq (data : Bytes) (h63 : data.length < two63) :
    ∀ (fuel k : Nat), k ≤ data.length →
      (nextSeek data fuel (k : Int) >>= nextK data) = liftNext data.length (nextS fuel (data.drop k))
  | 0, _, _ => rfl
  | fuel + 1, k, hk => by
    rw [nextSeek, nextS]
    by_cases hend : data.length ≤ k
    · rw [if_pos (Int.ofNat_le.mpr hend), if_pos (List.drop_eq_nil_iff.mpr hend)]; rfl
    rw [if_neg (mt Int.ofNat_le.mp hend), if_neg (mt List.drop_eq_nil_iff.mp hend),
      sliceFrom_eq data k k rfl hk]
    dsimp only
    refine (decodeVarint_post _).elim (fun x hx => ?_) fun _ => rfl
    have h2 : k + x.2 ≤ data.length := by have := hx.2.1; rw [List.length_drop] at this; omega
    dsimp only
    rw [List.drop_drop]
    by_cases hne : x.1 / 8 ≠ Gen.fieldDBIEntries
    · rw [if_pos hne, if_pos hne, sliceFrom_eq data ((k : Int) + (x.2 : Int)) (k + x.2) rfl h2]
      dsimp only
      rw [skipTag_eq _ _ (by rw [List.length_drop]; omega)]
      refine (skipS_post _ _).elim (fun r hr => ?_) fun _ => rfl
      obtain ⟨j, _, hj, rfl⟩ := hr
      rw [List.length_drop] at hj
      show (nextSeek data fuel ((k : Int) + (x.2 : Int) + offOf _ _) >>= nextK data) = liftNext _ (nextS fuel _)
      rw [offOf_drop (by rw [List.length_drop]; exact hj), List.drop_drop]
      exact nextSeek_eq data h63 fuel (k + x.2 + j) (by omega)
    · rw [if_neg hne, if_neg hne]
      show (nextEntry data ((k + x.2 : Nat) : Int) (x.1 % 8) >>= _) = _
      rw [nextEntry_eq data _ _ h63 h2]
      by_cases hw : x.1 % 8 ≠ wtLen
      · rw [if_pos hw, if_pos hw]; rfl
      rw [if_neg hw, if_neg hw]
      refine (decodeVarint_post _).elim (fun y hy => ?_) fun _ => rfl
      dsimp only [bind_ok]
      rw [List.drop_drop, List.drop_drop]
      by_cases hlt : (data.drop (k + x.2 + y.2)).length < y.1
      · rw [if_pos hlt, if_pos hlt]; rfl
      rw [if_neg hlt, if_neg hlt]
      show (kvUnmarshal _ >>= _) = _
      rw [kvUnmarshal_eq _ (by rw [List.length_take, List.length_drop]; omega)]
      exact (kvUnmarshalS_post _).elim (fun _ _ => rfl) fun _ => rfl

theorem dbiNext_eq (data : Bytes) (h63 : data.length < two63) (k : Nat) (hk : k ≤ data.length) :
    dbiNext data (k : Int) = liftNext data.length (nextS (data.length + 1) (data.drop k)) :=
  nextSeek_eq data h63 _ k hk

/-- `Next` moves the cursor forward and never past the end -/
theorem dbiNext_cursor (b : Bytes) (h63 : b.length < two63) (cur : Nat) (hc : cur ≤ b.length) (kv : KV)
    (cur' : Int) (h : dbiNext b (cur : Int) = .ok (some (kv, cur'))) :
    (cur : Int) < cur' ∧ cur' ≤ (b.length : Int) := by
  rw [dbiNext_eq b h63 cur hc] at h
  revert h
  refine (nextS_post _ _ (by rw [List.length_drop]; omega)).elim (fun r hr h => ?_) fun _ h => nomatch h
  cases r with
  | none => cases h
  | some x =>
    obtain ⟨j, hj, hlt, hjl⟩ := adv_pos hc (hr x.1 x.2 rfl).1
    cases h
    show (cur : Int) < offOf _ x.2 ∧ offOf _ x.2 ≤ _
    rw [hj, offOf_drop hjl]
    omega

theorem dbiIter_eq (data : Bytes) (h63 : data.length < two63) :
    ∀ (fuel k : Nat) (acc : List KV), k ≤ data.length →
      dbiIter data fuel (k : Int) acc = iterS (data.length + 1) fuel (data.drop k) acc
  | 0, _, _, _ => rfl
  | fuel + 1, k, acc, hk => by
    rw [dbiIter, iterS, dbiNext_eq data h63 k hk]
    refine (nextS_post _ _ (by rw [List.length_drop]; omega)).elim (fun r hr => ?_) fun _ => rfl
    cases r with
    | none => rfl
    | some x =>
      obtain ⟨j, hj, _, hjl⟩ := adv_pos hk (hr x.1 x.2 rfl).1
      show dbiIter data fuel (offOf _ x.2) _ = iterS _ fuel x.2 _
      rw [hj, offOf_drop hjl]
      exact dbiIter_eq data h63 fuel j _ hjl

theorem dbiEntries_eq (data : Bytes) (h63 : data.length < two63) : dbiEntries data = dbiEntriesS data := by
  unfold dbiEntries dbiEntriesS
  rw [show dbiIter data (data.length + 1) 0 [] = _ from dbiIter_eq data h63 _ 0 [] (Nat.zero_le _)]
  rfl

/-- the end-of-data test in front of every csproto read -/
theorem eofAt {α β : Type} {g : α → β} {p : Bytes} {k : Nat} {x : Outcome β} {y : Outcome α}
    (h : k < p.length → x = omap g y) :
    (if (k : Int) ≥ (p.length : Int) then .err .eof else x) = omap g (if p.drop k = [] then .err .eof else y) :=
  ref_ite' (by rw [List.drop_eq_nil_iff]; omega) (fun _ => rfl) fun hk => h (by omega)

theorem decTag_eq (p : Bytes) (k : Nat) (hk : k ≤ p.length) :
    decTag p (k : Int) = omap (fun x => (x.1, x.2.1, offOf p.length x.2.2)) (decTagS (p.drop k)) := by
  unfold decTag decTagS
  refine eofAt fun _ => varintAt rfl hk fun x h2 => ref_guard fun _ => ?_
  rw [List.drop_drop]
  exact congrArg (fun o => Outcome.ok (_, _, o)) (offOf_drop h2).symm

theorem decVarint_eq (p : Bytes) (k : Nat) (hk : k ≤ p.length) :
    decVarint p (k : Int) = liftVal p.length (decVarintS (p.drop k)) := by
  unfold decVarint decVarintS liftVal
  refine eofAt fun _ => varintAt rfl hk fun x h2 => ref_guard fun _ => ?_
  rw [List.drop_drop]
  exact congrArg (fun o => Outcome.ok (_, o)) (offOf_drop h2).symm

theorem getUInt32_eq (p : Bytes) (k : Nat) (wt : Nat) (hk : k ≤ p.length) :
    getUInt32 p (k : Int) wt = liftVal p.length (getUInt32S (p.drop k) wt) := by
  unfold getUInt32 getUInt32S
  refine ref_guard fun _ => ?_
  rw [decVarint_eq p k hk]
  cases decVarintS (p.drop k) with
  | ok x => exact ref_guard fun _ => rfl
  | _ => rfl

theorem getInt64_eq (p : Bytes) (k : Nat) (wt : Nat) (hk : k ≤ p.length) :
    getInt64 p (k : Int) wt = liftVal p.length (getInt64S (p.drop k) wt) := by
  unfold getInt64 getInt64S
  refine ref_guard fun _ => ?_
  rw [decVarint_eq p k hk]
  cases decVarintS (p.drop k) <;> rfl

theorem getFixed64_eq (p : Bytes) (k : Nat) (wt : Nat) (hk : k ≤ p.length) :
    getFixed64 p (k : Int) wt = liftVal p.length (getFixed64S (p.drop k) wt) := by
  unfold getFixed64 getFixed64S liftVal
  refine ref_guard fun _ => eofAt fun _ => ?_
  rw [sliceFrom_eq p k k rfl hk, bind_ok]
  refine ref_guard fun h8 => ?_
  rw [List.length_drop] at h8
  have h8 : k + 8 ≤ p.length := by omega
  rw [List.drop_drop]
  exact congrArg (fun o => Outcome.ok (_, o)) (offOf_drop h8).symm

theorem getBytes_eq (p : Bytes) (maxLen : Nat) (k : Nat) (wt : Nat) (hk : k ≤ p.length)
    (hmax : maxLen < two63) :
    getBytes p maxLen (k : Int) wt = liftVal p.length (getBytesS (p.drop k) maxLen wt) := by
  unfold getBytes decBytes getBytesS liftVal
  refine ref_guard fun _ => eofAt fun _ => varintAt rfl hk fun x h2 => ?_
  refine ref_guard fun _ => ref_guard fun hl => ?_
  dsimp only
  rw [toInt64_small x.1 (by omega), List.length_drop, List.drop_drop, List.drop_drop, ← Nat.add_assoc]
  refine ref_ite' (by omega) (fun _ => rfl) fun hov => ?_
  have hov : k + x.2 + x.1 ≤ p.length := by omega
  exact sliceAt rfl x.1 hov (congrArg (fun o => Outcome.ok (_, o)) (offOf_drop hov).symm)

theorem decSkip_eq (p : Bytes) (maxLen : Nat) (k : Nat) (tag wt : Nat) (hk : k ≤ p.length)
    (hmax : maxLen < two63) :
    decSkip p maxLen (k : Int) tag wt = omap (offOf p.length) (decSkipS (p.drop k) maxLen wt) := by
  unfold decSkip decSkipS
  refine eofAt fun _ => ?_
  -- the raw bytes `p[bof:offset+skipped]` are sliced and dropped; the slice is always in range
  have fin : ∀ (i : Int) (j : Nat), i = j →
      (if (k : Int) + i > (p.length : Int) then Outcome.err .eof else do
        let _ ← sliceLH p (if (k : Int) - (sizeOfTagKey tag : Int) < 0 then 0 else (k : Int) - (sizeOfTagKey tag : Int)) ((k : Int) + i)
        Outcome.ok ((k : Int) + i))
      = omap (offOf p.length) (if j > (p.drop k).length then .err .eof else .ok (p.drop (k + j))) := by
    intro i j hi
    rw [List.length_drop]
    refine ref_ite' (by omega) (fun _ => rfl) fun hj => ?_
    have hj : k + j ≤ p.length := by omega
    have hs : ∃ b, sliceLH p (if (k : Int) - (sizeOfTagKey tag : Int) < 0 then 0 else (k : Int) - (sizeOfTagKey tag : Int))
        ((k : Int) + i) = .ok b := by
      unfold sliceLH; rw [if_pos ⟨by split <;> omega, by split <;> omega, by omega⟩]; exact ⟨_, rfl⟩
    obtain ⟨b, hb⟩ := hs
    rw [hb, bind_ok, hi]
    exact congrArg Outcome.ok (offOf_drop hj).symm
  dsimp only
  refine ref_ite (fun _ => ?_) fun _ => ref_ite (fun _ => ?_) fun _ => ref_ite (fun _ => ?_) fun _ =>
    ref_ite (fun _ => ?_) fun _ => rfl
  · refine varintAt rfl hk fun x _ => ?_
    rw [List.drop_drop]; exact fin _ x.2 rfl
  · rw [List.drop_drop]; exact fin 8 8 rfl
  · refine varintAt rfl hk fun x _ => ref_guard fun _ => ref_guard fun hl => ?_
    rw [List.drop_drop, toInt64_small x.1 (by omega)]; exact fin _ (x.2 + x.1) rfl
  · rw [List.drop_drop]; exact fin 4 4 rfl

/-- a field read by one of the csproto getters and then stored -/
theorem ref_field {β σ : Type} {len : Nat} {G : Outcome (β × Bytes)} {F : β × Int → Outcome (Int × σ)}
    {FS : β × Bytes → Outcome (σ × Bytes)}
    (h : ∀ x, G = .ok x → F (x.1, offOf len x.2) = liftStep len (FS x)) :
    (liftVal len G >>= F) = liftStep len (G >>= FS) := by
  cases G with
  | ok x => exact h x rfl
  | err e => rfl
  | panic => rfl
  | hang => rfl

theorem metaStep_eq (p : Bytes) (k : Nat) (m : Meta) (hk : k ≤ p.length) :
    metaStep p (k : Int) m = liftStep p.length (metaStepS (p.drop k) m) := by
  unfold metaStep metaStepS
  rw [decTag_eq p k hk]
  refine (decTagS_post _).elim (fun ⟨tag, wt, p1⟩ hx => ?_) fun _ => rfl
  obtain ⟨j, rfl, _, hj⟩ := adv_pos hk hx
  dsimp only [omap, bind_ok]
  rw [offOf_drop hj, getBytes_eq p _ j wt hj defaultMax_lt, getInt64_eq p j wt hj, getFixed64_eq p j wt hj,
    decSkip_eq p _ j tag wt hj defaultMax_lt]
  refine ref_ite (fun _ => ?_) fun _ => ref_ite (fun _ => ?_) fun _ => ref_ite (fun _ => ?_) fun _ =>
    ref_ite (fun _ => ?_) fun _ => ref_ite (fun _ => ?_) fun _ => ref_ite (fun _ => ?_) fun _ =>
    ref_ite (fun _ => ?_) fun _ => ?_
  -- the seven known fields: a getter, then the value stored
  iterate 7 exact ref_field fun _ _ => rfl
  cases decSkipS (p.drop j) defaultMaxFieldLen wt <;> rfl

theorem metaLoop_succ (p : Bytes) (fuel k : Nat) (m : Meta) : metaLoop p (fuel + 1) k m =
    if p.length ≤ k then .ok m else metaStep p k m >>= fun x => metaLoop p fuel x.1 x.2 := by
  rw [metaLoop]; simp only [Int.not_lt, Int.ofNat_le]; cases metaStep p k m <;> rfl

theorem metaUnmarshal_eq (data : Bytes) (m : Meta) : metaUnmarshal data m = metaUnmarshalS data m :=
  loop_refines (fun _ _ => rfl) (fun _ _ => rfl) (metaLoop_succ data) metaLoopS_succ
    (fun k m hk => metaStep_eq data k m hk) metaStepS_post (data.length + 1) 0 m (Nat.zero_le _)

theorem snapStep_eq (p : Bytes) (k : Nat) (s : SnapRaw) (h63 : p.length < two63) (hk : k ≤ p.length) :
    snapStep p (k : Int) s = liftStep p.length (snapStepS (p.drop k) s) := by
  unfold snapStep snapStepS
  rw [decTag_eq p k hk]
  refine (decTagS_post _).elim (fun ⟨tag, wt, p1⟩ hx => ?_) fun _ => rfl
  obtain ⟨j, rfl, _, hj⟩ := adv_pos hk hx
  dsimp only [omap, bind_ok]
  rw [offOf_drop hj, getUInt32_eq p j wt hj, getBytes_eq p _ j wt hj snapshotMax_lt,
    decSkip_eq p _ j tag wt hj snapshotMax_lt]
  refine ref_ite (fun _ => ?_) fun _ => ref_ite (fun _ => ?_) fun _ => ref_ite (fun _ => ?_) fun _ =>
    ref_ite (fun _ => ?_) fun _ => ?_
  · exact ref_field fun _ _ => rfl
  · exact ref_field fun _ _ => rfl
  · refine ref_field fun x _ => ?_
    rw [metaUnmarshal_eq]
    cases metaUnmarshalS x.1 s.info <;> rfl
  · refine ref_field fun x hx => ?_
    have := ((getBytesS_post _ _ _).of_ok hx).2
    rw [List.length_drop] at this
    rw [indexData_eq x.1 (by omega)]
    cases indexDataS x.1 <;> rfl
  · cases decSkipS (p.drop j) snapshotMaxFieldLen wt <;> rfl

theorem snapLoop_succ (p : Bytes) (fuel k : Nat) (s : SnapRaw) : snapLoop p (fuel + 1) k s =
    if p.length ≤ k then .ok s else snapStep p k s >>= fun x => snapLoop p fuel x.1 x.2 := by
  rw [snapLoop]; simp only [Int.not_lt, Int.ofNat_le]; cases snapStep p k s <;> rfl

theorem snapshotUnmarshal_eq (data : Bytes) (h63 : data.length < two63) :
    snapshotUnmarshal data = snapshotUnmarshalS data :=
  loop_refines (fun _ _ => rfl) (fun _ _ => rfl) (snapLoop_succ data) snapLoopS_succ
    (fun k s hk => snapStep_eq data k s h63 hk) (fun p s => (snapStepS_post p s).mono fun _ h => h.1)
    (data.length + 1) 0 snapZero (Nat.zero_le _)

theorem dbisAll_eq : ∀ (ds : List DBIRaw), dbsSize ds < two63 → dbisAll ds = dbisAllS ds
  | [], _ => rfl
  | d :: ds, h => by
    unfold dbisAll dbisAllS
    rw [dbiEntries_eq d.data (Nat.lt_of_le_of_lt (Nat.le_add_right _ _) h),
      dbisAll_eq ds (Nat.lt_of_le_of_lt (Nat.le_add_left _ _) h)]

theorem decodeAll_eq (b : Bytes) (h63 : b.length < two63) : decodeAll b = decodeAllS b := by
  unfold decodeAll decodeAllS
  rw [snapshotUnmarshal_eq b h63]
  exact bind_congr_ok fun s hs => by
    rw [dbisAll_eq s.dbs (Nat.lt_of_le_of_lt ((snapshotUnmarshalS_post b).of_ok hs) h63)]

/-- loading a blob of any content neither panics nor hangs, and what it decodes is no larger
    than the blob -/
theorem decodeAll_post (b : Bytes) (h63 : b.length < two63) :
    (decodeAll b).Post fun s => allEntriesSize s.dbis ≤ b.length :=
  decodeAll_eq b h63 ▸ decodeAllS_post b

end Ls.CodecS
