import LsLemmas.LoopQuiet
/-
  Concrete instances, environments and schedules: the race of finding D9 in its three shapes, and
  a race-free schedule in which an application commit is published (the hypotheses of the
  `_partial` theorems are satisfiable). Everything here is evaluated by the kernel.
-/
namespace Ls.Loop.Witness
open Ls Ls.Txn Ls.SyncLoop Ls.Loop

/-- shadow-mode instance "a" -/
def cfgS : LoopCfg :=
  { txn := { native := false, hack := false, pad := false, receiveOnly := false, override := [] },
    own := "a", onlyOnce := false, retryCount := 3 }

/-- native-mode instance "a" -/
def cfgN : LoopCfg :=
  { txn := { native := true, hack := false, pad := false, receiveOnly := false, override := [] },
    own := "a", onlyOnce := false, retryCount := 3 }

def app : Bytes := strBytes "app"

/-- instance "b"'s snapshot: DBI "app" with key [1] ↦ "A" written at time 5 -/
def snapB : Snap :=
  { fv := 3, cv := 3,
    dbs := [{ name := app, flags := 0, transform := [],
              entries := [{ key := [1], val := [65], ts := 5, flags := 0 }] }] }

def bkt : Bucket := [{ inst := "b", ts := 1, snap := snapB }]

def env0 : Env := { dbis := [], lastTxn := 0 }

def inp (n : Option (InstId × Nat)) : In := { next := n, fails := 0, now := 100 }

/-- the application DBI's content -/
def appKvs (g : G) : Option Lmdb.KVs := (findDbi g.st.env.dbis app).map (·.kvs)

/-- the keys in the application DBI of the newest blob of instance "a" in the bucket -/
def ownKeys (g : G) : Option (List (List Bytes)) :=
  ((g.bucket.filter (·.inst == "a")).getLast?).map fun x => x.snap.dbs.map (·.entries.map (·.key))

/-- **D9, destructive half** (shadow mode). Start empty; merge b's snapshot (transaction 1); merge it
    again — an EMPTY write transaction whose id 2 LMDB reuses; the application commits `[2] ↦ "B"`
    at the yield point right after it and gets id 2; the loop takes 2 for its own transaction and
    sets `lastSynced := 2`; one idle iteration; then the next merge sees no local change, skips the
    capture, and `shadowToMain` removes `[2]`. -/
def schedC03 : List Ev :=
  [.go (inp none), .go (inp (some ("b", 1))), .go (inp (some ("b", 1))),
   .app [.put app [2] [66]],
   .go (inp none), .go (inp none), .go (inp none), .go (inp (some ("b", 1)))]

/-- **D9, publishing half, after `SendOnce`** (shadow mode). An application write at the sleep
    point is captured by the next merge (`localChanged`), so the `SendOnce` that follows has an
    EMPTY write transaction with id 4; the application commits `[3] ↦ "C"` right after it and gets
    id 4; the loop stores the dump (without `[3]`) and sets `lastSynced := 4`; a whole further
    iteration finds nothing to do. -/
def schedC09 : List Ev :=
  [.go (inp none), .go (inp (some ("b", 1))), .go (inp none), .go (inp none),
   .app [.put app [2] [66]],
   .go (inp none), .go (inp (some ("b", 1))), .go (inp none), .go (inp none), .go (inp none),
   .app [.put app [3] [67]],
   .go (inp none), .go (inp none),
   .go (inp none), .go (inp none), .go (inp none)]

/-- **D9, publishing half, after `LoadOnce`** (native mode): `schedC03` on a native instance, then
    to the end of the iteration: nothing is destroyed, but `[2]` is never uploaded. -/
def schedC09n : List Ev := schedC03 ++ [.go (inp none), .go (inp none)]

/-- a race-free schedule: the application writes while the loop sleeps; the next iteration
    publishes it -/
def schedOk : List Ev :=
  [.go (inp none), .go (inp (some ("b", 1))), .go (inp none), .go (inp none),
   .app [.put app [2] [66]],
   .go (inp none), .go (inp none), .go (inp none), .go (inp none), .go (inp none), .go (inp none)]

end Ls.Loop.Witness
