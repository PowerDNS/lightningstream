import LsLemmas.TxnMirrorCapture
import LsLemmas.TxnMirrorProject
import LsLemmas.TxnMirrorLoad
/-
  Whole transactions: the phases of `LoadOnce` and `SendOnce`; one non-native `LoadOnce` seen from
  one ordinary application DBI and its shadow.
-/
namespace Ls.Txn
open Ls Ls.Lmdb Ls.Strategy Ls.Merge

/-- the three phases of a successful non-native `LoadOnce` -/
theorem loadOnce_shadow_ok {c : Cfg} {e : Env} {snap : Snap} {lastSynced now cutoff : Nat} {r : LoadRes}
    (hn : c.native = false) (h : loadOnce c e snap lastSynced now cutoff = .ok r) :
    ∃ w1 w2 w3,
      (if lastSynced < e.lastTxn then mainToShadow c ⟨e.dbis, false⟩ (e.lastTxn + 1) now cutoff = .ok w1
       else w1 = ⟨e.dbis, false⟩) ∧
      snap.dbs.foldlM (loadDbi c snap (e.lastTxn + 1) cutoff) w1 = .ok w2 ∧
      shadowToMain c w2 = .ok w3 ∧
      r.env = commit e w3 ∧ r.localChanged = decide (lastSynced < e.lastTxn) ∧
      r.txnID = (if (commit e w3).lastTxn < e.lastTxn + 1 then (commit e w3).lastTxn else e.lastTxn + 1) := by
  obtain ⟨w0, w1, w2, h0, h1, h2, rfl⟩ := loadOnce_ok.mp h
  simp only [preLoad, hn, true_and] at h0
  simp only [postLoad, hn, Bool.false_eq_true, if_false] at h2
  refine ⟨w0, w1, w2, ?_, h1, h2, rfl, rfl, (commit_lastTxn_min e w2).symm⟩
  split at h0
  · rename_i hl; rw [if_pos hl]; exact h0
  · rename_i hl; rw [if_neg hl]; exact (Except.ok.inj h0).symm

/-- a successful native `LoadOnce` is the fold of `loadDbi` over the messages, committed -/
theorem loadOnce_native_ok {c : Cfg} {e : Env} {snap : Snap} {lastSynced now cutoff : Nat} {r : LoadRes}
    (hn : c.native = true) (h : loadOnce c e snap lastSynced now cutoff = .ok r) :
    ∃ w1, snap.dbs.foldlM (loadDbi c snap (e.lastTxn + 1) cutoff) ⟨e.dbis, false⟩ = .ok w1 ∧
      r.env = commit e w1 ∧ r.localChanged = decide (lastSynced < e.lastTxn) ∧
      r.txnID = (if (commit e w1).lastTxn < e.lastTxn + 1 then (commit e w1).lastTxn else e.lastTxn + 1) := by
  obtain ⟨w0, w1, w2, h0, h1, h2, rfl⟩ := loadOnce_ok.mp h
  simp only [preLoad, hn, Bool.true_eq_false, false_and, if_false] at h0
  simp only [postLoad, hn, if_true] at h2
  cases h0
  cases h2
  exact ⟨w1, h1, rfl, rfl, (commit_lastTxn_min e w1).symm⟩

/-- `SendOnce` in shadow mode is the capture pass, committed; in native mode it writes nothing -/
theorem sendOnce_env {c : Cfg} {e : Env} {now cutoff : Nat} {r : SendRes}
    (h : sendOnce c e now cutoff = .ok r) :
    (c.native = true → r.env = e) ∧
    (c.native = false → ∃ w', mainToShadow c ⟨e.dbis, false⟩ (e.lastTxn + 1) now cutoff = .ok w' ∧
      r.env = commit e w') := by
  obtain ⟨w, dbs, hw, _, rfl⟩ := sendOnce_ok.mp h
  unfold dumpState at hw
  unfold sendEnv
  cases hn : c.native with
  | true => exact ⟨fun _ => rfl, nofun⟩
  | false =>
    rw [hn] at hw
    exact ⟨nofun, fun _ => ⟨w, hw, rfl⟩⟩

/-- what one ordinary application DBI `n` (content `d`) and its shadow look like after a successful
    non-native `LoadOnce`: `kvs1` is the shadow content after the capture phase, `kvs2` after the
    merge of the snapshot, `kvs3` the application content after the projection -/
theorem loadOnce_shadow_track {c : Cfg} {e : Env} {snap : Snap} {lastSynced now cutoff : Nat} {r : LoadRes}
    (hn : c.native = false) (hdist : DistinctNames e.dbis)
    (h : loadOnce c e snap lastSynced now cutoff = .ok r)
    {n : Bytes} {d : Dbi} (hp : isPrivate n = false) (hd : findDbi e.dbis n = some d)
    (hnd : isDupSort d.flags = false)
    (hA : Sorted (isIntKey d.flags) d.kvs) (hAK : DKeysOK d.kvs)
    (hsh : ∀ sd, findDbi e.dbis (shadowName n) = some sd →
      isIntKey sd.flags = isIntKey d.flags ∧ Sorted (isIntKey d.flags) sd.kvs ∧ DKeysOK sd.kvs)
    (hex : ¬ lastSynced < e.lastTxn → (findDbi e.dbis (shadowName n)).isSome = true) :
    ∃ kvs1 kvs2 kvs3,
      isIntKey (shadowOf ⟨e.dbis, false⟩ n d).flags = isIntKey d.flags ∧
      (if lastSynced < e.lastTxn then
        ∀ k, captureSpec (captureCfg (e.lastTxn + 1) now cutoff) (get (isIntKey d.flags) d.kvs k)
          (get (isIntKey d.flags) (shadowOf ⟨e.dbis, false⟩ n d).kvs k) = .ok (get (isIntKey d.flags) kvs1 k)
       else kvs1 = (shadowOf ⟨e.dbis, false⟩ n d).kvs) ∧
      findDbi r.env.dbis (shadowName n) = some { shadowOf ⟨e.dbis, false⟩ n d with kvs := kvs2 } ∧
      findDbi r.env.dbis n = some { d with kvs := kvs3 } ∧
      Sorted (isIntKey d.flags) kvs2 ∧ DKeysOK kvs2 ∧ Sorted (isIntKey d.flags) kvs3 ∧ DKeysOK kvs3 ∧
      (∀ k, get (isIntKey d.flags) kvs3 k = (get (isIntKey d.flags) kvs2 k).bind projVal) ∧
      (∀ p ∈ kvs2, ∃ hd v, Header.parse p.2 = .ok (hd, v)) ∧
      (∀ k, (∀ m ∈ snap.dbs, isPrivate m.name = false → m.name = n →
          KeepAll (loadCfg c snap (e.lastTxn + 1) cutoff) (isIntKey d.flags) k
            (get (isIntKey d.flags) kvs1 k) m.entries) →
        get (isIntKey d.flags) kvs2 k = get (isIntKey d.flags) kvs1 k) := by
  obtain ⟨w1, w2, w3, h1, h2, h3, henv, _, _⟩ := loadOnce_shadow_ok hn h
  have hdbis : r.env.dbis = w3.dbis := by rw [henv]; rfl
  rw [hdbis]
  -- the shadow at the start: the existing one, or a new empty one
  obtain ⟨hik, hS0, hK0⟩ : isIntKey (shadowOf ⟨e.dbis, false⟩ n d).flags = isIntKey d.flags ∧
      Sorted (isIntKey d.flags) (shadowOf ⟨e.dbis, false⟩ n d).kvs ∧ DKeysOK (shadowOf ⟨e.dbis, false⟩ n d).kvs := by
    cases hs : findDbi e.dbis (shadowName n) with
    | none =>
      obtain ⟨a, b⟩ := shadowOf_isIntKey_new (w := ⟨e.dbis, false⟩) (d := d) hs
      rw [b]
      exact ⟨a, sorted_nil _, fun p hp => by cases hp⟩
    | some sd =>
      rw [shadowOf_of_some (w := ⟨e.dbis, false⟩) (d := d) hs]
      exact hsh sd hs
  -- phase 1: capture
  obtain ⟨kvs1, hdist1, hd1, hsd1, hS1, hK1, hcap⟩ : ∃ kvs1, DistinctNames w1.dbis ∧ findDbi w1.dbis n = some d ∧
      findDbi w1.dbis (shadowName n) = some { shadowOf ⟨e.dbis, false⟩ n d with kvs := kvs1 } ∧
      Sorted (isIntKey d.flags) kvs1 ∧ DKeysOK kvs1 ∧
      (if lastSynced < e.lastTxn then
        ∀ k, captureSpec (captureCfg (e.lastTxn + 1) now cutoff) (get (isIntKey d.flags) d.kvs k)
          (get (isIntKey d.flags) (shadowOf ⟨e.dbis, false⟩ n d).kvs k) = .ok (get (isIntKey d.flags) kvs1 k)
       else kvs1 = (shadowOf ⟨e.dbis, false⟩ n d).kvs) := by
    split at h1
    · rename_i hl
      obtain ⟨kvs', hf, hrest⟩ := mainToShadow_nondup (w := ⟨e.dbis, false⟩) hdist h1 hp hd hnd
      rw [hik] at hrest
      obtain ⟨hS', hK', hget⟩ := hrest hA hAK hS0 hK0
      exact ⟨kvs', (mainToShadow_frame h1).1 hdist, (mainToShadow_app_unchanged h1 n hp).trans hd, hf, hS', hK',
        by rw [if_pos hl]; exact hget⟩
    · rename_i hl
      subst h1
      cases hs : findDbi e.dbis (shadowName n) with
      | none => have := hex hl; rw [hs] at this; cases this
      | some sd =>
        refine ⟨_, hdist, hd, ?_, hS0, hK0, by rw [if_neg hl]⟩
        rw [shadowOf_of_some (w := ⟨e.dbis, false⟩) (d := d) hs]
  -- phase 2: merge of the snapshot into the shadow
  obtain ⟨hd2, kvs2, hsd2, hS2, hK2, hkeep⟩ :=
    loadFold_shadow_track hn hp snap.dbs h2 hd1 hsd1 (by rw [hik]; exact hS1) hK1
  rw [hik] at hS2 hkeep
  -- phase 3: projection
  obtain ⟨sd2, kvs3, hsd2', hd3, hparse, hproj⟩ :=
    shadowToMain_nondup ((loadFold_edits h2).distinct hdist1) h3 hp hd2 hnd
  cases hsd2.symm.trans hsd2'
  obtain ⟨hS3, hK3, hget3⟩ := hproj hA hAK hS2 hK2
  refine ⟨kvs1, kvs2, kvs3, hik, hcap, ?_, hd3, hS2, hK2, hS3, hK3, hget3, hparse, hkeep⟩
  rw [(shadowToMain_frame h3).2.2 (shadowName n) (isPrivate_shadowName n)]
  exact hsd2

end Ls.Txn
