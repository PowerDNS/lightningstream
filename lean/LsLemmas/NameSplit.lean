import LsModel.Name
/- strings.Cut, strings.Split and Join on "__", the safe alphabet and the sanitiser; then ParseName
   against BuildName: parsing a built name, and what an accepted name is. -/
namespace Ls.Name
open Ls

/-- every byte is an ASCII letter, a digit or '-' (decidable) -/
def Safe (b : Bytes) : Prop := ∀ c ∈ b, isSafe c = true

instance (b : Bytes) : Decidable (Safe b) := by unfold Safe; infer_instance

theorem Safe.no_us {b : Bytes} (h : Safe b) : us ∉ b := fun hm => absurd (h us hm) (by decide)
theorem Safe.no_dot {b : Bytes} (h : Safe b) : dot ∉ b := fun hm => absurd (h dot hm) (by decide)

theorem cutDot_append (base ext : Bytes) (h : dot ∉ base) :
    cutDot (base ++ dot :: ext) = some (base, ext) := by
  induction base with
  | nil => simp [cutDot]
  | cons c base ih =>
    have hc : c ≠ dot := fun he => h (by simp [he])
    have hb : dot ∉ base := fun hm => h (by simp [hm])
    simp [cutDot, hc, ih hb]

theorem cutDot_none (s : Bytes) : cutDot s = none ↔ dot ∉ s := by
  induction s with
  | nil => simp [cutDot]
  | cons c s ih =>
    rw [cutDot, List.mem_cons, not_or, ← ih]
    split
    · simp [*]
    · rename_i hc
      have hc' : ¬ dot = c := fun h => hc h.symm
      split <;> simp [*]

theorem cutDot_some (s base ext : Bytes) (h : cutDot s = some (base, ext)) :
    s = base ++ dot :: ext ∧ dot ∉ base := by
  induction s generalizing base with
  | nil => cases h
  | cons c s ih =>
    rw [cutDot] at h
    split at h
    · cases h; subst c; simp
    · rename_i hc
      split at h
      · cases h
      · rename_i a b hcut
        cases h
        obtain ⟨h1, h2⟩ := ih a hcut
        exact ⟨by rw [h1]; rfl, by simp [Ne.symm hc, h2]⟩

theorem splitUU_ne_nil (s : Bytes) : splitUU s ≠ [] := by
  match s with
  | [] => simp [splitUU]
  | [c] => simp [splitUU]
  | c :: d :: rest =>
    rw [splitUU]
    split
    · simp
    · cases splitUU (d :: rest) <;> simp [consHead]

theorem joinUU_consHead (c : UInt8) (l : List Bytes) (h : l ≠ []) :
    joinUU (consHead c l) = c :: joinUU l := by
  match l with
  | [] => exact absurd rfl h
  | [p] => simp [consHead, joinUU]
  | p :: q :: ps => simp [consHead, joinUU]

theorem joinUU_splitUU (s : Bytes) : joinUU (splitUU s) = s := by
  match s with
  | [] => simp [splitUU, joinUU]
  | [c] => simp [splitUU, joinUU]
  | c :: d :: rest =>
    rw [splitUU]
    split
    · rename_i h
      have ih := joinUU_splitUU rest
      cases hs : splitUU rest with
      | nil => exact absurd hs (splitUU_ne_nil rest)
      | cons q ps =>
        rw [hs] at ih
        simp [joinUU, uu, ih, h.1, h.2]
    · rw [joinUU_consHead _ _ (splitUU_ne_nil _), joinUU_splitUU (d :: rest)]
termination_by s.length

/-- a byte other than '_' goes to the front of the first piece, whatever follows -/
theorem splitUU_cons_of_ne (c : UInt8) (s : Bytes) (hc : c ≠ us) :
    splitUU (c :: s) = consHead c (splitUU s) := by
  cases s with
  | nil => rfl
  | cons d rest => rw [splitUU, if_neg (fun h => hc h.1)]

theorem splitUU_single (p : Bytes) (h : us ∉ p) : splitUU p = [p] := by
  induction p with
  | nil => rfl
  | cons c p ih =>
    rw [List.mem_cons, not_or] at h
    rw [splitUU_cons_of_ne c p (Ne.symm h.1), ih h.2]; rfl

theorem splitUU_append (p rest : Bytes) (h : us ∉ p) :
    splitUU (p ++ us :: us :: rest) = p :: splitUU rest := by
  induction p with
  | nil => simp [splitUU]
  | cons c p ih =>
    rw [List.mem_cons, not_or] at h
    rw [List.cons_append, splitUU_cons_of_ne c _ (Ne.symm h.1), ih h.2]; rfl

theorem splitUU_joinUU (fields : List Bytes) (hne : fields ≠ []) (h : ∀ f ∈ fields, us ∉ f) :
    splitUU (joinUU fields) = fields := by
  match fields with
  | [] => exact absurd rfl hne
  | [p] => simpa [joinUU] using splitUU_single p (h p (by simp))
  | p :: q :: ps =>
    have ih := splitUU_joinUU (q :: ps) (by simp) (fun f hf => h f (List.mem_cons_of_mem _ hf))
    simp only [joinUU, uu, List.append_assoc, List.cons_append, List.nil_append]
    rw [splitUU_append p _ (h p (by simp)), ih]

theorem not_mem_joinUU (c : UInt8) (hc : c ≠ us) (fields : List Bytes) (h : ∀ f ∈ fields, c ∉ f) :
    c ∉ joinUU fields := by
  match fields with
  | [] => simp [joinUU]
  | [p] => simpa [joinUU] using h p (by simp)
  | p :: q :: ps =>
    have ih := not_mem_joinUU c hc (q :: ps) (fun f hf => h f (List.mem_cons_of_mem _ hf))
    have hp := h p (by simp)
    have hc' : ¬ c = us := hc
    simp only [joinUU, uu, List.mem_append, List.mem_cons, List.not_mem_nil, or_false, not_or]
    exact ⟨⟨hp, hc', hc'⟩, ih⟩

/-- two separator-free strings followed by the separator: one is a prefix of the other only if
    the strings are equal -/
theorem prefix_sep_eq (d d' x y : Bytes) (h : us ∉ d) (h' : us ∉ d')
    (hp : (d ++ us :: x) <+: (d' ++ us :: y)) : d = d' := by
  induction d generalizing d' with
  | nil =>
    cases d' with
    | nil => rfl
    | cons c d' =>
      simp only [List.nil_append, List.cons_append, List.cons_prefix_cons] at hp
      exact absurd (by simp [hp.1]) h'
  | cons c d ih =>
    cases d' with
    | nil =>
      simp only [List.nil_append, List.cons_append, List.cons_prefix_cons] at hp
      exact absurd (by simp [hp.1]) h
    | cons c' d' =>
      simp only [List.cons_append, List.cons_prefix_cons] at hp
      rw [hp.1, ih d' (fun hm => h (List.mem_cons_of_mem _ hm)) (fun hm => h' (List.mem_cons_of_mem _ hm)) hp.2]

theorem pairwise_last {α} (R : α → α → Prop) (l : List α) (hne : l ≠ []) (h : l.Pairwise R) :
    ∀ a ∈ l, a = l.getLast hne ∨ R a (l.getLast hne) := by
  intro a ha
  rw [← List.dropLast_concat_getLast hne, List.pairwise_append] at h
  rw [← List.dropLast_concat_getLast hne, List.mem_append, List.mem_singleton] at ha
  rcases ha with ha | rfl
  · exact .inr (h.2.2 a ha _ (List.mem_singleton_self _))
  · exact .inl rfl

theorem sanitizeAux_safe (k : Nat) (s : Bytes) : Safe (sanitizeAux k s) := by
  induction s generalizing k with
  | nil => intro c hc; simp [sanitizeAux] at hc
  | cons b rest ih =>
    cases k with
    | succ k => simpa [sanitizeAux] using ih k
    | zero =>
      intro c hc
      unfold sanitizeAux at hc
      split at hc
      · simp only [List.mem_cons] at hc
        rcases hc with rfl | hc
        · split
          · assumption
          · decide
        · exact ih 0 c hc
      · simp only [List.mem_cons] at hc
        rcases hc with rfl | hc
        · decide
        · exact ih _ c hc

theorem isSafe_lt_128 (b : UInt8) (h : isSafe b = true) : b < 0x80 := by
  simp only [isSafe, Bool.or_eq_true, Bool.and_eq_true, decide_eq_true_eq, beq_iff_eq, dash,
    UInt8.le_iff_toNat_le] at h
  rw [UInt8.lt_iff_toNat_lt]
  rcases h with ((h | h) | h) | h
  · have := h.2; simp at this ⊢; omega
  · have := h.2; simp at this ⊢; omega
  · have := h.2; simp at this ⊢; omega
  · subst h; decide

theorem sanitizeAux_id (s : Bytes) (h : Safe s) : sanitizeAux 0 s = s := by
  induction s with
  | nil => rfl
  | cons b rest ih =>
    have hb := h b (by simp)
    rw [sanitizeAux, if_pos (isSafe_lt_128 b hb), if_pos hb, ih (fun c hc => h c (List.mem_cons_of_mem _ hc))]

theorem sanitizeAux_ne_nil (b : UInt8) (rest : Bytes) : sanitizeAux 0 (b :: rest) ≠ [] := by
  rw [sanitizeAux]; split <;> simp

theorem sanitizeAux_length_le (k : Nat) (s : Bytes) : (sanitizeAux k s).length ≤ s.length := by
  induction s generalizing k with
  | nil => simp [sanitizeAux]
  | cons b rest ih =>
    cases k with
    | succ k => have := ih k; simp only [sanitizeAux, List.length_cons]; omega
    | zero =>
      rw [sanitizeAux]
      split
      · have := ih 0; simp only [List.length_cons]; omega
      · have := ih (runeLen b rest - 1); simp only [List.length_cons]; omega

/-- Parsing a built name gives its components back, for any timestamp string of the right shape
    that `time.Parse` accepts. -/
theorem parseName_buildNameTs (db inst tss gen : Bytes) (extras : List Bytes) (ext kind : Bytes)
    (c : Civil.Civil) (hus : ∀ f ∈ db :: inst :: tss :: gen :: extras, us ∉ f)
    (hdot : ∀ f ∈ db :: inst :: tss :: gen :: extras, dot ∉ f) (hext : lookupExt ext = some kind)
    (hlen : tss.length = tsLen) (hdash : tss.getD Gen.dotIndex 0 = dash)
    (htp : timeParse tss = some c) :
    parseName (buildNameTs db inst tss gen extras ext)
      = .ok { fullName := buildNameTs db inst tss gen extras ext,
              baseName := joinUU (db :: inst :: tss :: gen :: extras),
              ext := ext, kind := kind, db := db, inst := inst, tss := tss, gen := gen,
              extras := extras, time := c } := by
  have hcut := cutDot_append _ ext (not_mem_joinUU dot (by decide) _ hdot)
  have hsplit := splitUU_joinUU _ (List.cons_ne_nil _ _) hus
  unfold parseName
  simp only [buildNameTs, List.append_assoc, List.singleton_append]
  rw [hcut]
  simp only [hext, hsplit]
  rw [if_neg (fun h => h.elim (· hlen) (· hdash)), htp]

/-- What `ParseName` accepts: the first '.' cuts off a registered extension, the rest splits at "__"
    into at least four fields, the third a timestamp string that `time.Parse` accepts, and
    `BuildName` of the parts gives the name back. -/
theorem parseName_ok (s : Bytes) (ni : NameInfo) (h : parseName s = .ok ni) :
    s = ni.baseName ++ dot :: ni.ext ∧ dot ∉ ni.baseName ∧ ni.fullName = s ∧
    lookupExt ni.ext = some ni.kind ∧
    ni.baseName = joinUU (ni.db :: ni.inst :: ni.tss :: ni.gen :: ni.extras) ∧
    splitUU ni.baseName = ni.db :: ni.inst :: ni.tss :: ni.gen :: ni.extras ∧
    ni.tss.length = tsLen ∧ ni.tss.getD Gen.dotIndex 0 = dash ∧ timeParse ni.tss = some ni.time ∧
    buildNameTs ni.db ni.inst ni.tss ni.gen ni.extras ni.ext = s := by
  unfold parseName at h
  split at h
  · cases h
  · rename_i base ext hcut
    split at h
    · cases h
    · rename_i kind hk
      split at h
      · rename_i db inst tss gen extras hsp
        split at h
        · cases h
        · rename_i hfmt
          split at h
          · cases h
          · rename_i c htp
            cases h
            obtain ⟨hs, hnd⟩ := cutDot_some s base ext hcut
            have hj : base = joinUU (db :: inst :: tss :: gen :: extras) := by
              rw [← hsp, joinUU_splitUU]
            refine ⟨hs, hnd, rfl, hk, hj, hsp, Classical.byContradiction fun hh => hfmt (.inl hh),
              Classical.byContradiction fun hh => hfmt (.inr hh), htp, ?_⟩
            simp only [buildNameTs]
            rw [← hj, hs]; simp
      · cases h

/-- a name does not start with the listing prefix of another database -/
theorem buildName_db_prefix (d d' inst gen : Bytes) (extras : List Bytes) (t : Nat) (ext : Bytes)
    (hd : us ∉ d) (hd' : us ∉ d') (hp : (d ++ uu) <+: buildName d' inst gen extras t ext) : d = d' := by
  have hb : buildName d' inst gen extras t ext
      = d' ++ us :: (us :: (joinUU (inst :: nameTimestamp t :: gen :: extras) ++ [dot] ++ ext)) := by
    simp [buildName, buildNameTs, joinUU, uu, List.append_assoc]
  rw [hb] at hp
  exact prefix_sep_eq d d' [us] _ hd hd' hp

end Ls.Name
