import LsLemmas.LoopStep
/-
  Schedules of one sync loop, and ghost bookkeeping around the model's state.

  A schedule is a list of events folded from `init env`:
    go i      – the loop runs from its yield point to the next one (`SyncLoop.go`),
    app ops   – an application transaction commits at the current yield point (`appCommit`),
    list      – the receiver lists the bucket (`listed`),
    others bs – other instances store blobs.
  The ghost state `G` wraps the model's `St` and the bucket; it never influences the model
  (`G.st`/`G.bucket` evolve exactly by `go` / `appCommit` / `listed`, see `step_st`).
  `Seg` lists, path by path, what a `go` event does to state, bucket and ghost state (`go_seg`);
  the facts about segments in the later modules are case analyses of it.
-/
namespace Ls.Loop
open Ls Ls.Txn Ls.SyncLoop

inductive Ev where
  | go (i : In)
  | app (ops : List AppOp)
  | list
  | others (bs : List Blob)

/-- ghost bookkeeping (never read by the model) -/
structure Gh where
  /-- ids of recorded application transactions not known to be captured into the shadow DBIs
      (cleared by a `LoadOnce` with `localChanged` and by `SendOnce`'s transaction; the start-up
      capture is deliberately not counted, which only makes the set larger) -/
  uncap : List Nat
  /-- ids of recorded application transactions made after the latest dump (`SendOnce`
      transaction) began — no dump covers them yet -/
  unpub : List Nat
  /-- ids covered by a dump that has not been stored (yet) -/
  inflight : List Nat
  /-- ids covered by a dump that was stored in the bucket -/
  published : List Nat
  /-- all ids of recorded application transactions -/
  allApp : List Nat
  /-- ids of the application transactions recorded since the latest `beforeInfo` step -/
  sinceInfo : List Nat
  /-- an application transaction was recorded since the latest dump began (or since `init`) -/
  appDirty : Bool
  /-- the LMDB was non-empty at start-up and no dump has begun yet in this run -/
  startDirty : Bool
  /-- `appDirty` / `startDirty` at the moment the latest dump began -/
  sendApp : Bool
  sendStart : Bool
  /-- number of blobs this instance stored -/
  stores : Nat
  /-- the waiting set right after start-up -/
  startSet : List InstId
  /-- instances for which a load of one of their snapshots began -/
  merged : List InstId
  /-- instances dropped from the waiting set because the receiver no longer saw them -/
  gone : List InstId

structure G where
  st : St
  bucket : Bucket
  gh : Gh

def Gh.init : Gh :=
  { uncap := [], unpub := [], inflight := [], published := [],
    allApp := [], sinceInfo := [], appDirty := false, startDirty := false, sendApp := false,
    sendStart := false, stores := 0, startSet := [], merged := [], gone := [] }

def G.init (env : Env) (b : Bucket) : G := { st := SyncLoop.init env, bucket := b, gh := Gh.init }

/-- did LMDB record this application transaction (it changed something)? -/
def recorded (s : St) (ops : List AppOp) : Bool := (appCommit s ops).env.lastTxn != s.env.lastTxn

/-- ghost effect of the beginning of a dump (`SendOnce`'s transaction committed) -/
def Gh.beginDump (g : Gh) : Gh :=
  { g with uncap := [], inflight := g.inflight ++ g.unpub, unpub := [],
           sendApp := g.appDirty, sendStart := g.startDirty, appDirty := false, startDirty := false }

/-- ghost effect of a recorded application transaction with id `p` -/
def Gh.app (g : Gh) (p : Nat) : Gh :=
  { g with uncap := p :: g.uncap, unpub := p :: g.unpub, allApp := p :: g.allApp,
           sinceInfo := p :: g.sinceInfo, appDirty := true }

/-- the instance whose snapshot `goRaw` starts to load from state `s` with input `i`, if any -/
def pollTarget (b : Bucket) (s : St) (i : In) : Option InstId :=
  let tgt : Option InstId :=
    match i.next with
    | none => none
    | some (inst, ts) => (findBlob b inst ts).map fun _ => inst
  match s.pc with
  | .top => tgt
  | .loadAfterTxn _ lc _ _ n => if lc = true ∧ n > maxConsecutive then none else tgt
  | _ => none

/-- does `goRaw` run `afterLoads` from state `s` with input `i`? -/
def runsAfterLoads (s : St) (i : In) : Bool :=
  match s.pc with
  | .top => i.next.isNone
  | .loadAfterTxn _ lc _ _ n => (lc && decide (n > maxConsecutive)) || i.next.isNone
  | _ => false

/-- ghost effect of a `go` segment from state `s` (bucket `b`, input `i`), read off the old
    program counter, the new one (`pc'`) and the new waiting set (`w'`) -/
def Gh.afterGo (g : Gh) (b : Bucket) (s : St) (i : In) (pc' : Pc) (w' : List InstId) : Gh :=
  let g1 : Gh :=
    { g with merged := match pollTarget b s i with
                       | some x => x :: g.merged
                       | none => g.merged,
             gone := if runsAfterLoads s i then
                       g.gone ++ s.waiting.filter (fun x => !s.seen.contains x)
                     else g.gone }
  match s.pc, pc' with
  | .boot, .sendAfterTxn .. =>
    Gh.beginDump { g1 with startDirty := decide (0 < s.env.lastTxn), startSet := w' }
  | .boot, _ => { g1 with startDirty := decide (0 < s.env.lastTxn), startSet := w' }
  | .beforeSend, .sendAfterTxn .. => Gh.beginDump g1
  | .top, .loadAfterTxn _ true .. => { g1 with uncap := [] }
  | .loadAfterTxn .., .loadAfterTxn _ true .. => { g1 with uncap := [] }
  | .beforeInfo, _ => { g1 with sinceInfo := [] }
  | .sendAfterTxn .., .sendStored .. =>
    { g1 with published := g.published ++ g.inflight, inflight := [], stores := g.stores + 1 }
  | _, _ => g1

/-- ghost effect of the start-up part of the first segment (before a possible start-up dump) -/
def Gh.started (gh : Gh) (s : St) (b : Bucket) : Gh :=
  { gh with startDirty := decide (0 < s.env.lastTxn), startSet := instancesOf b }

/-- **What one segment does**, path by path: from state `s` with bucket `b`, input `i` and ghost
    state `gh` to the new state, bucket and ghost state. (When the main loop is reached for the
    first time the receiver's goroutine lists the bucket: the `seen`, `bgListed` of the paths that
    end at `top`.) -/
inductive Seg (c : LoopCfg) (b : Bucket) (s : St) (i : In) (gh : Gh) : St → Bucket → Gh → Prop
  -- start-up: listing, capture, and `SendOnce` if the LMDB has data and the bucket is empty
  | bootFailed (env : Env) (cls : String) : s.pc = .boot →
      env = s.env ∨ startCapture c s.env = .ok env →
      Seg c b s i gh { startSt s b env with pc := .exited (.err cls) } b (gh.started s b)
  | booted (env : Env) : s.pc = .boot → startCapture c s.env = .ok env →
      ¬ (s.env.lastTxn > 0 ∧ b = []) → Seg c b s i gh (atTop (startSt s b env) b) b (gh.started s b)
  | bootDumped (env : Env) (r : SendRes) : s.pc = .boot → startCapture c s.env = .ok env →
      s.env.lastTxn > 0 → b = [] → sendOnce c.txn env i.now 0 = .ok r →
      Seg c b s i gh
        { startSt s b r.env with
          pc := .sendAfterTxn .initial (if c.txn.native then env.lastTxn else env.lastTxn + 1) i.now r.snap }
        b (gh.started s b).beginDump
  -- the load part (from `top` or from the yield point after a `LoadOnce` transaction)
  | endLoads : InLoads s → runsAfterLoads s i = true →
      Seg c b s i gh
        { s with lastBy := loadLastBy s, lastSynced := loadSynced s,
                 waiting := s.waiting.filter (fun x => s.seen.contains x), pc := .beforeInfo } b
        { gh with gone := gh.gone ++ s.waiting.filter (fun x => !s.seen.contains x) }
  | unknown (inst : InstId) (ts : Nat) : InLoads s → i.next = some (inst, ts) →
      findBlob b inst ts = none →
      Seg c b s i gh
        { s with lastBy := loadLastBy s, lastSynced := loadSynced s, pc := .exited (.err "unknown-snapshot") }
        b gh
  | loadFailed (inst : InstId) (e : Txn.Err) : InLoads s → pollTarget b s i = some inst →
      Seg c b s i gh
        { s with lastBy := loadLastBy s, lastSynced := loadSynced s,
                 waiting := s.waiting.filter (· != inst), pc := .exited (.err e.cls) } b
        { gh with merged := inst :: gh.merged }
  | loaded (inst : InstId) (ts n : Nat) (blob : Blob) (r : LoadRes) : InLoads s →
      pollTarget b s i = some inst →
      prePoll s = some ({ s with lastBy := loadLastBy s, lastSynced := loadSynced s }, n) →
      i.next = some (inst, ts) → findBlob b inst ts = some blob →
      loadOnce c.txn s.env blob.snap (loadSynced s) i.now 0 = .ok r →
      Seg c b s i gh
        { s with lastBy := loadLastBy s, lastSynced := loadSynced s,
                 waiting := s.waiting.filter (· != inst), env := r.env,
                 pc := .loadAfterTxn (s.env.lastTxn + 1) r.localChanged inst ts (n + 1) } b
        { gh with merged := inst :: gh.merged, uncap := if r.localChanged then [] else gh.uncap }
  -- the change check (`emptyGuard`: only with the force flag armed, so never along a `run`)
  | noSend : s.pc = .beforeInfo →
      c.own ∈ s.waiting ∨ (s.env.lastTxn ≤ s.lastSynced ∧ s.forceArmed = false) →
      Seg c b s i gh { s with pc := tailPc c s.waiting } b { gh with sinceInfo := [] }
  | emptyGuard : s.pc = .beforeInfo → s.forceArmed = true → c.own ∉ s.waiting →
      s.hasDataAtStart = false → s.env.lastTxn = 0 →
      Seg c b s i gh { s with lastSynced := s.env.lastTxn, pc := tailPc c s.waiting } b
        { gh with sinceInfo := [] }
  | toSend : s.pc = .beforeInfo → s.env.lastTxn > s.lastSynced ∨ s.forceArmed = true →
      c.own ∉ s.waiting → s.hasDataAtStart = true ∨ s.env.lastTxn > 0 →
      Seg c b s i gh { s with lastSynced := s.env.lastTxn, pc := .beforeSend } b { gh with sinceInfo := [] }
  -- `SendOnce`'s transaction
  | sendFailed (e : Txn.Err) : s.pc = .beforeSend → sendOnce c.txn s.env i.now 0 = .error e →
      Seg c b s i gh { s with pc := .exited (.err e.cls) } b gh
  | dumped (r : SendRes) : s.pc = .beforeSend → sendOnce c.txn s.env i.now 0 = .ok r →
      Seg c b s i gh
        { s with env := r.env,
                 pc := .sendAfterTxn .loop (if c.txn.native then s.env.lastTxn else s.env.lastTxn + 1) i.now r.snap }
        b gh.beginDump
  -- the store (receive-only: `SendOnce` returns without one)
  | roInitial (t ts : Nat) (snap : Snap) : s.pc = .sendAfterTxn .initial t ts snap →
      c.txn.receiveOnly = true →
      Seg c b s i gh (atTop { s with lastSynced := if s.env.lastTxn < t then s.env.lastTxn else t } b) b gh
  | roLoop (t ts : Nat) (snap : Snap) : s.pc = .sendAfterTxn .loop t ts snap → c.txn.receiveOnly = true →
      Seg c b s i gh
        { s with lastSynced := if s.env.lastTxn < t then s.env.lastTxn else t, pc := tailPc c s.waiting } b gh
  | storeFailed (who : Caller) (t ts : Nat) (snap : Snap) : s.pc = .sendAfterTxn who t ts snap →
      c.txn.receiveOnly = false → i.fails ≥ c.retryCount →
      Seg c b s i gh { s with pc := .exited (.err "store") } b gh
  | stored (who : Caller) (t ts : Nat) (snap : Snap) : s.pc = .sendAfterTxn who t ts snap →
      c.txn.receiveOnly = false → i.fails < c.retryCount →
      Seg c b s i gh { s with pc := .sendStored who (if s.env.lastTxn < t then s.env.lastTxn else t) }
        (b ++ [{ inst := c.own, ts := ts, snap := snap }])
        { gh with published := gh.published ++ gh.inflight, inflight := [], stores := gh.stores + 1 }
  -- `SendOnce` returns after the store
  | doneInitial (t : Nat) : s.pc = .sendStored .initial t →
      Seg c b s i gh (atTop { stored s with lastSynced := t } b) b gh
  | doneLoop (t : Nat) : s.pc = .sendStored .loop t →
      Seg c b s i gh { stored s with lastSynced := t, pc := tailPc c s.waiting } b gh
  | woke : s.pc = .sleep → Seg c b s i gh (atTop s b) b gh
  | stay (e : Exit) : s.pc = .exited e → Seg c b s i gh s b gh

/-- the ghost effect of a segment that starts in the load part -/
theorem afterGo_loads {gh : Gh} {b : Bucket} {s : St} {i : In} {pc' : Pc} {w' : List InstId}
    (h : InLoads s) :
    gh.afterGo b s i pc' w' =
      { gh with merged := match pollTarget b s i with
                          | some x => x :: gh.merged
                          | none => gh.merged,
                gone := if runsAfterLoads s i then
                          gh.gone ++ s.waiting.filter (fun x => !s.seen.contains x)
                        else gh.gone,
                uncap := match pc' with
                         | .loadAfterTxn _ true _ _ _ => []
                         | _ => gh.uncap } := by
  unfold Gh.afterGo
  rcases h with h | ⟨t, lc, inst, ts, n, h⟩ <;> rw [h]
  all_goals
    cases pc' with
    | loadAfterTxn t lc a b c => cases lc <;> rfl
    | _ => rfl

/-- the load part of a segment: `poll` from the state in which the load part is entered -/
theorem seg_poll {c : LoopCfg} {b : Bucket} {s : St} {i : In} {gh : Gh} {n : Nat}
    (h : InLoads s)
    (hp : prePoll s = some ({ s with lastBy := loadLastBy s, lastSynced := loadSynced s }, n))
    (hr : runsAfterLoads s i = i.next.isNone)
    (ht : pollTarget b s i = match i.next with
                             | none => none
                             | some (inst, ts) => (findBlob b inst ts).map fun _ => inst) :
    Seg c b s i gh (poll c b { s with lastBy := loadLastBy s, lastSynced := loadSynced s } i n) b
      (gh.afterGo b s i (poll c b { s with lastBy := loadLastBy s, lastSynced := loadSynced s } i n).pc
        (poll c b { s with lastBy := loadLastBy s, lastSynced := loadSynced s } i n).waiting) := by
  rw [afterGo_loads h]
  have hp := poll_out c b { s with lastBy := loadLastBy s, lastSynced := loadSynced s } i n
  generalize poll c b { s with lastBy := loadLastBy s, lastSynced := loadSynced s } i n = s' at hp ⊢
  cases hp with
  | none hn =>
    rw [hn] at hr ht
    simp only [hr, ht, afterLoads]
    exact .endLoads h hr
  | unknown inst ts hn hb =>
    rw [hn] at hr ht
    simp only [hb] at ht
    simp only [hr, ht]
    exact .unknown inst ts h hn hb
  | failed inst ts blob e hn hb hl =>
    rw [hn] at hr ht
    simp only [hb] at ht
    simp only [hr, ht]
    exact .loadFailed inst e h ht
  | loaded inst ts blob r hn hb hl =>
    rw [hn] at hr ht
    simp only [hb] at ht
    simp only [hr, ht]
    have := Seg.loaded (c := c) (gh := gh) inst ts n blob r h ht hp hn hb hl
    cases hlc : r.localChanged <;> rw [hlc] at this <;> exact this

theorem go_seg (c : LoopCfg) (b : Bucket) (s : St) (i : In) (gh : Gh) :
    Seg c b s i gh (go c b s i).1 (go c b s i).2
      (gh.afterGo b s i (go c b s i).1.pc (go c b s i).1.waiting) := by
  rw [go_eq]
  cases hpc : s.pc with
  | exited e =>
    rw [goRaw_exited hpc, relist_of_ne_top (by rw [hpc]; nofun)]
    unfold Gh.afterGo pollTarget runsAfterLoads; rw [hpc]
    exact .stay e hpc
  | sleep =>
    rw [goRaw_sleep hpc, relist_top rfl]
    unfold Gh.afterGo pollTarget runsAfterLoads; rw [hpc]
    exact .woke hpc
  | sendStored who t =>
    rw [goRaw_sendStored hpc, sendReturned_eq]
    have hg : ∀ pc' w', gh.afterGo b s i pc' w' = gh := by
      intro pc' w'
      unfold Gh.afterGo pollTarget runsAfterLoads; rw [hpc]
      cases pc' <;> rfl
    rw [hg]
    cases who with
    | initial => rw [relist_top rfl]; exact .doneInitial t hpc
    | loop =>
      rw [relist_of_ne_top (tailPc_ne_top c _)]
      exact .doneLoop t hpc
  | sendAfterTxn who t ts snap =>
    rw [goRaw_sendAfterTxn hpc]
    by_cases hro : c.txn.receiveOnly = true
    · rw [if_pos hro, sendReturned_eq]
      have hg : ∀ pc' w', (∀ who' t', pc' ≠ .sendStored who' t') → gh.afterGo b s i pc' w' = gh := by
        intro pc' w' hne
        unfold Gh.afterGo pollTarget runsAfterLoads; rw [hpc]
        cases pc' with
        | sendStored who' t' => exact absurd rfl (hne who' t')
        | _ => rfl
      cases who with
      | initial =>
        rw [relist_top rfl, hg _ _ (by nofun)]
        exact .roInitial t ts snap hpc hro
      | loop =>
        have hne : ∀ who' t', tailPc c s.waiting ≠ .sendStored who' t' := by
          rcases tailPc_cases c s.waiting with h | ⟨h, _⟩ <;> rw [h] <;> nofun
        rw [relist_of_ne_top (tailPc_ne_top c _), hg _ _ hne]
        exact .roLoop t ts snap hpc hro
    · rw [if_neg hro]
      by_cases hf : i.fails ≥ c.retryCount
      · rw [if_pos hf, relist_of_ne_top (by simp)]
        unfold Gh.afterGo pollTarget runsAfterLoads; rw [hpc]
        exact .storeFailed who t ts snap hpc (by simpa using hro) hf
      · rw [if_neg hf, relist_of_ne_top (by simp)]
        unfold Gh.afterGo pollTarget runsAfterLoads; rw [hpc]
        exact .stored who t ts snap hpc (by simpa using hro) (by omega)
  | beforeSend =>
    rw [goRaw_beforeSend hpc, relist_of_ne_top (beginSend_ne_top c _ _ _)]
    unfold Gh.afterGo pollTarget runsAfterLoads; rw [hpc]
    unfold beginSend
    cases hr : sendOnce c.txn s.env i.now 0 with
    | error e => exact .sendFailed e hpc hr
    | ok r => exact .dumped r hpc hr
  | beforeInfo =>
    rw [goRaw_beforeInfo hpc]
    have hg : ∀ pc' w', gh.afterGo b s i pc' w' = { gh with sinceInfo := [] } := by
      intro pc' w'
      unfold Gh.afterGo pollTarget runsAfterLoads; rw [hpc]
      cases pc' <;> rfl
    simp only [afterSend_eq]
    by_cases hgt : s.env.lastTxn > s.lastSynced ∨ s.forceArmed = true
    · rw [if_pos hgt]
      by_cases hown : s.waiting.contains c.own = true
      · rw [if_pos hown, relist_of_ne_top (tailPc_ne_top c _), hg]
        exact .noSend hpc (Or.inl (by simpa using hown))
      · rw [if_neg hown]
        have hown' : c.own ∉ s.waiting := by simpa using hown
        by_cases hd : s.hasDataAtStart = true ∨ s.env.lastTxn > 0
        · rw [if_pos hd, relist_of_ne_top (by simp), hg]
          exact .toSend hpc hgt hown' hd
        · rw [if_neg hd, relist_of_ne_top (tailPc_ne_top c _), hg]
          have h0 : s.env.lastTxn = 0 := by omega
          refine .emptyGuard hpc ?_ hown' (by simpa using (not_or.mp hd).1) h0
          rcases hgt with h | h
          · omega
          · exact h
    · rw [if_neg hgt, relist_of_ne_top (tailPc_ne_top c _), hg]
      exact .noSend hpc (Or.inr ⟨by omega, by simpa using (not_or.mp hgt).2⟩)
  | top =>
    rw [goRaw_top hpc, relist_of_ne_top (poll_ne_top c b s i 0)]
    have e1 : loadLastBy s = s.lastBy := by unfold loadLastBy; rw [hpc]
    have e2 : loadSynced s = s.lastSynced := by unfold loadSynced; rw [hpc]
    have := seg_poll (c := c) (b := b) (i := i) (gh := gh) (n := 0) (Or.inl hpc)
      (by rw [e1, e2]; show prePoll s = some (s, 0); unfold prePoll; rw [hpc])
      (by unfold runsAfterLoads; rw [hpc]) (by unfold pollTarget; rw [hpc])
    rw [e1, e2] at this
    exact this
  | loadAfterTxn t lc inst ts n =>
    rw [goRaw_loadAfterTxn hpc, loadDone_eq hpc]
    have hl : InLoads s := Or.inr ⟨_, _, _, _, _, hpc⟩
    by_cases hbr : lc = true ∧ n > maxConsecutive
    · rw [if_pos hbr, relist_of_ne_top (by simp [afterLoads])]
      have hr : runsAfterLoads s i = true := by
        unfold runsAfterLoads; rw [hpc]; simp [hbr.1, hbr.2]
      have ht : pollTarget b s i = none := by
        unfold pollTarget; rw [hpc]; simp [hbr]
      rw [afterGo_loads hl]
      simp only [hr, ht, afterLoads]
      exact .endLoads hl hr
    · rw [if_neg hbr, relist_of_ne_top (poll_ne_top c b _ i n)]
      refine seg_poll hl ?_ ?_ ?_
      · rw [← loadDone_eq hpc]; unfold prePoll; rw [hpc]; exact if_neg hbr
      · unfold runsAfterLoads; rw [hpc]
        have : (lc && decide (n > maxConsecutive)) = false := by
          cases lc <;> simp at hbr ⊢; omega
        simp only [this, Bool.false_or]
      · unfold pollTarget; rw [hpc]; simp only [if_neg hbr]
  | boot =>
    rw [goRaw_boot hpc]
    cases he : startCapture c s.env with
    | error e =>
      simp only
      rw [relist_of_ne_top (by simp)]
      unfold Gh.afterGo pollTarget runsAfterLoads; rw [hpc]
      exact .bootFailed s.env e.cls hpc (Or.inl rfl)
    | ok env =>
      simp only
      by_cases hs : s.env.lastTxn > 0 ∧ b = []
      · rw [if_pos hs, relist_of_ne_top (beginSend_ne_top c _ _ _)]
        unfold Gh.afterGo pollTarget runsAfterLoads; rw [hpc]
        unfold beginSend
        cases hr : sendOnce c.txn (startSt s b env).env i.now 0 with
        | error e => exact .bootFailed env e.cls hpc (Or.inr he)
        | ok r => exact .bootDumped env r hpc he hs.1 hs.2 hr
      · rw [if_neg hs, relist_top rfl]
        unfold Gh.afterGo pollTarget runsAfterLoads; rw [hpc]
        exact .booted env hpc he hs

/-- a segment never arms the force flag (every path but the two from `sendStored`, which clear it,
    leaves it as it is) -/
theorem Seg.unarmed {c : LoopCfg} {b : Bucket} {s : St} {i : In} {gh : Gh} {s' : St} {b' : Bucket} {gh' : Gh}
    (h : Seg c b s i gh s' b' gh') (hu : s.forceArmed = false) : s'.forceArmed = false := by
  cases h <;> first | exact hu | rfl

/-- … and only the segment after a successful store (`sendStored`) clears it -/
theorem Seg.force_eq {c : LoopCfg} {b : Bucket} {s : St} {i : In} {gh : Gh} {s' : St} {b' : Bucket} {gh' : Gh}
    (h : Seg c b s i gh s' b' gh') (hn : ∀ who t, s.pc ≠ .sendStored who t) :
    s'.forceArmed = s.forceArmed := by
  -- every path keeps the flag, except the two from `sendStored`, excluded by `hn`
  cases h <;> first | rfl | exact absurd ‹_› (hn _ _)

theorem go_unarmed {c : LoopCfg} {b : Bucket} {s : St} {i : In} (h : s.forceArmed = false) :
    (go c b s i).1.forceArmed = false :=
  (go_seg c b s i Gh.init).unarmed h

theorem goRaw_unarmed {c : LoopCfg} {b : Bucket} {s : St} {i : In} (h : s.forceArmed = false) :
    (goRaw c b s i).1.forceArmed = false := by
  have h' := go_unarmed (c := c) (b := b) (i := i) h
  rw [go_eq] at h'
  unfold relist at h'
  split at h' <;> exact h'

def step (c : LoopCfg) (g : G) : Ev → G
  | .go i =>
    let r := go c g.bucket g.st i
    { st := r.1, bucket := r.2, gh := g.gh.afterGo g.bucket g.st i r.1.pc r.1.waiting }
  | .app ops =>
    let s' := appCommit g.st ops
    { g with st := s', gh := if recorded g.st ops then g.gh.app s'.env.lastTxn else g.gh }
  | .list => { g with st := listed g.bucket g.st }
  | .others bs => { g with bucket := g.bucket ++ bs }

def runFrom (c : LoopCfg) (g : G) (evs : List Ev) : G := evs.foldl (step c) g

def run (c : LoopCfg) (env : Env) (b : Bucket) (evs : List Ev) : G := runFrom c (G.init env b) evs

/-- the ghost fields never influence the model: state and bucket evolve by the model's functions -/
theorem step_st (c : LoopCfg) (g : G) (e : Ev) :
    ((step c g e).st, (step c g e).bucket) =
      match e with
      | .go i => go c g.bucket g.st i
      | .app ops => (appCommit g.st ops, g.bucket)
      | .list => (listed g.bucket g.st, g.bucket)
      | .others bs => (g.st, g.bucket ++ bs) := by
  cases e <;> rfl

/-- an application transaction as the loop's invariants see it: it changes nothing, or LMDB
    records it — `lastTxn` grows by one and the ghost state takes note of the new id -/
theorem step_app (c : LoopCfg) (g : G) (ops : List AppOp) :
    (step c g (.app ops)).st.pc = g.st.pc ∧ (step c g (.app ops)).st.lastSynced = g.st.lastSynced ∧
    (step c g (.app ops)).st.waiting = g.st.waiting ∧
    (step c g (.app ops)).st.forceArmed = g.st.forceArmed ∧
    ((recorded g.st ops = false ∧ (step c g (.app ops)).st.env.lastTxn = g.st.env.lastTxn ∧
        (step c g (.app ops)).gh = g.gh) ∨
     (recorded g.st ops = true ∧ (step c g (.app ops)).st.env.lastTxn = g.st.env.lastTxn + 1 ∧
        (step c g (.app ops)).gh = g.gh.app (g.st.env.lastTxn + 1))) := by
  obtain ⟨hpc, hS, hw, _, _, hL⟩ := appCommit_facts g.st ops
  refine ⟨hpc, hS, hw, appCommit_force g.st ops, ?_⟩
  have hgh : (step c g (.app ops)).gh =
      if recorded g.st ops then g.gh.app (appCommit g.st ops).env.lastTxn else g.gh := rfl
  rw [hgh]
  show (_ ∧ (appCommit g.st ops).env.lastTxn = _ ∧ _) ∨ (_ ∧ (appCommit g.st ops).env.lastTxn = _ ∧ _)
  cases hr : recorded g.st ops with
  | false => exact Or.inl ⟨rfl, by unfold recorded at hr; simpa using hr, rfl⟩
  | true =>
    have hL' : (appCommit g.st ops).env.lastTxn = g.st.env.lastTxn + 1 := by
      unfold recorded at hr
      rcases hL with hL | hL
      · simp [hL] at hr
      · exact hL
    rw [hL']
    exact Or.inr ⟨rfl, rfl, rfl⟩

/-! ## the race window (finding D9) -/

/-- The loop is at the yield point directly after one of Lightning Stream's own write
    transactions that turned out EMPTY (LMDB did not record it: `lastTxn` is still below the id the
    transaction had), and the loop is about to take `lastTxn` for that transaction's id:
    after a `LoadOnce` that saw no local change, or after `SendOnce`'s transaction. -/
def Racy (s : St) : Prop :=
  match s.pc with
  | .loadAfterTxn t lc _ _ _ => lc = false ∧ s.env.lastTxn < t
  | .sendAfterTxn _ t _ _ => s.env.lastTxn < t
  | _ => False

/-- the window in the wording of finding D9 (DESIGN.md: the id of ANY empty Lightning Stream write
    transaction is reused), i.e. after any `LoadOnce`, with or without local change -/
def RacyWide (s : St) : Prop :=
  match s.pc with
  | .loadAfterTxn t _ _ _ _ => s.env.lastTxn < t
  | .sendAfterTxn _ t _ _ => s.env.lastTxn < t
  | _ => False

instance (s : St) : Decidable (Racy s) := by
  unfold Racy; split <;> infer_instance

instance (s : St) : Decidable (RacyWide s) := by
  unfold RacyWide; split <;> infer_instance

theorem Racy.wide {s : St} (h : Racy s) : RacyWide s := by
  unfold Racy at h; unfold RacyWide
  split <;> simp_all

/-- a schedule (continued from `g`) in which no recorded application transaction commits inside
    the race window -/
def RaceFreeFrom (c : LoopCfg) (R : St → Prop) : G → List Ev → Prop
  | _, [] => True
  | g, e :: es =>
    (match e with
     | .app ops => ¬ (R g.st ∧ recorded g.st ops = true)
     | _ => True) ∧ RaceFreeFrom c R (step c g e) es

instance decRaceFreeFrom (c : LoopCfg) (R : St → Prop) [DecidablePred R] :
    ∀ (g : G) (evs : List Ev), Decidable (RaceFreeFrom c R g evs)
  | _, [] => isTrue trivial
  | g, e :: es =>
    have := decRaceFreeFrom c R (step c g e) es
    match e with
    | .app ops => inferInstanceAs (Decidable (¬ (R g.st ∧ recorded g.st ops = true) ∧ _))
    | .go _ => inferInstanceAs (Decidable (True ∧ _))
    | .list => inferInstanceAs (Decidable (True ∧ _))
    | .others _ => inferInstanceAs (Decidable (True ∧ _))

def RaceFree (c : LoopCfg) (env : Env) (b : Bucket) (evs : List Ev) : Prop :=
  RaceFreeFrom c Racy (G.init env b) evs

def RaceFreeWide (c : LoopCfg) (env : Env) (b : Bucket) (evs : List Ev) : Prop :=
  RaceFreeFrom c RacyWide (G.init env b) evs

instance (c : LoopCfg) (env : Env) (b : Bucket) (evs : List Ev) : Decidable (RaceFree c env b evs) :=
  decRaceFreeFrom c Racy _ _

instance (c : LoopCfg) (env : Env) (b : Bucket) (evs : List Ev) : Decidable (RaceFreeWide c env b evs) :=
  decRaceFreeFrom c RacyWide _ _

theorem RaceFreeFrom.mono {c : LoopCfg} {R R' : St → Prop} (h : ∀ s, R s → R' s) :
    ∀ {g : G} {evs : List Ev}, RaceFreeFrom c R' g evs → RaceFreeFrom c R g evs := by
  intro g evs
  induction evs generalizing g with
  | nil => intro _; trivial
  | cons e es ih =>
    intro ⟨h1, h2⟩
    refine ⟨?_, ih h2⟩
    cases e with
    | app ops => exact fun hh => h1 ⟨h _ hh.1, hh.2⟩
    | _ => trivial

theorem RaceFreeWide.raceFree {c : LoopCfg} {env : Env} {b : Bucket} {evs : List Ev}
    (h : RaceFreeWide c env b evs) : RaceFree c env b evs :=
  RaceFreeFrom.mono (fun _ => Racy.wide) h

/-- no application transaction is recorded in the schedule continued from `g` -/
def NoAppFrom (c : LoopCfg) : G → List Ev → Prop
  | _, [] => True
  | g, e :: es =>
    (match e with
     | .app ops => recorded g.st ops = false
     | _ => True) ∧ NoAppFrom c (step c g e) es

theorem runFrom_append (c : LoopCfg) (g : G) (l1 l2 : List Ev) :
    runFrom c g (l1 ++ l2) = runFrom c (runFrom c g l1) l2 := List.foldl_append

theorem run_snoc (c : LoopCfg) (env : Env) (b : Bucket) (evs : List Ev) (e : Ev) :
    run c env b (evs ++ [e]) = step c (run c env b evs) e := by
  unfold run runFrom; rw [List.foldl_append]; rfl

/-- reachability: an invariant of `step` holds after every schedule -/
theorem run_induct {c : LoopCfg} {env : Env} {b : Bucket} (P : G → Prop)
    (h0 : P (G.init env b)) (hs : ∀ g e, P g → P (step c g e)) (evs : List Ev) :
    P (run c env b evs) := by
  unfold run runFrom
  generalize G.init env b = g at h0
  induction evs generalizing g with
  | nil => exact h0
  | cons e es ih => exact ih _ (hs g e h0)

/-! ## the force flag along schedules

  The event language has no arming event (`armForce` is applied by the test harness only,
  `LsModel/DriverLoop.lean` "loop.overdue") and `go` never arms (`Seg.unarmed`): along every schedule
  from an unarmed state — in particular from `init` — no snapshot is ever overdue. -/

theorem step_unarmed {c : LoopCfg} {g : G} (h : g.st.forceArmed = false) (e : Ev) :
    (step c g e).st.forceArmed = false := by
  cases e with
  | go i => exact go_unarmed h
  | app ops => exact (appCommit_force g.st ops).trans h
  | list => exact h
  | others bs => exact h

/-- **no schedule from `init` ever arms the force flag** -/
theorem forceArmed_run (c : LoopCfg) (env : Env) (b : Bucket) (evs : List Ev) :
    (run c env b evs).st.forceArmed = false :=
  run_induct (fun g => g.st.forceArmed = false) rfl (fun _ e h => step_unarmed h e) evs

end Ls.Loop
