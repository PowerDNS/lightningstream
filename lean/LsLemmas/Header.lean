import LsLemmas.Bytes
import LsModel.Merge
/-
  lmdbenv/header: `Parse` read off the byte layout once (`parse_of_fields`, `parse_layout`), what
  `PutBasic` and the iterators write parses back, and the algebra of the flag byte.
-/
namespace Ls.Header
open Ls

/-- The generated layout constants are the ones the model's `putBasic` and the lemmas below
    hard-code. Nothing cites this theorem: it is the guard that stops the build when the offsets
    extracted from `header.go` move. -/
theorem layout :
    Gen.minHeaderSize = 24 ∧ Gen.blockSize = 8 ∧ Gen.versionOffset = 16 ∧ Gen.flagsOffset = 17 ∧
    Gen.reserved1Offset = 18 ∧ Gen.reserved2Offset = 19 ∧ Gen.reserved3Offset = 20 ∧
    Gen.reserved4Offset = 21 ∧ Gen.numExtraOffsetHigh = 22 ∧ Gen.numExtraOffsetLow = 23 ∧
    Gen.flagDeleted = 1 ∧ Gen.flagSyncMask = 1 := by decide

@[simp] theorem hsz_eq : hsz = 24 := rfl
@[simp] theorem bsz_eq : bsz = 8 := rfl

theorem putBasic_length (ts txn : Nat) (fl : UInt8) : (putBasic ts txn fl).length = 24 := by
  simp [putBasic]

/-- the padding option's write of the extension count into a fresh header -/
theorem putBasic_set_numExtra (ts txn : Nat) (fl x : UInt8) :
    (putBasic ts txn fl).set Gen.numExtraOffsetLow x =
      be64 ts ++ be64 txn ++ [0, fl, 0, 0, 0, 0, 0, x] := by
  rw [putBasic, List.set_append_right _ _ (by simp [Gen.numExtraOffsetLow])]
  simp [Gen.numExtraOffsetLow]

/-! `Parse` case by case: too short, wrong version, announced extension blocks missing, success. -/

theorem parse_short {b : Bytes} (h : b.length < 24) : parse b = .error .tooShort := by
  unfold parse
  exact if_pos h

theorem parse_version {b : Bytes} (h : 24 ≤ b.length) (hv : b.getD 16 0 ≠ 0) :
    parse b = .error .version := by
  have h1 : ¬ b.length < hsz := Nat.not_lt.mpr h
  unfold parse
  rw [if_neg h1]
  exact if_pos hv

theorem parse_truncated {b : Bytes} (h : 24 ≤ b.length) (hv : b.getD 16 0 = 0)
    (ht : b.length < 24 + 8 * getNumExtra b) : parse b = .error .tooShort := by
  have h1 : ¬ b.length < hsz := Nat.not_lt.mpr h
  have h2 : ¬ b.getD Gen.versionOffset 0 ≠ 0 := not_not_intro hv
  unfold parse
  rw [if_neg h1, if_neg h2]
  exact if_pos ⟨by omega, ht⟩

theorem parse_ok {b : Bytes} (h : 24 ≤ b.length) (hv : b.getD 16 0 = 0)
    (ht : 24 + 8 * getNumExtra b ≤ b.length) :
    parse b = .ok ({ ts := beNat (slice b 0 8), txn := beNat (slice b 8 16), version := 0,
                     flags := b.getD 17 0, numExtra := getNumExtra b,
                     extra := if getNumExtra b > 0 then slice b 24 (24 + 8 * getNumExtra b) else [] },
                   b.drop (24 + 8 * getNumExtra b)) := by
  have h1 : ¬ b.length < hsz := Nat.not_lt.mpr h
  have h2 : ¬ b.getD Gen.versionOffset 0 ≠ 0 := not_not_intro hv
  have h3 : ¬ (getNumExtra b > 0 ∧ b.length < hsz + bsz * getNumExtra b) := fun h3 =>
    Nat.not_lt.mpr ht h3.2
  have hv' : b.getD Gen.versionOffset 0 = 0 := hv
  unfold parse
  rw [if_neg h1, if_neg h2]
  dsimp only
  rw [if_neg h3, hv']
  rfl

/-- `Parse` in terms of what it reads: two 8-byte words, the version byte 0, the flag byte, the
    extension count `n`, and from offset 24 on `n` blocks followed by the application value -/
theorem parse_of_fields {val a b ext app : Bytes} {fl : UInt8} {n : Nat} (hlen : 24 ≤ val.length)
    (hts : slice val 0 8 = a) (htx : slice val 8 16 = b) (hver : val.getD 16 0 = 0)
    (hfl : val.getD 17 0 = fl) (hn : getNumExtra val = n) (hrest : val.drop 24 = ext ++ app)
    (he : ext.length = 8 * n) :
    parse val = .ok ({ ts := beNat a, txn := beNat b, version := 0, flags := fl, numExtra := n,
                       extra := ext }, app) := by
  have hl : val.length = 24 + (ext.length + app.length) := by
    have := congrArg List.length hrest
    rw [List.length_drop, List.length_append] at this
    omega
  have hx : (if n > 0 then slice val 24 (24 + 8 * n) else []) = ext := by
    split
    · rw [slice, hrest, Nat.add_sub_cancel_left, List.take_left' he]
    · exact (List.length_eq_zero_iff.mp (by omega)).symm
  rw [parse_ok hlen hver (by omega), hts, htx, hfl, hn, hx, ← List.drop_drop, hrest,
    List.drop_left' he]

/-- the documented layout reads back: timestamp and transaction id in 8 bytes each, version 0,
    flags, four reserved bytes, a big-endian 16-bit count of 8-byte extension blocks, the blocks,
    the application value -/
theorem parse_layout (a b : Bytes) (fl r1 r2 r3 r4 hi lo : UInt8) (ext app : Bytes)
    (ha : a.length = 8) (hb : b.length = 8) (he : ext.length = 8 * (hi.toNat * 256 + lo.toNat)) :
    parse (a ++ b ++ [0, fl, r1, r2, r3, r4, hi, lo] ++ ext ++ app) =
      .ok ({ ts := beNat a, txn := beNat b, version := 0, flags := fl,
             numExtra := hi.toNat * 256 + lo.toNat, extra := ext }, app) := by
  obtain ⟨a0, a1, a2, a3, a4, a5, a6, a7, rfl⟩ := list_len8 a ha
  obtain ⟨b0, b1, b2, b3, b4, b5, b6, b7, rfl⟩ := list_len8 b hb
  refine parse_of_fields ?_ rfl rfl rfl rfl ?_ rfl he
  · simp
  · simp [getNumExtra, slice, Gen.numExtraOffsetHigh, beNat]

/-- a value of the shape the iterators write (no extension block, or one all-zero block under the
    padding option) parses back -/
theorem parse_written (ts txn : Nat) (pad : Bool) (fl : UInt8) (app : Bytes)
    (hts : ts < two64) (htx : txn < two64) :
    parse (be64 ts ++ be64 txn ++ [0, fl, 0, 0, 0, 0, 0, if pad then 1 else 0]
        ++ (if pad then [0, 0, 0, 0, 0, 0, 0, 0] else []) ++ app)
      = .ok ({ ts := ts, txn := txn, version := 0, flags := fl, numExtra := if pad then 1 else 0,
               extra := if pad then [0, 0, 0, 0, 0, 0, 0, 0] else [] }, app) := by
  have h := parse_layout (be64 ts) (be64 txn) fl 0 0 0 0 0 (if pad then 1 else 0)
    (if pad then [0, 0, 0, 0, 0, 0, 0, 0] else []) app (be64_length ts) (be64_length txn)
    (by cases pad <;> rfl)
  rw [beNat_be64 ts hts, beNat_be64 txn htx] at h
  cases pad <;> exact h

/-- header of the form PutBasic writes, followed by anything, parses back -/
theorem parse_putBasic (ts txn : Nat) (fl : UInt8) (v : Bytes) (hts : ts < two64) (htx : txn < two64) :
    parse (putBasic ts txn fl ++ v)
      = .ok ({ ts := ts, txn := txn, version := 0, flags := fl, numExtra := 0, extra := [] }, v) := by
  have h := parse_written ts txn false fl v hts htx
  simp only [Bool.false_eq_true, if_false, List.append_nil] at h
  exact h

theorem masked_in_mask (f : UInt8) : masked f &&& ~~~ (UInt8.ofNat Gen.flagSyncMask) = 0 := by
  rw [masked, UInt8.and_assoc, UInt8.and_not_self, UInt8.and_zero]

theorem flagDeleted_in_mask :
    UInt8.ofNat Gen.flagDeleted &&& ~~~ (UInt8.ofNat Gen.flagSyncMask) = 0 := by decide

theorem isDeleted_or_deleted (fl : UInt8) : isDeleted (fl ||| UInt8.ofNat Gen.flagDeleted) = true := by
  rw [isDeleted, UInt8.and_or_distrib_right, UInt8.and_self, bne_iff_ne, ne_eq, UInt8.or_eq_zero_iff]
  exact fun h => absurd h.2 (by decide)

theorem parse_ok_length {old : Bytes} {h : Hdr} {v : Bytes} (hp : parse old = .ok (h, v)) : old.length ≠ 0 := by
  unfold parse at hp
  split at hp
  · cases hp
  · rename_i hl; simp [hsz, Gen.minHeaderSize] at hl; omega

end Ls.Header
