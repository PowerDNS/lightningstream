import LsModel.Receiver
/-
  Receiver model, basic lemmas: association lists and `mkLastSeen`. Core Lean only.
-/
namespace Ls.Recv

namespace AL
variable {κ : Type} [DecidableEq κ] {α : Type}

@[simp] theorem get_nil (k : κ) : get ([] : List (κ × α)) k = none := rfl

theorem get_cons (k' : κ) (v : α) (r : List (κ × α)) (k : κ) :
    get ((k', v) :: r) k = if k' = k then some v else get r k := rfl

theorem get_set (l : List (κ × α)) (k k' : κ) (v : α) :
    get (set l k v) k' = if k' = k then some v else get l k' := by
  induction l with
  | nil => simp [set, get, eq_comm]
  | cons e r ih =>
    obtain ⟨k0, v0⟩ := e
    by_cases h0 : k0 = k
    · subst h0; by_cases h1 : k' = k0 <;> simp [set, get, h1, eq_comm]
    · by_cases h1 : k0 = k'
      · subst h1; simp [set, get, h0]
      · simp [set, get, h0, h1, ih]

theorem get_erase_ne (l : List (κ × α)) {k k' : κ} (h : k' ≠ k) : get (erase l k) k' = get l k' := by
  induction l with
  | nil => rfl
  | cons e r ih =>
    obtain ⟨k0, v0⟩ := e
    by_cases h0 : k0 = k
    · subst h0; simp [erase, get, Ne.symm h]
    · by_cases h1 : k0 = k'
      · subst h1; simp [erase, get, h0]
      · simp [erase, get, h0, h1, ih]

theorem get_some_mem {l : List (κ × α)} {k : κ} {v : α} (h : get l k = some v) : (k, v) ∈ l := by
  induction l with
  | nil => cases h
  | cons e r ih =>
    rw [get.eq_2] at h
    split at h
    · cases h; rename_i h0; subst h0; exact List.mem_cons_self
    · exact List.mem_cons_of_mem _ (ih h)

theorem get_isSome_iff {l : List (κ × α)} {k : κ} : (get l k).isSome ↔ k ∈ l.map Prod.fst := by
  induction l with
  | nil => simp [get]
  | cons e r ih =>
    obtain ⟨k0, v0⟩ := e
    by_cases h0 : k0 = k
    · simp [get, h0]
    · simp [get, h0, ih, Ne.symm h0]

theorem mem_set {l : List (κ × α)} {k : κ} {v : α} {e : κ × α} (h : e ∈ set l k v) : e = (k, v) ∨ e ∈ l := by
  induction l with
  | nil => exact Or.inl (List.mem_singleton.mp h)
  | cons e0 r ih =>
    rw [set.eq_2] at h
    split at h <;> rcases List.mem_cons.mp h with h | h
    · exact Or.inl h
    · exact Or.inr (List.mem_cons_of_mem _ h)
    · exact Or.inr (h ▸ List.mem_cons_self)
    · exact (ih h).imp_right (List.mem_cons_of_mem _)

theorem mem_erase {l : List (κ × α)} {k : κ} {e : κ × α} (h : e ∈ erase l k) : e ∈ l := by
  induction l with
  | nil => exact h
  | cons e0 r ih =>
    rw [erase.eq_2] at h
    split at h
    · exact List.mem_cons_of_mem _ h
    · exact (List.mem_cons.mp h).elim (· ▸ List.mem_cons_self) (fun h => List.mem_cons_of_mem _ (ih h))

theorem keys_set (l : List (κ × α)) (k : κ) (v : α) :
    (set l k v).map Prod.fst = if (get l k).isSome then l.map Prod.fst else l.map Prod.fst ++ [k] := by
  induction l with
  | nil => rfl
  | cons e r ih =>
    obtain ⟨k0, v0⟩ := e
    by_cases h0 : k0 = k
    · simp [set, get, h0]
    · simp only [set, get, h0, if_false, List.map_cons, ih]; split <;> rfl

theorem nodup_set {l : List (κ × α)} (hn : (l.map Prod.fst).Nodup) (k : κ) (v : α) :
    ((set l k v).map Prod.fst).Nodup := by
  rw [keys_set]
  split
  · exact hn
  · rename_i h
    rw [get_isSome_iff] at h
    exact List.nodup_append.mpr ⟨hn, by simp, fun a ha b hb => by
      rw [List.mem_singleton.mp hb]; exact fun e => h (e ▸ ha)⟩

theorem length_set (l : List (κ × α)) (k : κ) (v : α) :
    (set l k v).length + (if (get l k).isSome then 1 else 0) = l.length + 1 := by
  have := congrArg List.length (keys_set l k v)
  rw [List.length_map] at this
  rw [this]; split <;> simp

theorem length_erase {l : List (κ × α)} {k : κ} {v : α} (h : get l k = some v) :
    (erase l k).length + 1 = l.length := by
  induction l with
  | nil => cases h
  | cons e r ih =>
    obtain ⟨k0, v0⟩ := e
    by_cases h0 : k0 = k
    · simp [erase, h0]
    · simp only [get, h0, if_false] at h
      simp [erase, h0, ih h]

theorem count_set (p : α → Bool) (l : List (κ × α)) (k : κ) (v' : α) :
    count p (set l k v') + (match get l k with | some v => if p v then 1 else 0 | none => 0)
      = count p l + (if p v' then 1 else 0) := by
  induction l with
  | nil => simp [set, get, count]
  | cons e r ih =>
    obtain ⟨k0, v0⟩ := e
    by_cases h0 : k0 = k
    · simp only [set, get, h0, if_true, count]; omega
    · simp only [set, get, h0, if_false, count]; omega

theorem get_of_count_pos {p : α → Bool} {l : List (κ × α)} (hn : (l.map Prod.fst).Nodup) (h : 0 < count p l) :
    ∃ k v, get l k = some v ∧ p v = true := by
  induction l with
  | nil => cases h
  | cons e r ih =>
    obtain ⟨k0, v0⟩ := e
    obtain ⟨h0, hn⟩ := List.nodup_cons.mp hn
    by_cases hp : p v0 = true
    · exact ⟨k0, v0, if_pos rfl, hp⟩
    · simp only [count, hp, Bool.false_eq_true, if_false, Nat.zero_add] at h
      obtain ⟨k, v, hg, hv⟩ := ih hn h
      have : k0 ≠ k := fun hk => h0 (hk ▸ List.mem_map.mpr ⟨_, get_some_mem hg, rfl⟩)
      exact ⟨k, v, (if_neg this).trans hg, hv⟩

omit [DecidableEq κ] in
theorem count_zero {p : α → Bool} {l : List (κ × α)} (h : ∀ e ∈ l, p e.2 = false) : count p l = 0 := by
  induction l with
  | nil => rfl
  | cons e r ih =>
    simp [count, h e List.mem_cons_self, ih fun e he => h e (List.mem_cons_of_mem _ he)]

theorem get_set_cases {l : List (κ × α)} {k k' : κ} {v v' : α} (h : get (set l k v) k' = some v') :
    k' = k ∧ v' = v ∨ k' ≠ k ∧ get l k' = some v' := by
  rw [get_set] at h
  split at h
  · exact Or.inl ⟨‹_›, (Option.some.inj h).symm⟩
  · exact Or.inr ⟨‹_›, h⟩

theorem exists_get_set {Q : α → Prop} {l : List (κ × α)} {k k' : κ} {v : α}
    (h : ∃ z, get l k' = some z ∧ Q z) (hv : k' = k → Q v) : ∃ z, get (set l k v) k' = some z ∧ Q z := by
  rw [get_set]
  split
  · exact ⟨v, rfl, hv ‹_›⟩
  · exact h

theorem get_set_self (l : List (κ × α)) (k : κ) (v : α) : get (set l k v) k = some v := by
  rw [get_set, if_pos rfl]

theorem get_set_ne (l : List (κ × α)) {k k' : κ} (v : α) (h : k' ≠ k) : get (set l k v) k' = get l k' := by
  rw [get_set, if_neg h]

end AL

variable {ι : Type} [DecidableEq ι]

theorem mem_insertName {l : List (ι × Nat)} {n m : ι × Nat} : m ∈ insertName l n ↔ m ∈ l ∨ m = n := by
  unfold insertName
  split
  · exact ⟨Or.inl, fun h => h.elim id (· ▸ ‹_›)⟩
  · simp

theorem get_upsertMax (l : List (ι × Nat)) (d : ι) (t : Nat) (d' : ι) :
    AL.get (upsertMax l d t) d' =
      if d' = d then some ((AL.get l d).elim t (max · t)) else AL.get l d' := by
  unfold upsertMax
  cases h0 : AL.get l d with
  | none => rw [AL.get_set]; rfl
  | some t0 =>
    by_cases hle : t0 ≤ t
    · simp only [hle, if_true, AL.get_set, Option.elim, Nat.max_eq_right hle]
    · have : max t0 t = t0 := Nat.max_eq_left (Nat.le_of_not_le hle)
      by_cases hd : d' = d <;> simp [hle, hd, h0, this]

/-- `t` is the largest timestamp of instance `d` among `names` -/
def MaxOf (names : List (ι × Nat)) (d : ι) (t : Nat) : Prop :=
  (d, t) ∈ names ∧ ∀ t', (d, t') ∈ names → t' ≤ t

/-- `o` is the largest number in `S` (`none`: `S` is empty) -/
def IsMax (S : Nat → Prop) : Option Nat → Prop
  | none => ∀ t, ¬S t
  | some t => S t ∧ ∀ t', S t' → t' ≤ t

theorem isMax_fold (names : List (ι × Nat)) (d : ι) {acc : List (ι × Nat)} {S S' : Nat → Prop}
    (hS : ∀ t, S' t ↔ S t ∨ (d, t) ∈ names) (h : IsMax S (AL.get acc d)) :
    IsMax S' (AL.get (names.foldl (fun acc n => upsertMax acc n.1 n.2) acc) d) := by
  induction names generalizing acc S with
  | nil =>
    have : S' = S := funext fun t => propext (by simpa using hS t)
    rw [this]; exact h
  | cons n r ih =>
    obtain ⟨d0, t0⟩ := n
    refine ih (S := fun t => S t ∨ (d, t) = (d0, t0)) (fun t => by simp [hS, or_assoc]) ?_
    rw [get_upsertMax]
    by_cases hd : d = d0
    · subst hd
      rw [if_pos rfl]
      cases hg : AL.get acc d with
      | none =>
        rw [hg] at h
        exact ⟨Or.inr rfl, fun t' ht' => ht'.elim (fun a => absurd a (h t')) (fun e => by cases e; exact Nat.le_refl _)⟩
      | some ta =>
        rw [hg] at h
        refine ⟨?_, fun t' ht' => ht'.elim (fun a => Nat.le_trans (h.2 t' a) (Nat.le_max_left ..))
          (fun e => by cases e; exact Nat.le_max_right ..)⟩
        show S (max ta t0) ∨ (d, max ta t0) = (d, t0)
        rcases Nat.le_total ta t0 with hle | hle
        · exact Or.inr (by rw [Nat.max_eq_right hle])
        · rw [Nat.max_eq_left hle]; exact Or.inl h.1
    · rw [if_neg hd, show (fun t => S t ∨ (d, t) = (d0, t0)) = S from
        funext fun t => propext ⟨fun h' => h'.elim id (fun e => absurd (congrArg Prod.fst e) hd), Or.inl⟩]
      exact h

theorem isMax_mkLastSeen (names : List (ι × Nat)) (d : ι) :
    IsMax (fun t => (d, t) ∈ names) (AL.get (mkLastSeen names) d) :=
  isMax_fold names d (S := fun _ => False) (by simp) (fun _ => id)

theorem mkLastSeen_some {names : List (ι × Nat)} {d : ι} {t : Nat} :
    AL.get (mkLastSeen names) d = some t ↔ MaxOf names d t := by
  have h := isMax_mkLastSeen names d
  constructor
  · intro ht; rw [ht] at h; exact h
  · intro hm
    cases hg : AL.get (mkLastSeen names) d with
    | none => rw [hg] at h; exact absurd hm.1 (h t)
    | some t1 => rw [hg] at h; rw [Nat.le_antisymm (hm.2 _ h.1) (h.2 _ hm.1)]

theorem mkLastSeen_none {names : List (ι × Nat)} {d : ι} :
    AL.get (mkLastSeen names) d = none ↔ ∀ t, (d, t) ∉ names := by
  have h := isMax_mkLastSeen names d
  cases hg : AL.get (mkLastSeen names) d with
  | none => rw [hg] at h; simpa using (show ∀ t, _ from h)
  | some t1 => rw [hg] at h; simpa using ⟨t1, h.1⟩

omit [DecidableEq ι] in
theorem MaxOf.unique {names : List (ι × Nat)} {d : ι} {t t' : Nat} (h : MaxOf names d t) (h' : MaxOf names d t') :
    t = t' := Nat.le_antisymm (h'.2 _ h.1) (h.2 _ h'.1)

end Ls.Recv
