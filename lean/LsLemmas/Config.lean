import LsModel.Config
/-
  Go's int64 arithmetic in `RetentionDurationMinusCutoff`: no wrap-around inside the int64 range,
  truncated division is floor division on non-negative durations.
-/
namespace Ls.Config
open Ls

theorem wrapInt64_id (x : Int) (h1 : -9223372036854775808 ≤ x) (h2 : x < 9223372036854775808) :
    wrapInt64 x = x := by
  unfold wrapInt64 toInt64 toUInt64 two64 two63
  dsimp only
  split <;> omega

theorem tdiv_nonneg_eq (a b : Int) (ha : 0 ≤ a) : tdiv a b = a / b := by
  unfold tdiv; exact Int.tdiv_eq_ediv_of_nonneg ha

end Ls.Config
