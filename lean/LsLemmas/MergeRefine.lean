import LsLemmas.Header
import LsLemmas.Lww
/-
  Refinement of the byte-level `merge` to the abstract last-writer-wins join: what `addHeader`
  writes, the equations of `merge`, and the logical content (`decodeS`) before and after.
-/
namespace Ls.Merge
open Ls Ls.Header

theorem addHeader_ts_norm (c : Cfg) (v : Bytes) (ts : Nat) (fl : UInt8) :
    addHeader c v (if ts = 0 then c.defTs else ts) fl = addHeader c v ts fl := by
  unfold addHeader
  by_cases h : ts = 0
  · subst h; by_cases h2 : c.defTs = 0 <;> simp [h2]
  · simp [h]

/-- the flags `addHeader` actually writes -/
def effFlags (c : Cfg) (v : Bytes) (fl : UInt8) : UInt8 :=
  if v.length = 0 ∧ c.fv < 2 then fl ||| UInt8.ofNat Gen.flagDeleted else fl

/-- the bytes `addHeader` produces, spelled out -/
theorem addHeader_eq (c : Cfg) (v : Bytes) (ts : Nat) (fl : UInt8) :
    addHeader c v ts fl =
      be64 (if ts = 0 then c.defTs else ts) ++ be64 c.txn
        ++ [0, effFlags c v fl, 0, 0, 0, 0, 0, if c.pad then 1 else 0]
        ++ (if c.pad then [0, 0, 0, 0, 0, 0, 0, 0] else [])
        ++ (if isDeleted (effFlags c v fl) then [] else v) := by
  unfold addHeader
  cases c.pad
  · simp only [putBasic, effFlags, Bool.false_eq_true, if_false, List.append_nil]; rfl
  · simp only [putBasic_set_numExtra, effFlags, if_true]; rfl

theorem effFlags_in_mask (c : Cfg) (v : Bytes) (fl : UInt8)
    (hfl : fl &&& ~~~ (UInt8.ofNat Gen.flagSyncMask) = 0) :
    effFlags c v fl &&& ~~~ (UInt8.ofNat Gen.flagSyncMask) = 0 := by
  unfold effFlags; split
  · rw [UInt8.and_or_distrib_right, hfl, flagDeleted_in_mask]; rfl
  · exact hfl

theorem addHeader_length_pos (c : Cfg) (v : Bytes) (ts : Nat) (fl : UInt8) :
    (addHeader c v ts fl).length ≠ 0 := by
  rw [addHeader_eq]; simp

/-- the condition under which `Merge` returns the stored bytes (stored value present, parsed) -/
def keep (c : Cfg) (e : KV) (h : Hdr) (appVal : Bytes) : Prop :=
  (e.ts = 0 ∧ appVal = e.val ∧ ¬ (entryDeleted c e = true ∧ ¬ isDeleted h.flags = true)) ∨
  (if e.ts = 0 then c.defTs else e.ts) < h.ts ∨
    ((if e.ts = 0 then c.defTs else e.ts) = h.ts ∧ (bcmp appVal e.val < 0 ∨
      (bcmp appVal e.val = 0 ∧ ¬ (entryDeleted c e = true ∧ ¬ isDeleted h.flags = true))))

instance (c : Cfg) (e : KV) (h : Hdr) (appVal : Bytes) : Decidable (keep c e h appVal) := by
  unfold keep; exact inferInstance

theorem merge_absent (c : Cfg) (e : KV) :
    merge c e [] = if entryDeleted c e = true ∧ e.ts < c.cutoff then .ok none
                   else .ok (some (addHeader c e.val e.ts (maskedFlags e))) := by
  unfold merge; exact if_pos rfl

theorem merge_corrupt (c : Cfg) (e : KV) (old : Bytes) (err : Header.Err)
    (hl : old.length ≠ 0) (hp : parse old = .error err) : merge c e old = .error err := by
  unfold merge; rw [if_neg hl, hp]

theorem merge_present (c : Cfg) (e : KV) (old : Bytes) (h : Hdr) (appVal : Bytes)
    (hl : old.length ≠ 0) (hp : parse old = .ok (h, appVal)) :
    (keep c e h appVal → merge c e old = .ok (some old)) ∧
    (¬ keep c e h appVal → merge c e old = .ok (some (addHeader c e.val e.ts (maskedFlags e)))) := by
  unfold merge keep
  rw [if_neg hl, hp]
  simp only
  rw [← addHeader_ts_norm c e.val e.ts]
  generalize (if e.ts = 0 then c.defTs else e.ts) = newTS
  constructor
  · intro hk
    split
    · rfl
    · split
      · rfl
      · split
        · rfl
        · rename_i h1 h2 h3
          rcases hk with hk | hk | hk
          · exact absurd hk h1
          · exact absurd hk h2
          · exact absurd hk h3
  · intro hk
    simp only [not_or] at hk
    rw [if_neg hk.1, if_neg hk.2.1, if_neg hk.2.2]

/-- what `Merge` can return: nothing new is invented — the stored bytes, or the entry with a header -/
theorem merge_result (c : Cfg) (e : KV) (old r : Bytes) (h : merge c e old = .ok (some r)) :
    r = old ∨ r = addHeader c e.val e.ts (maskedFlags e) := by
  by_cases hl : old.length = 0
  · rw [List.length_eq_zero_iff.mp hl, merge_absent] at h
    split at h
    · cases h
    · exact Or.inr (Option.some.inj (Except.ok.inj h)).symm
  · cases hp : parse old with
    | error err => rw [merge_corrupt c e old err hl hp] at h; cases h
    | ok p =>
      obtain ⟨h1, h2⟩ := merge_present c e old p.1 p.2 hl hp
      by_cases hk : keep c e p.1 p.2
      · rw [h1 hk] at h; exact Or.inl (Option.some.inj (Except.ok.inj h)).symm
      · rw [h2 hk] at h; exact Or.inr (Option.some.inj (Except.ok.inj h)).symm

theorem clean_result (c : Cfg) (old r : Bytes) (h : clean c old = .ok (some r)) :
    r = old ∨ r = addHeader c [] 0 (UInt8.ofNat Gen.flagDeleted) := by
  unfold clean at h
  split at h
  · cases h
  · split at h
    · exact Or.inl (Option.some.inj (Except.ok.inj h)).symm
    · exact Or.inr (Option.some.inj (Except.ok.inj h)).symm

/-- logical content of a stored value (`[]` = absent) -/
def decodeS (stored : Bytes) : Except Header.Err (Option Ver) :=
  if stored.length = 0 then .ok none
  else match parse stored with
    | .error e => .error e
    | .ok (h, v) => .ok (some { ts := h.ts, del := isDeleted h.flags, val := v })

/-- the version an entry denotes for an iterator: default timestamp applied, format-v1
    "empty means deleted" applied, value dropped when deleted (what `addHeader` writes) -/
def norm (c : Cfg) (e : KV) : Ver :=
  { ts := if e.ts = 0 then c.defTs else e.ts,
    del := entryDeleted c e,
    val := if entryDeleted c e then [] else e.val }

/-- decidable well-formedness of an entry: a deleted entry carries no value. Everything
    Lightning Stream itself emits satisfies it (`readDBI` emits the stored application value, which
    `addHeader` made empty for deleted entries). -/
def EntryWF (e : KV) : Prop := isDeleted (maskedFlags e) = true → e.val = []

instance (e : KV) : Decidable (EntryWF e) := by unfold EntryWF; exact inferInstance

/-- the timestamps and the transaction id fit the 8-byte fields of the header (`be64` truncates) -/
def Bounded (c : Cfg) (e : KV) : Prop := c.defTs < two64 ∧ c.txn < two64 ∧ e.ts < two64

/-- is the entry a deletion marker older than the cut-off (refused when the key is absent)? -/
def stale (c : Cfg) (e : KV) : Prop := entryDeleted c e = true ∧ e.ts < c.cutoff

theorem decodeS_some {old : Bytes} {o : Ver} (h : decodeS old = .ok (some o)) :
    old.length ≠ 0 ∧ ∃ hd appVal, parse old = .ok (hd, appVal) ∧
      o = { ts := hd.ts, del := isDeleted hd.flags, val := appVal } := by
  unfold decodeS at h
  split at h
  · cases h
  · rename_i hl
    refine ⟨hl, ?_⟩
    split at h
    · cases h
    · rename_i hd v hp
      injection h with h; injection h with h
      exact ⟨hd, v, hp, h.symm⟩

theorem decodeS_none {old : Bytes} (h : decodeS old = .ok none) : old = [] := by
  unfold decodeS at h
  split at h
  · rename_i hl; exact List.length_eq_zero_iff.mp hl
  · split at h <;> cases h

theorem norm_wf (c : Cfg) (e : KV) : (norm c e).WF := by
  intro h; simp only [norm] at h ⊢; simp [h]

theorem norm_val_of_wf {c : Cfg} {e : KV} (hw : EntryWF e) : (norm c e).val = e.val := by
  show (if entryDeleted c e = true then [] else e.val) = e.val
  split
  · rename_i h
    simp only [entryDeleted, Bool.or_eq_true, Bool.and_eq_true, decide_eq_true_eq] at h
    rcases h with h | ⟨h, _⟩
    · exact (hw h).symm
    · exact (List.length_eq_zero_iff.mp h).symm
  · rfl

theorem isDeleted_effFlags (c : Cfg) (e : KV) :
    isDeleted (effFlags c e.val (maskedFlags e)) = entryDeleted c e := by
  unfold effFlags entryDeleted
  by_cases h2 : e.val.length = 0 ∧ c.fv < 2
  · rw [if_pos h2, isDeleted_or_deleted]; simp [h2.1, h2.2]
  · rw [if_neg h2]
    simp only [List.length_eq_zero_iff] at h2
    simp
    intro h3 h4; exact absurd ⟨h3, h4⟩ h2

/-- the logical content of what `addHeader` writes for an entry is the entry's normal form -/
theorem decodeS_addHeader (c : Cfg) (e : KV) (hb : Bounded c e) :
    decodeS (addHeader c e.val e.ts (maskedFlags e)) = .ok (some (norm c e)) := by
  unfold decodeS
  rw [if_neg (addHeader_length_pos c e.val e.ts (maskedFlags e)), addHeader_eq, parse_written]
  · simp only [norm, isDeleted_effFlags]
  · split
    · exact hb.1
    · exact hb.2.2
  · exact hb.2.1

/-- the last two alternatives of `keep` (older, or equal timestamp and not losing the tie-break)
    say exactly that the entry does not win against the stored version -/
theorem keep_order_iff {c : Cfg} {e : KV} {h : Hdr} {appVal : Bytes} (hw : EntryWF e) :
    ((if e.ts = 0 then c.defTs else e.ts) < h.ts ∨
      ((if e.ts = 0 then c.defTs else e.ts) = h.ts ∧ (bcmp appVal e.val < 0 ∨
        (bcmp appVal e.val = 0 ∧ ¬ (entryDeleted c e = true ∧ ¬ isDeleted h.flags = true))))) ↔
    ¬ (norm c e).beats { ts := h.ts, del := isDeleted h.flags, val := appVal } := by
  unfold Ver.beats
  rw [norm_val_of_wf hw, bcmp_lt, bcmp_eq]
  simp only [norm]
  generalize (if e.ts = 0 then c.defTs else e.ts) = t
  rcases Nat.lt_trichotomy t h.ts with ht | ht | ht
  · simp [ht, Nat.lt_asymm ht, Nat.ne_of_lt ht]
  · subst ht
    rcases bytes_trichotomy appVal e.val with hv | hv | hv
    · have hne : e.val ≠ appVal := fun h => bytes_lt_irrefl _ (h ▸ hv)
      simp [hv, bytes_lt_asymm hv, hne]
    · subst hv; simp [bytes_lt_irrefl]
    · have hne : appVal ≠ e.val := fun h => bytes_lt_irrefl _ (h ▸ hv)
      simp [hv, bytes_lt_asymm hv, hne]
  · simp [ht, Nat.lt_asymm ht, Nat.ne_of_gt ht]

/-- whenever `Merge` does not keep the stored bytes, the entry strictly wins against them -/
theorem not_keep_beats {c : Cfg} {e : KV} {h : Hdr} {appVal : Bytes} (hw : EntryWF e)
    (hk : ¬ keep c e h appVal) :
    (norm c e).beats { ts := h.ts, del := isDeleted h.flags, val := appVal } :=
  Decidable.not_not.mp fun hnb => hk (Or.inr ((keep_order_iff hw).mpr hnb))

/-- for the snapshot-load use (no default timestamp) the stored bytes are kept exactly when the
    entry does not win -/
theorem keep_not_beats {c : Cfg} {e : KV} {h : Hdr} {appVal : Bytes} (hw : EntryWF e)
    (hd : c.defTs = 0) (hk : keep c e h appVal) :
    ¬ (norm c e).beats { ts := h.ts, del := isDeleted h.flags, val := appVal } := by
  rcases hk with ⟨h0, hv, hdol⟩ | hk
  · unfold Ver.beats
    rw [norm_val_of_wf hw]
    simp only [norm, h0, hd, if_true]
    rintro (hb | ⟨_, hb | ⟨_, hb⟩⟩)
    · omega
    · rw [hv] at hb; exact bytes_lt_irrefl _ hb
    · exact hdol ⟨hb.1, by simp [hb.2]⟩
  · exact (keep_order_iff hw).mp hk

/-- what `strategy.Update` leaves stored for one key after the iterator's decision
    (`nil`/empty decision = key deleted or not added; `[]` = absent) -/
def mergeStore (c : Cfg) (e : KV) (old : Bytes) : Except Header.Err Bytes :=
  match merge c e old with
  | .error err => .error err
  | .ok none => .ok []
  | .ok (some b) => .ok b

/-- merging a list of entries for one key, in list order -/
def foldMerge (c : Cfg) (es : List KV) (old : Bytes) : Except Header.Err Bytes :=
  es.foldlM (fun cur e => mergeStore c e cur) old

/-- one merge step computes the join (snapshot-load use: no default timestamp) -/
theorem mergeStore_join (c : Cfg) (e : KV) (old : Bytes) (ov : Option Ver)
    (hw : EntryWF e) (hb : Bounded c e) (hd : c.defTs = 0)
    (hold : decodeS old = .ok ov) (hst : ov = none → ¬ stale c e) :
    ∃ r, mergeStore c e old = .ok r ∧ decodeS r = .ok (join ov (some (norm c e))) := by
  cases ov with
  | none =>
    obtain rfl := decodeS_none hold
    unfold mergeStore
    have hs : ¬ (entryDeleted c e = true ∧ e.ts < c.cutoff) := hst rfl
    rw [merge_absent, if_neg hs]
    exact ⟨_, rfl, by rw [decodeS_addHeader c e hb]; rfl⟩
  | some o =>
    obtain ⟨hl, hdr, appVal, hp, ho⟩ := decodeS_some hold
    obtain ⟨hk1, hk2⟩ := merge_present c e old hdr appVal hl hp
    by_cases hk : keep c e hdr appVal
    · refine ⟨old, by unfold mergeStore; rw [hk1 hk], ?_⟩
      rw [hold]
      have := keep_not_beats hw hd hk
      rw [← ho] at this
      simp [join, Ver.max, this]
    · refine ⟨_, by unfold mergeStore; rw [hk2 hk], ?_⟩
      rw [decodeS_addHeader c e hb]
      have := not_keep_beats hw hk
      rw [← ho] at this
      simp [join, Ver.max, this]

end Ls.Merge
