import LsLemmas.TxnSend
import LsLemmas.StrategyIter
import LsLemmas.MergeRefine
/-
  What the mirror passes need of the environment of a transaction (LsModel/Txn.lean) beyond
  TxnBase/TxnDbis: `DistinctNames` and `NamesSorted` (= `SortedNames`, `namesSorted_iff`), passes that
  edit only DBIs of their own (`Edits`), and the entries `readDBI` hands to `IterUpdate` (`All2`, `ReadRel`,
  joined to TxnSend's `Pointwise`, `EntryImage`).
-/
namespace Ls.Txn
open Ls Ls.Lmdb Ls.Strategy Ls.Merge

theorem shadowPrefix_eqMirror :
    shadowPrefix = [0x5f, 0x73, 0x79, 0x6e, 0x63, 0x5f, 0x73, 0x68, 0x61, 0x64, 0x6f, 0x77, 0x5f] :=
  shadowPrefix_eq
theorem hackName_ne : strBytes Gen.transformDupSortHackV1 ≠ [] := dupsortTransform_ne_nil

theorem shadowName_ne_of_not_private {a n : Bytes} (h : isPrivate n = false) : shadowName a ≠ n := by
  intro he; rw [← he, isPrivate_shadowName] at h; cases h

theorem isIntKey_mask (f : Nat) : isIntKey (f &&& Gen.allowedShadowDBIFlagsMask) = isIntKey f := by
  unfold isIntKey Gen.allowedShadowDBIFlagsMask Gen.lmdbIntegerKeyFlag
  rw [Nat.and_assoc, Nat.and_self]

theorem isDupSort_mask (f : Nat) : isDupSort (f &&& Gen.allowedShadowDBIFlagsMask) = false := by
  unfold isDupSort Gen.allowedShadowDBIFlagsMask Gen.dbiDupSort
  rw [Nat.and_assoc]
  simp

theorem mapStratErr_ok {ε α} {x : Except (SErr ε) α} {a : α} (h : mapStratErr x = .ok a) : x = .ok a := by
  cases x with
  | ok b => cases h; rfl
  | error e => cases e <;> cases h

theorem mapStratErr_of_ok {ε α} {x : Except (SErr ε) α} {a : α} (h : x = .ok a) : mapStratErr x = .ok a := by
  subst h; rfl

/-- equality of results is decidable (for the concrete instances checked by kernel evaluation) -/
instance exceptDecEq {ε α} [DecidableEq ε] [DecidableEq α] : DecidableEq (Except ε α) := fun a b =>
  match a, b with
  | .ok x, .ok y => if h : x = y then isTrue (by rw [h]) else isFalse (fun h' => h (Except.ok.inj h'))
  | .error x, .error y => if h : x = y then isTrue (by rw [h]) else isFalse (fun h' => h (Except.error.inj h'))
  | .ok _, .error _ => isFalse (fun h => by cases h)
  | .error _, .ok _ => isFalse (fun h => by cases h)

instance (D : KVs) : Decidable (DKeysOK D) := by unfold DKeysOK; exact inferInstance

/-- two lists related element by element -/
inductive All2 {α β} (R : α → β → Prop) : List α → List β → Prop where
  | nil : All2 R [] []
  | cons {a b l r} : R a b → All2 R l r → All2 R (a :: l) (b :: r)

/-- `All2` and TxnSend's `Pointwise` are the same relation -/
theorem all2_iff_pointwise {α β : Type} {R : α → β → Prop} {l : List α} {r : List β} :
    All2 R l r ↔ Pointwise R l r := by
  constructor
  · intro h
    induction h with
    | nil => exact .nil
    | cons hab _ ih => exact .cons hab ih
  · intro h
    induction h with
    | nil => exact .nil
    | cons hab _ ih => exact .cons hab ih

theorem mapM_ok_all2 {ε α β : Type} (f : α → Except ε β) (l : List α) (r : List β) (h : l.mapM f = .ok r) :
    All2 (fun a b => f a = .ok b) l r :=
  all2_iff_pointwise.mpr ((mapM_ok_iff f).mp h)

theorem mapM_of_all2 {ε α β} (f : α → Except ε β) : ∀ (l : List α) (r : List β),
    All2 (fun a b => f a = .ok b) l r → l.mapM f = .ok r := by
  intro l r h
  induction h with
  | nil => rfl
  | cons ha _ ih => rw [List.mapM_cons, ha, ih]; rfl

theorem All2.imp {α β : Type} {R Q : α → β → Prop} {l : List α} {r : List β} (h : All2 R l r)
    (hi : ∀ a b, R a b → Q a b) : All2 Q l r :=
  all2_iff_pointwise.mpr ((all2_iff_pointwise.mp h).imp hi)

theorem all2_map {α β} (R : α → β → Prop) (f : α → β) (l : List α) (h : ∀ a ∈ l, R a (f a)) :
    All2 R l (l.map f) := by
  induction l with
  | nil => exact .nil
  | cons a rest ih =>
    exact .cons (h a (List.mem_cons_self ..)) (ih (fun a ha => h a (List.mem_cons_of_mem _ ha)))

theorem All2.mem_left {α β} {R : α → β → Prop} {l : List α} {r : List β} (h : All2 R l r) :
    ∀ a ∈ l, ∃ b ∈ r, R a b := by
  induction h with
  | nil => intro a ha; cases ha
  | cons hab _ ih =>
    intro a ha
    rcases List.mem_cons.mp ha with rfl | ha
    · exact ⟨_, List.mem_cons_self .., hab⟩
    · obtain ⟨b, hb, h⟩ := ih a ha; exact ⟨b, List.mem_cons_of_mem _ hb, h⟩

theorem All2.mem_right {α β : Type} {R : α → β → Prop} {l : List α} {r : List β} (h : All2 R l r) :
    ∀ b ∈ r, ∃ a ∈ l, R a b :=
  (all2_iff_pointwise.mp h).exists_left

theorem findDbi_nil (n : Bytes) : findDbi [] n = none := rfl

theorem findDbi_isSome_iff {dbis : List Dbi} {n : Bytes} :
    (findDbi dbis n).isSome = true ↔ n ∈ dbis.map (·.name) := by
  unfold findDbi
  rw [List.find?_isSome, List.mem_map]
  simp

theorem findDbi_setKvs_if (dbis : List Dbi) (n : Bytes) (kvs : KVs) (m : Bytes) :
    findDbi (setKvs dbis n kvs) m =
      if m = n then (findDbi dbis n).map (fun d => { d with kvs := kvs }) else findDbi dbis m := by
  rw [findDbi_setKvs]
  cases hd : findDbi dbis m with
  | none => split <;> simp_all
  | some d =>
    have hm := findDbi_name hd
    by_cases hn : m = n
    · subst hn; rw [if_pos rfl, hd]; simp [hm]
    · rw [if_neg hn]; simp [hm, hn]

theorem openCreate_mem (w : W) (n : Bytes) (fl : Nat) (x : Dbi) (hx : x ∈ (openCreate w n fl).dbis) :
    x ∈ w.dbis ∨ (x = { name := n, flags := fl, kvs := [] } ∧ findDbi w.dbis n = none) := by
  unfold openCreate at hx
  split at hx
  · exact Or.inl hx
  · rename_i hn
    rcases List.mem_cons.mp ((insertDbi_perm _ _).mem_iff.mp hx) with h | h
    · exact Or.inr ⟨h, hn⟩
    · exact Or.inl h

theorem runOn_eq {w : W} {n : Bytes} {d : Dbi} {f : S → Except Err S} {s : S}
    (hd : findDbi w.dbis n = some d) (hs : f { db := d.kvs, dirty := w.dirty } = .ok s) :
    runOn w n f = .ok { dbis := setKvs w.dbis n s.db, dirty := s.dirty } := by
  unfold runOn
  simp only [hd, hs, bind, Except.bind, pure, Except.pure]

/-- DBI names are pairwise distinct -/
def DistinctNames (dbis : List Dbi) : Prop := dbis.Pairwise (fun a b => a.name ≠ b.name)

instance (dbis : List Dbi) : Decidable (DistinctNames dbis) := by
  unfold DistinctNames; exact inferInstance

theorem DistinctNames.find_of_mem {dbis : List Dbi} (h : DistinctNames dbis) {d : Dbi} (hd : d ∈ dbis) :
    findDbi dbis d.name = some d := by
  induction dbis with
  | nil => cases hd
  | cons a rest ih =>
    obtain ⟨h1, h2⟩ := List.pairwise_cons.mp h
    rw [findDbi_cons]
    rcases List.mem_cons.mp hd with rfl | hd
    · rw [if_pos rfl]
    · rw [if_neg (h1 d hd), ih h2 hd]

theorem setKvs_self {dbis : List Dbi} (h : DistinctNames dbis) {n : Bytes} {d : Dbi}
    (hd : findDbi dbis n = some d) : setKvs dbis n d.kvs = dbis := by
  unfold setKvs
  conv => rhs; rw [← List.map_id dbis]
  apply List.map_congr_left
  intro x hx
  split
  · rename_i hn
    have := h.find_of_mem hx
    rw [hn, hd] at this
    cases this; rfl
  · rfl

theorem runOn_noop {w : W} {n : Bytes} {d : Dbi} {f : S → Except Err S}
    (hd : findDbi w.dbis n = some d) (hdist : DistinctNames w.dbis)
    (hs : f { db := d.kvs, dirty := w.dirty } = .ok { db := d.kvs, dirty := w.dirty }) :
    runOn w n f = .ok w := by
  rw [runOn_eq hd hs]
  rw [setKvs_self hdist hd]

/-- DBI names strictly increasing in the root DBI's byte-wise order -/
def NamesSorted (dbis : List Dbi) : Prop := dbis.Pairwise (fun a b => bcmp a.name b.name < 0)

theorem NamesSorted.distinct {dbis : List Dbi} (h : NamesSorted dbis) : DistinctNames dbis := by
  unfold NamesSorted at h
  unfold DistinctNames
  exact h.imp (fun {a b} hab he => by rw [he] at hab; have := bcmp_eq.mpr (rfl : b.name = b.name); omega)

theorem namesSorted_iff {dbis : List Dbi} : NamesSorted dbis ↔ SortedNames dbis := by
  unfold NamesSorted SortedNames
  rw [List.pairwise_map]

/-- `D'` arises from `D` by opening (creating when missing) DBIs and replacing the content of
    DBIs, all of them with names in `T` -/
inductive Edits (T : Bytes → Prop) : List Dbi → List Dbi → Prop where
  | refl (D) : Edits T D D
  | set {D D'} (n : Bytes) (kvs : KVs) : T n → Edits T D D' → Edits T D (setKvs D' n kvs)
  | opened {D D'} (b : Bool) (n : Bytes) (fl : Nat) :
      T n → Edits T D D' → Edits T D (openCreate ⟨D', b⟩ n fl).dbis

theorem Edits.mono {T T' : Bytes → Prop} {D D' : List Dbi} (h : Edits T D D') (hT : ∀ n, T n → T' n) :
    Edits T' D D' := by
  induction h with
  | refl => exact .refl _
  | set n kvs hn _ ih => exact .set n kvs (hT n hn) ih
  | opened b n fl hn _ ih => exact .opened b n fl (hT n hn) ih

theorem Edits.trans {T : Bytes → Prop} {D D' D'' : List Dbi} (h1 : Edits T D D') (h2 : Edits T D' D'') :
    Edits T D D'' := by
  induction h2 with
  | refl => exact h1
  | set n kvs hn _ ih => exact .set n kvs hn ih
  | opened b n fl hn _ ih => exact .opened b n fl hn ih

theorem Edits.find {T : Bytes → Prop} {D D' : List Dbi} (h : Edits T D D') {x : Bytes} (hx : ¬ T x) :
    findDbi D' x = findDbi D x := by
  induction h with
  | refl => rfl
  | set n kvs hn _ ih => rw [findDbi_setKvs_if, if_neg (fun (e : x = n) => hx (e ▸ hn)), ih]
  | opened b n fl hn _ ih => rw [findDbi_openCreate, if_neg (fun (e : x = n) => hx (e ▸ hn)), ih]

theorem Edits.distinct {T : Bytes → Prop} {D D' : List Dbi} (h : Edits T D D') (hd : DistinctNames D) :
    DistinctNames D' := by
  induction h with
  | refl => exact hd
  | @set D' n kvs _ _ ih =>
    exact List.pairwise_map.mp (names_setKvs D' n kvs ▸
      (List.pairwise_map.mpr ih : (D'.map (·.name)).Pairwise (· ≠ ·)))
  | opened b n fl _ _ ih =>
    unfold openCreate
    split
    · exact ih
    · rename_i hn
      -- the new name is absent, and distinctness does not depend on where it is inserted
      exact ((insertDbi_perm _ _).pairwise_iff (fun hab => Ne.symm hab)).mpr
        (List.pairwise_cons.mpr ⟨fun y hy => Ne.symm (findDbi_none.mp hn y hy), ih⟩)

theorem foldlM_edits {α} {f : W → α → Except Err W} {touch : α → Bytes → Prop}
    (hstep : ∀ w a w1, f w a = .ok w1 → Edits (touch a) w.dbis w1.dbis) {l : List α} {w w' : W}
    (h : l.foldlM f w = .ok w') : Edits (fun x => ∃ a ∈ l, touch a x) w.dbis w'.dbis :=
  foldlM_inv (fun b => Edits (fun x => ∃ a ∈ l, touch a x) w.dbis b.dbis)
    (fun a ha b b1 hb hs => hb.trans ((hstep b a b1 hs).mono (fun _ hn => ⟨a, ha, hn⟩))) (.refl _) h

/-- in a fold over distinct elements the step of `a` sees the initial state wherever the other
    steps touch nothing, and there what it leaves is final -/
theorem foldlM_isolate {α} {f : W → α → Except Err W} {touch : α → Bytes → Prop}
    (hstep : ∀ w a w1, f w a = .ok w1 → Edits (touch a) w.dbis w1.dbis) {l : List α} (hn : l.Nodup)
    {a : α} (ha : a ∈ l) {w w' : W} (h : l.foldlM f w = .ok w') :
    ∃ w1 w2, f w1 a = .ok w2 ∧ ∀ x, (∀ m ∈ l, m ≠ a → ¬ touch m x) →
      findDbi w1.dbis x = findDbi w.dbis x ∧ findDbi w'.dbis x = findDbi w2.dbis x := by
  obtain ⟨pre, post, rfl⟩ := List.append_of_mem ha
  have hne : ∀ m, m ∈ pre ∨ m ∈ post → m ≠ a := by
    rintro m hm rfl
    obtain ⟨_, hpost, hdisj⟩ := List.nodup_append.mp hn
    rcases hm with hm | hm
    · exact hdisj m hm m (List.mem_cons_self ..) rfl
    · exact (List.nodup_cons.mp hpost).1 hm
  rw [List.foldlM_append] at h
  obtain ⟨w1, h1, h⟩ := except_bind_ok h
  obtain ⟨w2, h2, h3⟩ := foldlM_cons_ok h
  refine ⟨w1, w2, h2, fun x hx => ⟨(foldlM_edits hstep h1).find ?_, (foldlM_edits hstep h3).find ?_⟩⟩
  · rintro ⟨m, hm, ht⟩
    exact hx m (List.mem_append_left _ hm) (hne m (Or.inl hm)) ht
  · rintro ⟨m, hm, ht⟩
    exact hx m (List.mem_append_right _ (List.mem_cons_of_mem _ hm)) (hne m (Or.inr hm)) ht

theorem distinct_nodup {dbis : List Dbi} (h : DistinctNames dbis) : (dbis.map (·.name)).Nodup :=
  List.pairwise_map.mpr h

def entryOf (raw : Bool) (kv : Bytes × Bytes) : Except Err KV :=
    if raw then pure ({ key := kv.1, val := kv.2, ts := 0, flags := 0 } : KV)
    else match Header.parse kv.2 with
      | .error _ => throw Err.entry
      | .ok (h, app) =>
        pure ({ key := kv.1, val := app, ts := h.ts, flags := (Header.masked h.flags).toNat } : KV)

/-- `readDBI` of the DBI `dn` for the DBI `on` (whose flags it reports): both must exist and the
    flags pass the dupsort gate; the entries are the stored pairs through `entryOf` -/
theorem readDBI_entryOf_eq (c : Cfg) (w : W) (dn on : Bytes) (raw : Bool) :
    readDBI c w dn on raw =
      match findDbi w.dbis dn with
      | none => .error .dbiMissing
      | some d =>
        match findDbi w.dbis on with
        | none => .error .dbiMissing
        | some o =>
          if isDupSort o.flags = true ∧ ¬ c.hack = true then .error .dupsortNoHack
          else d.kvs.mapM (entryOf raw) >>= fun es => pure
            { name := on, flags := o.flags,
              transform := if isDupSort o.flags then strBytes Gen.transformDupSortHackV1 else [], entries := es } := by
  unfold readDBI
  cases hd : findDbi w.dbis dn with
  | none => rfl
  | some d =>
    by_cases hne : dn = on
    · subst hne
      simp only [hd, ne_eq, not_true_eq_false, if_false]; rfl
    · simp only [ne_eq, hne, not_false_eq_true, if_true]
      cases findDbi w.dbis on <;> rfl

theorem readDBI_entryOf_ok {c : Cfg} {w : W} {dn on : Bytes} {raw : Bool} {msg : DbiMsg}
    (h : readDBI c w dn on raw = .ok msg) :
    ∃ d o, findDbi w.dbis dn = some d ∧ findDbi w.dbis on = some o ∧
      ¬ (isDupSort o.flags = true ∧ ¬ c.hack = true) ∧ d.kvs.mapM (entryOf raw) = .ok msg.entries := by
  rw [readDBI_entryOf_eq] at h
  split at h
  · cases h
  rename_i d hd
  split at h
  · cases h
  rename_i o ho
  split at h
  · cases h
  rename_i hh
  obtain ⟨es, hes, h⟩ := except_bind_ok h
  cases h
  exact ⟨d, o, hd, ho, hh, hes⟩

variable {ε : Type}

/-- `es` carries exactly the keys of `kvs`, in order; each entry is related to the stored value -/
def KeyRel (R : Bytes → KV → Prop) (kvs : KVs) (es : List KV) : Prop :=
  All2 (fun kv e => e.key = kv.1 ∧ R kv.2 e) kvs es

theorem KeyRel.isorted {R : Bytes → KV → Prop} {kvs : KVs} {es : List KV} (h : KeyRel R kvs es)
    {ik : Bool} (it : Iter KV ε) (hk : ∀ e, it.key e = e.key) (hs : Sorted ik kvs) : ISorted ik it es := by
  induction h with
  | nil => exact List.Pairwise.nil
  | cons hab hrest ih =>
    obtain ⟨h1, h2⟩ := List.pairwise_cons.mp hs
    refine List.pairwise_cons.mpr ⟨?_, ih h2⟩
    intro e he
    obtain ⟨kv, hkv, hke, _⟩ := hrest.mem_right e he
    rw [hk, hk, hab.1, hke]
    exact h1 kv hkv

theorem KeyRel.keysOK {R : Bytes → KV → Prop} {kvs : KVs} {es : List KV} (h : KeyRel R kvs es)
    (it : Iter KV ε) (hk : ∀ e, it.key e = e.key) (hD : DKeysOK kvs) : KeysOK it es := by
  intro e he
  obtain ⟨kv, hkv, hke, _⟩ := h.mem_right e he
  have := hD kv hkv
  simp only [badKey, Bool.or_eq_false_iff, decide_eq_false_iff_not] at this
  rw [hk, hke]
  exact ⟨this.1, by have := this.2; omega⟩

theorem KeyRel.lookup {R : Bytes → KV → Prop} {kvs : KVs} {es : List KV} (h : KeyRel R kvs es)
    (ik : Bool) (it : Iter KV ε) (hk : ∀ e, it.key e = e.key) (k : Bytes) :
    (lookupI ik it es k = none ∧ get ik kvs k = none) ∨
    ∃ e v, lookupI ik it es k = some e ∧ e ∈ es ∧ kcmp ik e.key k = 0 ∧ get ik kvs k = some v ∧ R v e := by
  induction h with
  | nil => left; exact ⟨rfl, rfl⟩
  | @cons kv e kvs' es' hab _ ih =>
    obtain ⟨k', v'⟩ := kv
    simp only at hab
    by_cases hc : kcmp ik (it.key e) k = 0
    · right
      have hc' : kcmp ik k k' = 0 := by rw [hk, hab.1] at hc; exact (kcmp_eq_comm ik _ _).mp hc
      refine ⟨e, v', lookupI_cons_pos hc, List.mem_cons_self .., by rw [← hk]; exact hc, ?_, hab.2⟩
      rw [get_cons, if_pos hc']
    · have hc' : ¬ kcmp ik k k' = 0 := by
        intro h'; apply hc; rw [hk, hab.1]; exact (kcmp_eq_comm ik _ _).mp h'
      rw [lookupI_cons_neg hc, get_cons, if_neg hc']
      rcases ih with ih | ⟨e', v, h1, h2, h3⟩
      · exact Or.inl ih
      · exact Or.inr ⟨e', v, h1, List.mem_cons_of_mem _ h2, h3⟩

theorem KeyRel.inInput {R : Bytes → KV → Prop} {kvs : KVs} {es : List KV} (h : KeyRel R kvs es)
    (ik : Bool) (it : Iter KV ε) (hk : ∀ e, it.key e = e.key) (k : Bytes) :
    Strategy.inInput ik it es k = (get ik kvs k).isSome := by
  have : Strategy.inInput ik it es k = (lookupI ik it es k).isSome := by
    unfold Strategy.inInput lookupI
    rw [Bool.eq_iff_iff, List.any_eq_true, List.find?_isSome]
  rcases h.lookup ik it hk k with ⟨h1, h2⟩ | ⟨e, v, h1, _, _, h2, _⟩ <;> rw [this, h1, h2] <;> rfl

/-- `IterUpdate` of entries read off the sorted DBI `src` into the sorted DBI `tgt`, pointwise: a
    key of `src` holds the merge decision of its entry on what `tgt` stored, every other key the
    clean decision on what `tgt` stored; and these are the iterator's own decisions -/
theorem iterUpdate_keyRel {it : Iter KV ε} {mg : KV → Bytes → Option Bytes} {cl : Bytes → Option Bytes}
    {R : Bytes → KV → Prop} {ik : Bool} {src tgt : KVs} {es : List KV} {d : Bool} {s : S}
    (hk : ∀ e, it.key e = e.key) (hr : KeyRel R src es) (hA : Sorted ik src) (hAK : DKeysOK src)
    (hS : Sorted ik tgt) (hSK : DKeysOK tgt) (L : LocalTotal ik it mg cl es tgt)
    (h : iterUpdate ik it ⟨tgt, d⟩ es = .ok s) :
    Sorted ik s.db ∧ DKeysOK s.db ∧ ∀ k,
      (get ik src k = none ∧ get ik s.db k = (get ik tgt k).bind cl ∧
        ∀ dv, get ik tgt k = some dv → it.clean dv = .ok (cl dv)) ∨
      ∃ e v, e ∈ es ∧ kcmp ik e.key k = 0 ∧ get ik src k = some v ∧ R v e ∧
        get ik s.db k = setNew (mg e ((get ik tgt k).getD [])) ∧
        it.merge e ((get ik tgt k).getD []) = .ok (mg e ((get ik tgt k).getD [])) := by
  have hIS := hr.isorted it hk hA
  have hKO := hr.keysOK it hk hAK
  obtain ⟨d', h1, _⟩ := iterUpdate_main tgt d es L hIS hKO hS hSK
  cases h1.symm.trans h
  refine ⟨sorted_joinOut _ _ es tgt hIS hS, joinOut_dkeysOK _ _ hKO hSK, fun k => ?_⟩
  show _ ∨ ∃ e v, _ ∧ _ ∧ _ ∧ _ ∧ get ik (joinOut ik it mg cl es tgt) k = _ ∧ _
  rw [get_joinOut _ _ k es tgt hIS hS]
  rcases hr.lookup ik it hk k with ⟨h1, h2⟩ | ⟨e, v, h1, he, hek, h2, h3⟩
  · refine Or.inl ⟨h2, by rw [h1], fun dv hg => ?_⟩
    obtain ⟨dk, hmem, hkk⟩ := get_some_mem hg
    exact L.clean (dk, dv) hmem (by rw [hr.inInput ik it hk dk, ← get_congr ik src hkk, h2]; rfl)
  · refine Or.inr ⟨e, v, he, hek, h2, h3, by rw [h1], ?_⟩
    cases hg : get ik tgt k with
    | none => exact L.mergeNil e he
    | some dv => exact L.mergeStored e he dv (by rw [hk, get_congr ik tgt hek, hg])

theorem entryOf_true (kv : Bytes × Bytes) :
    entryOf true kv = .ok { key := kv.1, val := kv.2, ts := 0, flags := 0 } := rfl

/-- a shadow value read back: the entry carries the application value, the timestamp and the
    (masked) flags of the stored header -/
def ReadRel (stored : Bytes) (e : KV) : Prop :=
  ∃ hd, Header.parse stored = .ok (hd, e.val) ∧ e.ts = hd.ts ∧ e.flags = (Header.masked hd.flags).toNat

/-- a not-raw read is TxnSend's `dumpEntry` (a raw read does not look at the header: `entryOf_true`) -/
theorem entryOf_false (kv : Bytes × Bytes) : entryOf false kv = dumpEntry kv := by
  unfold entryOf dumpEntry
  cases Header.parse kv.2 <;> rfl

/-- TxnSend's `EntryImage` is `ReadRel` together with the key -/
theorem entryImage_iff_readRel {kv : Bytes × Bytes} {e : KV} :
    EntryImage kv e ↔ e.key = kv.1 ∧ ReadRel kv.2 e := by
  constructor
  · rintro ⟨h, app, hp, rfl⟩
    exact ⟨rfl, h, hp, rfl, rfl⟩
  · rintro ⟨hk, h, hp, ht, hf⟩
    refine ⟨h, e.val, hp, ?_⟩
    cases e
    simp only at hk ht hf
    rw [hk, ht, hf]

theorem entryOf_false_iff {kv : Bytes × Bytes} {e : KV} :
    entryOf false kv = .ok e ↔ e.key = kv.1 ∧ ReadRel kv.2 e := by
  rw [entryOf_false, dumpEntry_ok_iff, entryImage_iff_readRel]

/-- raw read (application DBI): value as stored, timestamp 0, no flags -/
def RawRel (stored : Bytes) (e : KV) : Prop := e.val = stored ∧ e.ts = 0 ∧ e.flags = 0

/-- the raw entries of an application DBI -/
def rawEntries (kvs : KVs) : List KV :=
  kvs.map fun kv => ({ key := kv.1, val := kv.2, ts := 0, flags := 0 } : KV)

theorem mapM_entryOf_true (kvs : KVs) : kvs.mapM (entryOf true) = .ok (rawEntries kvs) :=
  mapM_of_all2 _ _ _ (all2_map _ _ kvs (fun _ _ => rfl))

theorem keyRel_raw (kvs : KVs) : KeyRel RawRel kvs (rawEntries kvs) :=
  all2_map _ _ kvs (fun _ _ => ⟨rfl, rfl, rfl, rfl⟩)

theorem keyRel_read {kvs : KVs} {es : List KV} (h : kvs.mapM (entryOf false) = .ok es) :
    KeyRel ReadRel kvs es :=
  (mapM_ok_all2 _ _ _ h).imp (fun _ _ hab => entryOf_false_iff.mp hab)

theorem mapM_entryOf_false_ok (kvs : KVs) (h : ∀ p ∈ kvs, ∃ hd v, Header.parse p.2 = .ok (hd, v)) :
    ∃ es, kvs.mapM (entryOf false) = .ok es := by
  induction kvs with
  | nil => exact ⟨[], rfl⟩
  | cons p rest ih =>
    obtain ⟨hd, v, hp⟩ := h p (List.mem_cons_self ..)
    obtain ⟨es, hes⟩ := ih (fun q hq => h q (List.mem_cons_of_mem _ hq))
    have he : entryOf false p = .ok { key := p.1, val := v, ts := hd.ts, flags := (Header.masked hd.flags).toNat } :=
      entryOf_false_iff.mpr ⟨rfl, hd, hp, rfl, rfl⟩
    exact ⟨_ :: es, by rw [List.mapM_cons, he, hes]; rfl⟩

end Ls.Txn
