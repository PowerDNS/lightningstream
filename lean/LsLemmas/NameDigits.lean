import LsModel.Name
import LsLemmas.Bytes
/- fixed-width decimal fields: length, reading back, byte order = numeric order; lexicographic
   order of concatenations of equal-length pieces. Core only. -/
namespace Ls.Name
open Ls

theorem bytes_lt_asymm (a b : Bytes) : a < b → ¬ b < a := Ls.bytes_lt_asymm

/-- If `x`, `y` stand in the irreflexive relation `r` exactly as the numbers `a`, `b` do in `<`,
    then `x = y` only if `a = b`: what is strictly monotone is injective. -/
theorem eq_of_lt_iff {α : Type} {r : α → α → Prop} (irr : ∀ x, ¬ r x x) {x y : α} {a b : Nat}
    (hab : r x y ↔ a < b) (hba : r y x ↔ b < a) (h : x = y) : a = b := by
  subst h
  exact Nat.le_antisymm (Nat.le_of_not_lt fun h => irr _ (hba.2 h)) (Nat.le_of_not_lt fun h => irr _ (hab.2 h))

theorem eq_iff_of_lt_iff {x y a b : Nat} (h1 : x < y ↔ a < b) (h2 : y < x ↔ b < a) :
    x = y ↔ a = b := by omega

theorem append_lt_append_iff (a a' x y : Bytes) (h : a.length = a'.length) :
    a ++ x < a' ++ y ↔ a < a' ∨ (a = a' ∧ x < y) := by
  induction a generalizing a' with
  | nil =>
    cases a' with
    | nil => simp
    | cons _ _ => simp at h
  | cons c a ih =>
    cases a' with
    | nil => simp at h
    | cons c' a' =>
      simp only [List.cons_append, List.cons_lt_cons_iff, ih a' (by simpa using h), List.cons.injEq,
        and_or_left, or_assoc, and_assoc]

theorem prefix_lt_iff (p a b : Bytes) : p ++ a < p ++ b ↔ a < b := by
  rw [append_lt_append_iff p p a b rfl]
  simp [List.lt_irrefl]

/-- the ASCII digit of `r` -/
def dg (r : Nat) : UInt8 := UInt8.ofNat (48 + r % 10)

theorem decDigits_succ (k n : Nat) : decDigits (k + 1) n = decDigits k (n / 10) ++ [dg n] := rfl

@[simp] theorem decDigits_length (k n : Nat) : (decDigits k n).length = k := by
  induction k generalizing n with
  | zero => rfl
  | succ k ih => simp [decDigits, ih]

theorem dg_toNat (r : Nat) : (dg r).toNat = 48 + r % 10 := by
  unfold dg
  rw [UInt8.toNat_ofNat']
  omega

theorem isDigit_iff (c : UInt8) : isDigit c = true ↔ 48 ≤ c.toNat ∧ c.toNat ≤ 57 := by
  simp [isDigit, UInt8.le_iff_toNat_le]

theorem isDigit_dg (r : Nat) : isDigit (dg r) = true := by
  rw [isDigit_iff, dg_toNat]
  omega

theorem dg_lt_iff (a b : Nat) : dg a < dg b ↔ a % 10 < b % 10 := by
  rw [UInt8.lt_iff_toNat_lt, dg_toNat, dg_toNat]; omega

theorem dg_eq_iff (a b : Nat) : dg a = dg b ↔ a % 10 = b % 10 := by
  rw [← UInt8.toNat_inj, dg_toNat, dg_toNat]; omega

theorem decDigits_all_digit (k n : Nat) : ∀ c ∈ decDigits k n, isDigit c = true := by
  induction k generalizing n with
  | zero => intro c h; simp [decDigits] at h
  | succ k ih =>
    intro c h
    rw [decDigits_succ, List.mem_append, List.mem_singleton] at h
    rcases h with h | rfl
    · exact ih _ c h
    · exact isDigit_dg n

theorem digitsAux_append (acc : Nat) (a b : Bytes) :
    digitsAux acc (a ++ b) = (digitsAux acc a).bind (fun x => digitsAux x b) := by
  induction a generalizing acc with
  | nil => simp [digitsAux]
  | cons c a ih =>
    simp only [List.cons_append, digitsAux]
    split
    · exact ih _
    · rfl

theorem digitsAux_decDigits (k acc n : Nat) :
    digitsAux acc (decDigits k n) = some (acc * 10 ^ k + n % 10 ^ k) := by
  induction k generalizing n with
  | zero => simp [decDigits, digitsAux, Nat.mod_one]
  | succ k ih =>
    rw [decDigits_succ, digitsAux_append, ih]
    simp only [Option.bind_some, digitsAux, isDigit_dg, if_true, dg_toNat]
    congr 1
    have e1 : n % 10 ^ (k + 1) = n % 10 + 10 * (n / 10 % 10 ^ k) := by
      rw [Nat.pow_succ, Nat.mul_comm, Nat.mod_mul]
    have e2 : acc * 10 ^ (k + 1) = acc * 10 ^ k * 10 := by rw [Nat.pow_succ, Nat.mul_assoc]
    rw [e1, e2]
    generalize n / 10 % 10 ^ k = q
    generalize acc * 10 ^ k = p
    omega

theorem digits_decDigits (k n : Nat) (h : n < 10 ^ k) : digits (decDigits k n) = some n := by
  unfold digits; rw [digitsAux_decDigits, Nat.mod_eq_of_lt h]; simp

theorem digitsAux_lt (b : Bytes) (acc v : Nat) (h : digitsAux acc b = some v) :
    v < (acc + 1) * 10 ^ b.length := by
  induction b generalizing acc with
  | nil => simp [digitsAux] at h; subst h; simp
  | cons c cs ih =>
    rw [digitsAux] at h
    split at h
    · rename_i hd
      have hc := (isDigit_iff c).1 hd
      have h1 := ih _ h
      have h3 := Nat.mul_le_mul_right (10 ^ cs.length) (by omega : acc * 10 + (c.toNat - 48) + 1 ≤ (acc + 1) * 10)
      rw [List.length_cons, Nat.pow_succ, Nat.mul_comm (10 ^ cs.length) 10, ← Nat.mul_assoc]
      omega
    · cases h

theorem takeDigits_append (a rest : Bytes) (acc : Nat) :
    takeDigits a.length acc (a ++ rest) = (digitsAux acc a).map (·, rest) := by
  induction a generalizing acc with
  | nil => rfl
  | cons c a ih =>
    simp only [List.length_cons, List.cons_append, takeDigits, digitsAux]
    split
    · exact ih _
    · rfl

theorem takeDigits_field (k n : Nat) (rest : Bytes) (h : n < 10 ^ k) :
    takeDigits k 0 (decDigits k n ++ rest) = some (n, rest) := by
  have := takeDigits_append (decDigits k n) rest 0
  rwa [decDigits_length, ← digits, digits_decDigits k n h] at this

theorem decDigits_inj (k n m : Nat) (hn : n < 10 ^ k) (hm : m < 10 ^ k) :
    decDigits k n = decDigits k m ↔ n = m := by
  refine ⟨fun h => ?_, fun h => by rw [h]⟩
  have h1 := digits_decDigits k _ hn
  rw [h, digits_decDigits k _ hm] at h1
  exact (Option.some.inj h1).symm

theorem decDigits_lt_iff (k n m : Nat) (hn : n < 10 ^ k) (hm : m < 10 ^ k) :
    decDigits k n < decDigits k m ↔ n < m := by
  induction k generalizing n m with
  | zero => simp at hn hm; subst hn; subst hm; simp [decDigits]
  | succ k ih =>
    have hn' : n / 10 < 10 ^ k := by rw [Nat.pow_succ] at hn; omega
    have hm' : m / 10 < 10 ^ k := by rw [Nat.pow_succ] at hm; omega
    rw [decDigits_succ, decDigits_succ, append_lt_append_iff _ _ _ _ (by simp), ih _ _ hn' hm',
      decDigits_inj k _ _ hn' hm', List.cons_lt_cons_iff, dg_lt_iff]
    simp only [List.lt_irrefl, and_false, or_false]
    omega

theorem decDigits_append_lt_iff (k n m : Nat) (x y : Bytes) (hn : n < 10 ^ k) (hm : m < 10 ^ k) :
    decDigits k n ++ x < decDigits k m ++ y ↔ n < m ∨ n = m ∧ x < y := by
  rw [append_lt_append_iff _ _ _ _ (by simp), decDigits_lt_iff k n m hn hm, decDigits_inj k n m hn hm]

theorem decDigits_concat (a b x r : Nat) (hr : r < 10 ^ b) :
    decDigits a x ++ decDigits b r = decDigits (a + b) (x * 10 ^ b + r) := by
  induction b generalizing r with
  | zero => simp at hr; subst hr; simp [decDigits]
  | succ b ih =>
    have hr' : r / 10 < 10 ^ b := by rw [Nat.pow_succ] at hr; omega
    rw [decDigits_succ, ← List.append_assoc, ih _ hr', ← Nat.add_assoc, decDigits_succ]
    have h1 : (x * 10 ^ (b + 1) + r) / 10 = x * 10 ^ b + r / 10 := by
      rw [Nat.pow_succ, ← Nat.mul_assoc]; generalize x * 10 ^ b = q; omega
    have h2 : dg (x * 10 ^ (b + 1) + r) = dg r := by
      rw [dg_eq_iff, Nat.pow_succ, ← Nat.mul_assoc]; generalize x * 10 ^ b = q; omega
    rw [h1, h2]

end Ls.Name
