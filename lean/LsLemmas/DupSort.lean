import LsLemmas.Bytes
import LsModel.DupSort
/-
  The dupsort hack (syncer/dupsorthack.go): the shadow key `encKey` of a (key, value) pair, that
  `decodeOne` recovers the pair from it, and what `encodeAll` guarantees when it accepts (C20).
-/
namespace Ls.DupSort
open Ls Ls.Merge

theorem maxKey_eq : maxKey = 511 ∧ hackMaxKey = 255 := by decide

/-- the encoded key, spelled out -/
def encKey (key val : Bytes) : Bytes :=
  key ++ [0, 0, 0, 0] ++ val.take (511 - (key.length + 4) - 1) ++ [UInt8.ofNat key.length]

theorem encodeOne_ok (e : KV) (h1 : 1 ≤ e.key.length) (h2 : e.key.length ≤ 255) :
    encodeOne e = .ok { key := encKey e.key e.val, val := e.val, ts := 0, flags := e.flags } := by
  unfold encodeOne
  have c := maxKey_eq
  rw [if_neg (by omega), if_neg (by rw [c.2]; omega)]
  simp [encKey, c.1]

theorem encodeOne_refuse (e : KV) (h : e.key.length = 0 ∨ 255 < e.key.length) :
    ∃ err, encodeOne e = .error err := by
  unfold encodeOne
  have c := maxKey_eq
  rcases h with h | h
  · exact ⟨_, by rw [if_pos h]⟩
  · by_cases h0 : e.key.length = 0
    · exact ⟨_, by rw [if_pos h0]⟩
    · exact ⟨_, by rw [if_neg h0, if_pos (by rw [c.2]; exact h)]⟩

theorem encKey_length (key val : Bytes) (h1 : 1 ≤ key.length) (h2 : key.length ≤ 255) :
    6 ≤ (encKey key val).length ∧ (encKey key val).length ≤ 511 := by
  simp only [encKey, List.length_append, List.length_take, List.length_cons, List.length_nil]
  omega

theorem encKey_sep (key val : Bytes) (j : Nat) (hj : j < 4) : (encKey key val).getD (key.length + j) 1 = 0 := by
  unfold encKey
  simp only [List.append_assoc, List.getD_eq_getElem?_getD, List.getElem?_append_right (Nat.le_add_right _ _),
    Nat.add_sub_cancel_left]
  match j, hj with
  | 0, _ => rfl
  | 1, _ => rfl
  | 2, _ => rfl
  | 3, _ => rfl

theorem decodeOne_encKey (key val : Bytes) (flags ts : Nat) (h1 : 1 ≤ key.length) (h2 : key.length ≤ 255) :
    decodeOne { key := encKey key val, val := val, ts := ts, flags := flags }
      = .ok { key := key, val := val, ts := 0, flags := flags } := by
  have hl := encKey_length key val h1 h2
  have hlast : (encKey key val).getLast? = some (UInt8.ofNat key.length) := by
    unfold encKey; rw [List.getLast?_append]; simp
  have hkl : (UInt8.ofNat key.length).toNat = key.length := by
    simp [UInt8.toNat_ofNat']; omega
  have htake : (encKey key val).take key.length = key := by
    unfold encKey; rw [List.append_assoc, List.append_assoc, List.take_left']; rfl
  have hsep := encKey_sep key val
  have hlen : ¬ (encKey key val).length < key.length + 5 := by
    simp only [encKey, List.length_append, List.length_take, List.length_cons, List.length_nil]; omega
  unfold decodeOne
  simp only [hlast, Option.getD_some, hkl]
  have h0 := hsep 0 (by omega)
  rw [Nat.add_zero] at h0
  rw [if_neg (by omega), if_neg hlen,
    if_neg (by rw [h0, hsep 1 (by omega), hsep 2 (by omega), hsep 3 (by omega)]; simp), htake]

/-- an accepted entry has a key of 1..255 bytes and is encoded by `encKey` -/
theorem encodeOne_ok_inv {e kv : KV} (h : encodeOne e = .ok kv) :
    (1 ≤ e.key.length ∧ e.key.length ≤ 255) ∧
      kv = { key := encKey e.key e.val, val := e.val, ts := 0, flags := e.flags } := by
  by_cases hk : 1 ≤ e.key.length ∧ e.key.length ≤ 255
  · rw [encodeOne_ok e hk.1 hk.2] at h
    exact ⟨hk, (Except.ok.inj h).symm⟩
  · obtain ⟨err, he⟩ := encodeOne_refuse e (by omega)
    rw [he] at h; cases h

/-- `encodeAllAux` accepts a list iff it accepts the head, the head's shadow key is above `prev`,
    and it accepts the tail above that key -/
theorem encodeAllAux_cons_ok {prev : Bytes} {e : KV} {rest r : List KV}
    (h : encodeAllAux prev (e :: rest) = .ok r) :
    ∃ kv r', encodeOne e = .ok kv ∧ bcmp prev kv.key < 0 ∧ encodeAllAux kv.key rest = .ok r' ∧ r = kv :: r' := by
  simp only [encodeAllAux] at h
  split at h
  · cases h
  rename_i kv hkv
  split at h
  · cases h
  split at h
  · cases h
  split at h
  · cases h
  rename_i hne hngt r' hr'
  exact ⟨kv, r', hkv, by omega, hr', (Except.ok.inj h).symm⟩

/-- everything `encodeAllAux` guarantees when it accepts -/
theorem encodeAllAux_spec (prev : Bytes) (l r : List KV) (h : encodeAllAux prev l = .ok r) :
    r.length = l.length ∧
    (∀ x ∈ r, bcmp prev x.key < 0) ∧
    List.Pairwise (fun a b => bcmp a.key b.key < 0) r ∧
    decodeAll r = .ok (l.map fun e => { e with ts := 0 }) ∧
    (∀ e ∈ l, 1 ≤ e.key.length ∧ e.key.length ≤ 255) := by
  induction l generalizing prev r with
  | nil =>
    simp only [encodeAllAux] at h; injection h with h; subst h
    simp [decodeAll]
    rfl
  | cons e rest ih =>
    obtain ⟨kv, r', hkv, hlt, hr', rfl⟩ := encodeAllAux_cons_ok h
    obtain ⟨hk, rfl⟩ := encodeOne_ok_inv hkv
    obtain ⟨hlen, hprev, hpw, hdec, hkeys⟩ := ih _ r' hr'
    refine ⟨by simp [hlen], ?_, List.pairwise_cons.mpr ⟨hprev, hpw⟩, ?_, ?_⟩
    · intro x hx
      rcases List.mem_cons.mp hx with rfl | hx
      · exact hlt
      · exact bcmp_lt.mpr (List.lt_trans (bcmp_lt.mp hlt) (bcmp_lt.mp (hprev x hx)))
    · simp only [decodeAll, List.mapM_cons, List.map_cons] at hdec ⊢
      rw [decodeOne_encKey e.key e.val e.flags 0 hk.1 hk.2, show (List.mapM decodeOne r') = _ from hdec]
      rfl
    · intro e' he'
      rcases List.mem_cons.mp he' with rfl | he'
      · exact hk
      · exact hkeys e' he'

end Ls.DupSort
