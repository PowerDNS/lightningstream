import LsLemmas.RecvLive
/-
  Receiver model: the states reachable from `init` (`RReach`, `RReachE`) satisfy the invariants,
  and the driver's big step `quiesceOrd` is a run of fault-free small steps, so what the driver
  shows is reachable. Core Lean only.
-/
namespace Ls.Recv
variable {ι : Type} [DecidableEq ι]

/-- reachable from the initial state of a receiver of instance `own` with the two limits -/
def RReach (own : ι) (dl dc : Nat) (s : St ι) : Prop := ∃ steps, run (init own dl dc) steps = some s

/-- reachable by a run whose steps satisfy an environment assumption -/
def RReachE (ok : St ι → Step ι → Prop) (own : ι) (dl dc : Nat) (s : St ι) : Prop :=
  ∃ steps, AllOk ok (init own dl dc) steps ∧ run (init own dl dc) steps = some s

theorem rreach_inv {own : ι} {dl dc : Nat} {s : St ι} (h : RReach own dl dc s) :
    Inv s ∧ InvL s ∧ InvK s ∧ InvD s ∧ s.own = own ∧ s.dlLimit = dl ∧ s.dcLimit = dc := by
  obtain ⟨steps, hr⟩ := h
  exact ⟨run_inv (fun _ _ _ hp hs => inv_step hp hs) steps (inv_init own dl dc) hr,
    run_inv (fun _ _ _ hp hs => invL_step hp hs) steps (invL_init own dl dc) hr,
    run_inv (fun _ _ _ hp hs => invK_step hp hs) steps (invK_init own dl dc) hr,
    run_inv (fun _ _ _ hp hs => invD_step hp hs) steps (invD_init own dl dc) hr, consts_run steps hr⟩

theorem dlStepOf_fair {s : St ι} {d : ι} {x : Step ι} (h : dlStepOf s d = some x) : x.fair = true := by
  unfold dlStepOf at h
  split at h
  · cases h
  · split at h
    · split at h <;> cases h; rfl
    · cases h; rfl
    · split at h <;> cases h; rfl
    · cases h
      simp only [Step.fair]
      split <;> rfl
    · split at h <;> cases h; rfl
    · cases h; rfl
    · cases h

theorem firstStep_spec {s : St ι} {order : List ι} {x : Step ι} {s' : St ι} (h : firstStep s order = some (x, s')) :
    x.fair = true ∧ step s x = some s' := by
  induction order with
  | nil => cases h
  | cons d r ih =>
    simp only [firstStep] at h
    split at h
    · split at h
      · cases h; exact ⟨dlStepOf_fair ‹_›, ‹_›⟩
      · exact ih h
    · exact ih h

theorem quiesceLoop_run (order : List ι) (fuel : Nat) (s : St ι) :
    (∀ x ∈ (quiesceLoop order fuel s).1, x.fair = true) ∧
    run s (quiesceLoop order fuel s).1 = some (quiesceLoop order fuel s).2 := by
  induction fuel generalizing s with
  | zero => exact ⟨nofun, rfl⟩
  | succ n ih =>
    simp only [quiesceLoop]
    split
    · rename_i x s' hfs
      obtain ⟨hf, hs⟩ := firstStep_spec hfs
      exact ⟨List.forall_mem_cons.mpr ⟨hf, (ih s').1⟩, by simp only [run, hs]; exact (ih s').2⟩
    · exact ⟨nofun, rfl⟩

theorem retryAll_run (order : List ι) (s : St ι) :
    (∀ x ∈ (retryAll order s).1, x.fair = true) ∧ run s (retryAll order s).1 = some (retryAll order s).2 := by
  induction order generalizing s with
  | nil => exact ⟨nofun, rfl⟩
  | cons d r ih =>
    simp only [retryAll]
    split
    · rename_i s' hs
      exact ⟨List.forall_mem_cons.mpr ⟨rfl, (ih s').1⟩, by simp only [run, hs]; exact (ih s').2⟩
    · exact ih s

theorem quiesceOrd_run (order : List ι) (s : St ι) :
    (∀ x ∈ (quiesceOrd order s).1, x.fair = true) ∧
    run s (quiesceOrd order s).1 = some (quiesceOrd order s).2 := by
  obtain ⟨a1, a2⟩ := retryAll_run order s
  obtain ⟨b1, b2⟩ := quiesceLoop_run order (16 * order.length + 16) (retryAll order s).2
  exact ⟨fun x hx => (List.mem_append.mp hx).elim (a1 x) (b1 x), by rw [quiesceOrd, run_append, a2]; exact b2⟩

end Ls.Recv
