import LsLemmas.Lmdb
import LsLemmas.ExceptFold
import LsModel.StrategySpec
/-
  strategy.Update and strategy.EmptyPut against their specifications (helper lemmas for C19), and
  what all strategies share: the map update `applyOpt` and the write `wr` in which `setNewVal` and
  every `IterUpdate` callback end.
-/
namespace Ls.Strategy
open Ls Ls.Lmdb

variable {E ε : Type}

/-! ### applyOpt: the map update of the specification -/

theorem sorted_applyOpt {ik : Bool} {db : KVs} (hs : Sorted ik db) (k : Bytes) (ov : Option Bytes) :
    Sorted ik (applyOpt ik db k ov) := by
  cases ov with
  | none => exact sorted_del hs k
  | some v => exact sorted_put hs k v

theorem get_applyOpt {ik : Bool} {db : KVs} (hs : Sorted ik db) (k : Bytes) (ov : Option Bytes) (k' : Bytes) :
    get ik (applyOpt ik db k ov) k' = if kcmp ik k k' = 0 then ov else get ik db k' := by
  cases ov with
  | none => exact get_del hs k k'
  | some v => exact get_put ik db k v k'

theorem applyOpt_self {ik : Bool} {db : KVs} (hs : Sorted ik db) (k : Bytes) :
    applyOpt ik db k (get ik db k) = db := by
  cases h : get ik db k with
  | none => exact del_of_get_none h
  | some v => exact put_of_get_some hs h

/-- writing a decision changes the content iff it differs from what is stored -/
theorem applyOpt_eq_iff {ik : Bool} {db : KVs} (hs : Sorted ik db) (k : Bytes) (ov : Option Bytes) :
    applyOpt ik db k ov = db ↔ ov = get ik db k := by
  constructor
  · intro h
    have := get_applyOpt hs k ov k
    rw [h, if_pos (kcmp_refl ik k)] at this
    exact this.symm
  · intro h; rw [h]; exact applyOpt_self hs k

theorem setNew_ne_nil (r : Option Bytes) : setNew r ≠ some [] := by
  match r with
  | none => simp [setNew]
  | some [] => simp [setNew]
  | some (_ :: _) => simp [setNew]

/-! ### the write of a decision -/

theorem delS_eq (ik : Bool) (s : S) (k : Bytes) :
    delS ik s k = ⟨(del ik s.db k).1, s.dirty || (del ik s.db k).2⟩ := rfl

/-- what `setNewVal` and the callbacks of `IterUpdate` do once the iterator has decided that `o`
    is to be under key `k`, where the caller believes `stored` to be: nothing if these agree, else
    a delete (`none`) or a put -/
def wr (ik : Bool) (s : S) (k : Bytes) (stored o : Option Bytes) : Except (SErr ε) S :=
  if o = stored then .ok s else
    match o with
    | none => .ok (delS ik s k)
    | some v => putS ik s k v

theorem setNewVal_eq_wr (ik : Bool) (s : S) (k old : Bytes) (r : Option Bytes) :
    (setNewVal ik s k old r : Except (SErr ε) S) = wr ik s k (some old) (setNew r) := by
  match r with
  | none => rfl
  | some v =>
    by_cases hv : v.length = 0
    · simp only [setNewVal, setNew, wr, hv, if_true, reduceCtorEq, if_false]
    · simp only [setNewVal, setNew, wr, hv, if_false, Option.some.injEq]

theorem wr_self (ik : Bool) (s : S) (k : Bytes) (o : Option Bytes) : (wr ik s k o o : Except (SErr ε) S) = .ok s :=
  if_pos rfl

theorem delS_same_or_dirty (ik : Bool) (s : S) (k : Bytes) : delS ik s k = s ∨ (delS ik s k).dirty = true := by
  rw [delS_eq, del_snd]
  cases hg : get ik s.db k with
  | some v => right; simp
  | none => left; rw [del_of_get_none hg]; simp

theorem putS_dirty {ik : Bool} {s s' : S} {k v : Bytes} (h : (putS ik s k v : Except (SErr ε) S) = .ok s') :
    s'.dirty = true := by
  unfold putS at h
  split at h
  · cases h
  · cases h; rfl

/-- a write leaves the state (content and dirty bit) alone or sets the dirty bit -/
theorem wr_same_or_dirty {ik : Bool} {s s' : S} {k : Bytes} {st o : Option Bytes}
    (h : (wr ik s k st o : Except (SErr ε) S) = .ok s') : s' = s ∨ s'.dirty = true := by
  unfold wr at h
  split at h
  · cases h; exact Or.inl rfl
  · match o with
    | none => cases h; exact delS_same_or_dirty ik s k
    | some v => exact Or.inr (putS_dirty h)

/-- LMDB's refusal of the key is the only way a write fails -/
theorem wr_succeeds {ik : Bool} (s : S) {k : Bytes} (st o : Option Bytes) (hk : badKey k = false) :
    ∃ s', (wr ik s k st o : Except (SErr ε) S) = .ok s' := by
  unfold wr
  split
  · exact ⟨s, rfl⟩
  · match o with
    | none => exact ⟨_, rfl⟩
    | some v => exact ⟨⟨put ik s.db k v, true⟩, by simp only [putS, hk, Bool.false_eq_true, if_false]⟩

/-- a write applies the decision, provided that skipping it is sound: `stored` is what is there -/
theorem wr_apply {ik : Bool} (s : S) {k : Bytes} (st o : Option Bytes) (hk : badKey k = false)
    (hst : applyOpt ik s.db k st = s.db) :
    ∃ d', (wr ik s k st o : Except (SErr ε) S) = .ok ⟨applyOpt ik s.db k o, d'⟩ := by
  unfold wr
  split
  · rename_i h; rw [h, hst]; exact ⟨s.dirty, rfl⟩
  · match o with
    | none => exact ⟨_, rfl⟩
    | some v => exact ⟨true, by simp only [putS, hk, Bool.false_eq_true, if_false, applyOpt]⟩

/-- stored keys are keys LMDB accepts (1..511 bytes) -/
def DKeysOK (D : KVs) : Prop := ∀ p ∈ D, badKey p.1 = false

theorem wr_dkeysOK {ik : Bool} {s s' : S} {k : Bytes} {st o : Option Bytes}
    (h : (wr ik s k st o : Except (SErr ε) S) = .ok s') (hK : DKeysOK s.db) : DKeysOK s'.db := by
  unfold wr at h
  split at h
  · cases h; exact hK
  · cases o with
    | none => cases h; exact fun p hp => hK p (del_mem p hp)
    | some v =>
      simp only [putS] at h
      split at h
      · cases h
      · rename_i hb
        cases h
        exact put_forall (fun k => badKey k = false) hK (by simpa using hb)

/-! ### strategy.Update -/

/-- The body of `strategy.Update`'s loop: a copy of the anonymous function folded by the model's
    `update` (LsModel/Strategy.lean), given a name so that lemmas can speak of one step; the tie
    `update_eq_fold` is definitional. -/
def updStep (ik : Bool) (it : Iter E ε) (s : S) (e : E) : Except (SErr ε) S := do
  let key := it.key e
  if key.length = 0 then throw .badKey
  let dbv := (get ik s.db key).getD []
  let val ← liftIter (it.merge e dbv)
  setNewVal ik s key dbv val

theorem update_eq_fold (ik : Bool) (it : Iter E ε) (s : S) (input : List E) :
    update ik it s input = input.foldlM (updStep ik it) s := rfl

/-- one step of the specification of Update, with the two things the Go code adds to the pure
    fold `specUpdate`: LMDB refuses to put a key longer than 511 bytes (a put only happens when
    the decision is a non-empty value that changes the content), and the "has written" bit,
    which is set exactly when the step changes the content. -/
def specUpdStep (ik : Bool) (it : Iter E ε) (s : S) (e : E) : Except (SErr ε) S :=
  match it.merge e ((get ik s.db (it.key e)).getD []) with
  | .error x => .error (.iter x)
  | .ok v =>
    if (it.key e).length > Gen.strategyMaxKeySize ∧ (setNew v).isSome = true
        ∧ applyOpt ik s.db (it.key e) (setNew v) ≠ s.db then .error .badKey
    else .ok ⟨applyOpt ik s.db (it.key e) (setNew v),
              s.dirty || decide (applyOpt ik s.db (it.key e) (setNew v) ≠ s.db)⟩

/-- `specUpdate` on the strategy state `S` (content and dirty bit, as in `putS`, `delS`): the fold of
    `specUpdStep`, i.e. `specUpdate` with the key-size failure and the dirty bit -/
def specUpdateS (ik : Bool) (it : Iter E ε) (s : S) (input : List E) : Except (SErr ε) S :=
  input.foldlM (specUpdStep ik it) s

/-- The step of the model's pure specification `specUpdate` (LsModel/StrategySpec.lean), on the bare
    content: a copy of its anonymous function with the bind spelled out (`specUpdate_eq_fold`). -/
def specStep (ik : Bool) (it : Iter E ε) (acc : KVs) (e : E) : Except ε KVs :=
  match it.merge e ((get ik acc (it.key e)).getD []) with
  | .error x => .error x
  | .ok v => .ok (applyOpt ik acc (it.key e) (setNew v))

theorem specUpdate_eq_fold (ik : Bool) (it : Iter E ε) (db : KVs) (input : List E) :
    specUpdate ik it db input = input.foldlM (specStep ik it) db := by
  unfold specUpdate
  congr 1
  funext acc e
  unfold specStep
  dsimp only
  cases it.merge e ((get ik acc (it.key e)).getD []) <;> rfl

/-- the write of `setNewVal` on a sorted DBI, exactly: the content becomes `applyOpt … o` (so the
    equality skip never changes it), a put that changes it needs a key LMDB accepts, and the dirty
    bit is set iff the content changed. `o` is a `setNew` value, so never `some []`. -/
theorem wr_exact {ik : Bool} {s : S} (hs : Sorted ik s.db) {k : Bytes} (hk : k.length ≠ 0) {o : Option Bytes}
    (ho : o ≠ some []) :
    (wr ik s k (some ((get ik s.db k).getD [])) o : Except (SErr ε) S) =
      if k.length > Gen.strategyMaxKeySize ∧ o.isSome = true ∧ applyOpt ik s.db k o ≠ s.db then .error .badKey
      else .ok ⟨applyOpt ik s.db k o, s.dirty || decide (applyOpt ik s.db k o ≠ s.db)⟩ := by
  unfold wr
  split
  · -- skipped: the decision is the stored, non-empty value
    rename_i h
    have : applyOpt ik s.db k o = s.db := by
      cases hg : get ik s.db k with
      | none => rw [hg] at h; exact absurd h ho
      | some w => rw [hg] at h; rw [h]; exact hg ▸ applyOpt_self hs k
    simp [this]
  · rename_i h
    match o with
    | none =>
      simp only [applyOpt, delS_eq, del_snd_eq_decide hs, Option.isSome_none, Bool.false_eq_true, false_and, and_false,
        if_false]
      rfl
    | some v =>
      -- not skipped, so the put changes the content: it needs a key LMDB accepts and sets the dirty bit
      have hp : put ik s.db k v ≠ s.db := fun hp => h (by rw [get_of_put_eq hp]; rfl)
      simp only [putS, badKey, applyOpt, hp, ne_eq, not_false_eq_true, and_true, decide_true, Bool.or_true,
        Option.isSome_some, Bool.or_eq_true, decide_eq_true_eq, hk, false_or]

theorem updStep_eq {ik : Bool} (it : Iter E ε) {s : S} (hs : Sorted ik s.db) (e : E)
    (hk : (it.key e).length ≠ 0) : updStep ik it s e = specUpdStep ik it s e := by
  unfold updStep specUpdStep
  simp only [hk, if_false]
  cases it.merge e ((get ik s.db (it.key e)).getD []) with
  | error x => rfl
  | ok r =>
    show setNewVal ik s (it.key e) _ r = _
    rw [setNewVal_eq_wr, wr_exact hs hk (setNew_ne_nil r)]

theorem specStep_sorted {ik : Bool} (it : Iter E ε) {db db' : KVs} (hs : Sorted ik db) (e : E)
    (h : specStep ik it db e = .ok db') : Sorted ik db' := by
  unfold specStep at h
  split at h
  · cases h
  · cases h; exact sorted_applyOpt hs _ _

theorem specUpdStep_ok {ik : Bool} (it : Iter E ε) {s s' : S} (e : E)
    (h : specUpdStep ik it s e = .ok s') : specStep ik it s.db e = .ok s'.db := by
  unfold specUpdStep at h; unfold specStep
  cases hm : it.merge e ((get ik s.db (it.key e)).getD []) with
  | error x => rw [hm] at h; cases h
  | ok v =>
    rw [hm] at h
    simp only at h
    split at h
    · cases h
    · cases h; rfl

/-- `strategy.Update` is the specification fold (with key-size failure and dirty bit) -/
theorem update_eq_spec {ik : Bool} (it : Iter E ε) (input : List E) :
    ∀ {s : S}, Sorted ik s.db → (∀ e ∈ input, (it.key e).length ≠ 0) →
    update ik it s input = specUpdateS ik it s input := by
  simp only [update_eq_fold]
  unfold specUpdateS
  induction input with
  | nil => intros; rfl
  | cons e es ih =>
    intro s hs hk
    rw [List.foldlM_cons, List.foldlM_cons, updStep_eq it hs e (hk e (List.mem_cons_self ..))]
    cases h : specUpdStep ik it s e with
    | error x => rfl
    | ok s' =>
      exact ih (specStep_sorted it hs e (specUpdStep_ok it e h)) (fun e he => hk e (List.mem_cons_of_mem _ he))

theorem specUpdStep_err {ik : Bool} (it : Iter E ε) {s : S} (e : E) {err : SErr ε}
    (h : specUpdStep ik it s e = .error err) :
    (∃ x, err = .iter x ∧ specStep ik it s.db e = .error x) ∨
    (err = .badKey ∧ (it.key e).length > Gen.strategyMaxKeySize) := by
  unfold specUpdStep at h; unfold specStep
  cases hm : it.merge e ((get ik s.db (it.key e)).getD []) with
  | error x => rw [hm] at h; cases h; exact Or.inl ⟨x, rfl, rfl⟩
  | ok v =>
    rw [hm] at h
    simp only at h
    split at h
    · rename_i hc; cases h; exact Or.inr ⟨rfl, hc.1⟩
    · cases h

/-- a successful run of the refined specification is a successful run of `specUpdate` -/
theorem specUpdateS_ok {ik : Bool} (it : Iter E ε) (input : List E) :
    ∀ {s s' : S}, specUpdateS ik it s input = .ok s' → specUpdate ik it s.db input = .ok s'.db := by
  unfold specUpdateS; simp only [specUpdate_eq_fold]
  induction input with
  | nil => intro s s' h; cases h; rfl
  | cons e es ih =>
    intro s s' h
    rw [List.foldlM_cons] at h ⊢
    obtain ⟨s1, h1, h2⟩ := except_bind_ok h
    rw [specUpdStep_ok it e h1]
    exact ih h2

/-- a failure of the refined specification is the iterator's failure in `specUpdate`, or the
    refusal of a key longer than 511 bytes -/
theorem specUpdateS_err {ik : Bool} (it : Iter E ε) (input : List E) :
    ∀ {s : S} {err : SErr ε}, specUpdateS ik it s input = .error err →
      (∃ x, err = .iter x ∧ specUpdate ik it s.db input = .error x) ∨
      (err = .badKey ∧ ∃ e ∈ input, (it.key e).length > Gen.strategyMaxKeySize) := by
  unfold specUpdateS; simp only [specUpdate_eq_fold]
  induction input with
  | nil => intro s err h; cases h
  | cons e es ih =>
    intro s err h
    rw [List.foldlM_cons] at h ⊢
    cases h1 : specUpdStep ik it s e with
    | error x =>
      rw [h1] at h; cases h
      rcases specUpdStep_err it e h1 with ⟨x, hx, hs⟩ | ⟨hb, hl⟩
      · exact Or.inl ⟨x, hx, by rw [hs]; rfl⟩
      · exact Or.inr ⟨hb, e, List.mem_cons_self .., hl⟩
    | ok s1 =>
      rw [h1] at h
      rw [specUpdStep_ok it e h1]
      rcases ih h with ⟨x, hx, hs⟩ | ⟨hb, e', he', hl⟩
      · exact Or.inl ⟨x, hx, hs⟩
      · exact Or.inr ⟨hb, e', List.mem_cons_of_mem _ he', hl⟩

/-- with keys of at most 511 bytes the refined specification succeeds/fails exactly as `specUpdate` -/
theorem specUpdateS_short {ik : Bool} (it : Iter E ε) (input : List E) (s : S)
    (hk : ∀ e ∈ input, (it.key e).length ≤ Gen.strategyMaxKeySize) :
    match specUpdate ik it s.db input with
    | .ok db' => ∃ d', specUpdateS ik it s input = .ok ⟨db', d'⟩
    | .error x => specUpdateS ik it s input = .error (.iter x) := by
  cases h : specUpdateS ik it s input with
  | ok s' => rw [specUpdateS_ok it input h]; exact ⟨s'.dirty, rfl⟩
  | error err =>
    rcases specUpdateS_err it input h with ⟨x, hx, hs⟩ | ⟨_, e, he, hl⟩
    · rw [hs, hx]
    · exact absurd (hk e he) (by omega)

theorem specUpdate_sorted {ik : Bool} (it : Iter E ε) (input : List E) :
    ∀ {db db' : KVs}, Sorted ik db → specUpdate ik it db input = .ok db' → Sorted ik db' := by
  simp only [specUpdate_eq_fold]
  exact foldlM_inv (Sorted ik) (fun e _ _ _ hs h => specStep_sorted it hs e h)

/-- pointwise reading of `specUpdate`: the value of `k` is the fold of the decisions of the
    entries whose key is `k`, in input order -/
theorem specUpdate_get {ik : Bool} (it : Iter E ε) (input : List E) (k : Bytes) :
    ∀ {db db' : KVs}, Sorted ik db → specUpdate ik it db input = .ok db' →
      (input.filter (fun e => kcmp ik (it.key e) k = 0)).foldlM
        (fun cur e => do let v ← it.merge e (cur.getD []); pure (setNew v)) (get ik db k)
        = .ok (get ik db' k) := by
  simp only [specUpdate_eq_fold]
  induction input with
  | nil => intro db db' _ h; cases h; rfl
  | cons e es ih =>
    intro db db' hs h
    rw [List.foldlM_cons] at h
    obtain ⟨db1, h1, h2⟩ := except_bind_ok h
    have ih' := ih (specStep_sorted it hs e h1) h2
    unfold specStep at h1
    cases hm : it.merge e ((get ik db (it.key e)).getD []) with
    | error x => rw [hm] at h1; cases h1
    | ok v =>
      rw [hm] at h1
      cases h1
      rw [get_applyOpt hs] at ih'
      by_cases hk : kcmp ik (it.key e) k = 0
      · rw [List.filter_cons_of_pos (by simpa using hk), List.foldlM_cons, ← get_congr ik db hk, hm]
        rw [if_pos hk] at ih'
        exact ih'
      · rw [List.filter_cons_of_neg (by simpa using hk)]
        rw [if_neg hk] at ih'
        exact ih'

/-- if every decision is what is stored (or removes an absent key) nothing is written -/
theorem specUpdateS_noop {ik : Bool} (it : Iter E ε) (input : List E) (s : S) (hs : Sorted ik s.db)
    (h : ∀ e ∈ input, ∃ r, it.merge e ((get ik s.db (it.key e)).getD []) = .ok r ∧
      setNew r = get ik s.db (it.key e)) :
    specUpdateS ik it s input = .ok s := by
  refine foldlM_fix (fun e he => ?_)
  obtain ⟨r, hr, hsn⟩ := h e he
  unfold specUpdStep
  rw [hr]
  simp [(applyOpt_eq_iff hs _ _).mpr hsn]

theorem specUpdateS_dirty {ik : Bool} (it : Iter E ε) (input : List E) :
    ∀ {s s' : S}, specUpdateS ik it s input = .ok s' → s.dirty = true → s'.dirty = true := by
  intro s s' h hd
  refine foldlM_inv (fun s => s.dirty = true) (fun e _ s s1 hd h1 => ?_) hd h
  unfold specUpdStep at h1
  split at h1
  · cases h1
  · split at h1
    · cases h1
    · cases h1; simp [hd]

/-- a successful step had a non-empty key and went through the write of its decision -/
theorem updStep_ok_inv {ik : Bool} {it : Iter E ε} {s s' : S} {e : E} (h : updStep ik it s e = .ok s') :
    (it.key e).length ≠ 0 ∧
      ∃ r, (wr ik s (it.key e) (some ((get ik s.db (it.key e)).getD [])) (setNew r) : Except (SErr ε) S) = .ok s' := by
  unfold updStep at h
  by_cases hk : (it.key e).length = 0
  · simp only [hk, if_true] at h; cases h
  · simp only [hk, if_false] at h
    obtain ⟨r, _, h2⟩ := except_bind_ok h
    exact ⟨hk, r, (setNewVal_eq_wr ..).symm.trans h2⟩

theorem updStep_same_or_dirty {ik : Bool} {it : Iter E ε} {s s' : S} {e : E}
    (h : updStep ik it s e = .ok s') : s' = s ∨ s'.dirty = true :=
  have ⟨_, _, hw⟩ := updStep_ok_inv h
  wr_same_or_dirty hw

/-- `Update` (any input, any content): either nothing at all was changed — content and dirty bit
    are the initial ones — or the dirty bit is set -/
theorem update_same_or_dirty {ik : Bool} {it : Iter E ε} (input : List E) :
    ∀ s s', update ik it s input = .ok s' → s' = s ∨ s'.dirty = true :=
  fun _ _ h => foldlM_same_or (fun s => s.dirty = true) (fun _ _ _ _ => updStep_same_or_dirty) h

theorem updStep_dkeysOK {ik : Bool} {it : Iter E ε} {s s' : S} {e : E}
    (hp : updStep ik it s e = .ok s') (h : DKeysOK s.db) : DKeysOK s'.db :=
  have ⟨_, _, hw⟩ := updStep_ok_inv hp
  wr_dkeysOK hw h

theorem update_ok_keys {ik : Bool} {it : Iter E ε} (input : List E) {s s' : S}
    (h : update ik it s input = .ok s') : ∀ e ∈ input, (it.key e).length ≠ 0 := fun e he =>
  have ⟨_, _, h1⟩ := foldlM_ok_mem h e he
  (updStep_ok_inv h1).1

/-- a successful `Update` is the specification fold and keeps the DBI sorted with valid keys -/
theorem update_ok_spec {ik : Bool} {it : Iter E ε} {db : KVs} {d : Bool} {input : List E} {s' : S}
    (hs : Sorted ik db) (h : update ik it ⟨db, d⟩ input = .ok s') :
    specUpdate ik it db input = .ok s'.db ∧ Sorted ik s'.db ∧ (DKeysOK db → DKeysOK s'.db) := by
  have h3 := specUpdateS_ok it input ((update_eq_spec it input (s := ⟨db, d⟩) hs (update_ok_keys input h)).symm.trans h)
  exact ⟨h3, specUpdate_sorted it input hs h3,
    fun hK => foldlM_inv (fun s => DKeysOK s.db) (fun _ _ _ _ hb hs => updStep_dkeysOK hs hb) hK h⟩

/-! ### strategy.EmptyPut -/

/-- the step of the model's specification `specEmptyPut` (LsModel/StrategySpec.lean), with the bind
    spelled out (`specEmptyPut_eq_fold`) -/
def specEmptyStep (ik : Bool) (it : Iter E ε) (acc : KVs) (e : E) : Except ε KVs :=
  match it.merge e [] with
  | .error x => .error x
  | .ok v => .ok (match setNew v with
    | none => acc
    | some b => put ik acc (it.key e) b)

theorem specEmptyPut_eq_fold (ik : Bool) (it : Iter E ε) (input : List E) :
    specEmptyPut ik it input = input.foldlM (specEmptyStep ik it) [] := by
  unfold specEmptyPut
  congr 1
  funext acc e
  unfold specEmptyStep
  cases it.merge e [] <;> rfl

/-- The body of the loop of the model's `doPutEmpty` (LsModel/Strategy.lean) for an ordinary DBI
    (`dup = false`), not copied but brought to the shape of `specEmptyStep`: one match on the
    decision, then on `setNew` of it. `doPutEmpty_eq_fold` proves the two bodies equal. -/
def emptyStep (ik : Bool) (it : Iter E ε) (s : S) (e : E) : Except (SErr ε) S :=
  match it.merge e [] with
  | .error x => .error (.iter x)
  | .ok r =>
    match setNew r with
    | none => .ok s
    | some b => if badKey (it.key e) = true then .error .badKey else .ok ⟨put ik s.db (it.key e) b, true⟩

theorem doPutEmpty_eq_fold (ik : Bool) (it : Iter E ε) (s : S) (input : List E) :
    doPutEmpty ik false it s input = input.foldlM (emptyStep ik it) s := by
  unfold doPutEmpty
  congr 1
  funext s e
  unfold emptyStep
  cases it.merge e [] with
  | error x => rfl
  | ok r =>
    cases r with
    | none => rfl
    | some v =>
      by_cases hv : v.length = 0
      · simp only [liftIter, setNew, bind, Except.bind, hv, if_true]; rfl
      · by_cases hb : badKey (it.key e) = true
        · simp only [liftIter, setNew, bind, Except.bind, hv, hb, if_true, if_false]; rfl
        · simp only [liftIter, setNew, bind, Except.bind, hv, hb, if_false, Bool.false_eq_true]; rfl

theorem emptyStep_spec (ik : Bool) (it : Iter E ε) (acc : KVs) (e : E) :
    (emptyStep ik it ⟨acc, true⟩ e = .error .badKey ∧ badKey (it.key e) = true) ∨
    emptyStep ik it ⟨acc, true⟩ e =
      match specEmptyStep ik it acc e with
      | .ok db' => .ok ⟨db', true⟩
      | .error x => .error (.iter x) := by
  unfold specEmptyStep emptyStep
  cases it.merge e [] with
  | error x => exact Or.inr rfl
  | ok r =>
    cases hr : setNew r with
    | none => exact Or.inr (by simp only [hr])
    | some v =>
      by_cases hb : badKey (it.key e) = true
      · exact Or.inl ⟨by simp only [hr, hb, if_true], hb⟩
      · exact Or.inr (by simp only [hr, hb, Bool.false_eq_true, if_false])

theorem doPutEmpty_spec {ik : Bool} (it : Iter E ε) (input : List E) :
    ∀ (acc : KVs),
      (doPutEmpty ik false it ⟨acc, true⟩ input = .error .badKey ∧ ∃ e ∈ input, badKey (it.key e) = true) ∨
      doPutEmpty ik false it ⟨acc, true⟩ input =
        match input.foldlM (specEmptyStep ik it) acc with
        | .ok db' => .ok ⟨db', true⟩
        | .error x => .error (.iter x) := by
  simp only [doPutEmpty_eq_fold]
  induction input with
  | nil => intro acc; exact Or.inr rfl
  | cons e es ih =>
    intro acc
    rw [List.foldlM_cons, List.foldlM_cons]
    rcases emptyStep_spec ik it acc e with ⟨h1, hb⟩ | h1
    · exact Or.inl ⟨by rw [h1]; rfl, e, List.mem_cons_self .., hb⟩
    · rw [h1]
      cases hs : specEmptyStep ik it acc e with
      | error x => exact Or.inr rfl
      | ok db1 =>
        rcases ih db1 with ⟨h2, e', he', hb⟩ | h2
        · exact Or.inl ⟨h2, e', List.mem_cons_of_mem _ he', hb⟩
        · exact Or.inr h2

end Ls.Strategy
