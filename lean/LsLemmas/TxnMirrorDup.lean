import LsLemmas.TxnMirrorCapture
import LsLemmas.TxnMirrorProject
import LsLemmas.DupSort
/-
  The mirror cycle on a duplicate-keys DBI under the dupsort hack (helper lemmas for C20_cycle):
  order of (key, value) pairs, `putDup`, `EmptyPut` on a duplicate-keys DBI, the encoded entries.
-/
namespace Ls.Txn
open Ls Ls.Lmdb Ls.Strategy Ls.Merge Ls.DupSort

theorem pairLt_iff (a b : Bytes × Bytes) : pairLt a b = true ↔ a.1 < b.1 ∨ (a.1 = b.1 ∧ a.2 < b.2) := by
  unfold pairLt
  simp only [Bool.or_eq_true, Bool.and_eq_true, decide_eq_true_eq, bcmp_lt, bcmp_eq]

theorem pairLt_irrefl (a : Bytes × Bytes) : ¬ pairLt a a = true := by
  rw [pairLt_iff]
  rintro (h | ⟨_, h⟩) <;> exact bytes_lt_irrefl _ h

theorem pairLt_trans {a b c : Bytes × Bytes} (h1 : pairLt a b = true) (h2 : pairLt b c = true) :
    pairLt a c = true := by
  rw [pairLt_iff] at *
  rcases h1 with h1 | ⟨e1, h1⟩ <;> rcases h2 with h2 | ⟨e2, h2⟩
  · exact Or.inl (bytes_lt_trans h1 h2)
  · exact Or.inl (e2 ▸ h1)
  · exact Or.inl (e1 ▸ h2)
  · exact Or.inr ⟨e1.trans e2, bytes_lt_trans h1 h2⟩

theorem pairLt_tri (a b : Bytes × Bytes) : a = b ∨ pairLt a b = true ∨ pairLt b a = true := by
  rw [pairLt_iff, pairLt_iff]
  rcases bytes_trichotomy a.1 b.1 with h | h | h
  · exact Or.inr (Or.inl (Or.inl h))
  · rcases bytes_trichotomy a.2 b.2 with h' | h' | h'
    · exact Or.inr (Or.inl (Or.inr ⟨h, h'⟩))
    · exact Or.inl (Prod.ext h h')
    · exact Or.inr (Or.inr (Or.inr ⟨h.symm, h'⟩))
  · exact Or.inr (Or.inr (Or.inl h))

/-- a duplicate-keys DBI: strictly increasing (key, value) pairs -/
def PairSorted (db : KVs) : Prop := db.Pairwise (fun a b => pairLt a b = true)

instance (db : KVs) : Decidable (PairSorted db) := by unfold PairSorted; exact inferInstance

/-- two strictly sorted sets of pairs with the same members are the same list -/
theorem pairSorted_ext : ∀ {l1 l2 : KVs}, PairSorted l1 → PairSorted l2 → (∀ x, x ∈ l1 ↔ x ∈ l2) → l1 = l2
  | [], [], _, _, _ => rfl
  | [], b :: _, _, _, h => absurd ((h b).mpr (List.mem_cons_self ..)) (by simp)
  | a :: _, [], _, _, h => absurd ((h a).mp (List.mem_cons_self ..)) (by simp)
  | a :: r1, b :: r2, h1, h2, h => by
    obtain ⟨ha, hr1⟩ := List.pairwise_cons.mp h1
    obtain ⟨hb, hr2⟩ := List.pairwise_cons.mp h2
    have hab : a = b := by
      rcases List.mem_cons.mp ((h a).mp (List.mem_cons_self ..)) with e | ha2
      · exact e
      · rcases List.mem_cons.mp ((h b).mpr (List.mem_cons_self ..)) with e | hb1
        · exact e.symm
        · exact absurd (pairLt_trans (ha b hb1) (hb a ha2)) (pairLt_irrefl a)
    subst hab
    congr 1
    apply pairSorted_ext hr1 hr2
    intro x
    constructor
    · intro hx
      rcases List.mem_cons.mp ((h x).mp (List.mem_cons_of_mem _ hx)) with e | hx2
      · subst e; exact absurd (ha _ hx) (pairLt_irrefl _)
      · exact hx2
    · intro hx
      rcases List.mem_cons.mp ((h x).mpr (List.mem_cons_of_mem _ hx)) with e | hx1
      · subst e; exact absurd (hb _ hx) (pairLt_irrefl _)
      · exact hx1

theorem putDup_mem (db : KVs) (k v : Bytes) (x : Bytes × Bytes) :
    x ∈ putDup db k v ↔ x = (k, v) ∨ x ∈ db := by
  induction db with
  | nil => simp [putDup]
  | cons p rest ih =>
    unfold putDup
    split
    · simp
    · split
      · rename_i hp
        simp only [List.mem_cons]
        constructor
        · exact Or.inr
        · rintro (h | h)
          · left; rw [h, hp]
          · exact h
      · simp only [List.mem_cons, ih]
        constructor
        · rintro (h | h | h)
          · exact Or.inr (Or.inl h)
          · exact Or.inl h
          · exact Or.inr (Or.inr h)
        · rintro (h | h | h)
          · exact Or.inr (Or.inl h)
          · exact Or.inl h
          · exact Or.inr (Or.inr h)

theorem putDup_sorted {db : KVs} (h : PairSorted db) (k v : Bytes) : PairSorted (putDup db k v) := by
  induction db with
  | nil => exact List.pairwise_singleton _ _
  | cons p rest ih =>
    obtain ⟨hp, hr⟩ := List.pairwise_cons.mp h
    unfold putDup
    split
    · rename_i hlt
      refine List.pairwise_cons.mpr ⟨?_, h⟩
      intro y hy
      rcases List.mem_cons.mp hy with e | hy
      · rw [e]; exact hlt
      · exact pairLt_trans hlt (hp y hy)
    · rename_i hnlt
      split
      · exact h
      · rename_i hne
        refine List.pairwise_cons.mpr ⟨?_, ih hr⟩
        intro y hy
        rcases (putDup_mem rest k v y).mp hy with e | hy
        · rw [e]
          rcases pairLt_tri p (k, v) with h' | h' | h'
          · exact absurd h' hne
          · exact h'
          · exact absurd h' hnlt
        · exact hp y hy

/-- the body of `doPut`'s loop on a duplicate-keys DBI with the plain iterator, in normal form -/
def dupStep (s : S) (e : KV) : Except (SErr Header.Err) S :=
  if e.val.length = 0 then .ok s
  else if badKey e.key = true then .error .badKey
  else .ok ⟨putDup s.db e.key e.val, true⟩

theorem doPutEmpty_dup_eq_fold (ik : Bool) (s : S) (input : List KV) :
    doPutEmpty ik true plainIter s input = input.foldlM dupStep s := by
  unfold doPutEmpty
  congr 1
  funext s e
  unfold dupStep
  by_cases hv : e.val.length = 0
  · simp only [plainIter, plainMerge, hv, if_true, liftIter, ok_bind]; rfl
  · by_cases hb : badKey e.key = true <;>
      simp only [plainIter, plainMerge, hv, hb, if_true, if_false, liftIter, ok_bind, Bool.false_eq_true] <;> rfl

theorem dupStep_ok {s s' : S} {e : KV} (h : dupStep s e = .ok s') (hs : PairSorted s.db) :
    PairSorted s'.db ∧ (s.dirty = true → s'.dirty = true) ∧
    ∀ x, x ∈ s'.db ↔ x ∈ s.db ∨ (e.val ≠ [] ∧ x = (e.key, e.val)) := by
  unfold dupStep at h
  split at h
  · rename_i hv
    cases h
    exact ⟨hs, id, fun x => ⟨Or.inl, fun hx => hx.elim id (fun hx => absurd (List.length_eq_zero_iff.mp hv) hx.1)⟩⟩
  split at h
  · cases h
  rename_i hv _
  cases h
  have hne : e.val ≠ [] := fun h0 => hv (by rw [h0]; rfl)
  refine ⟨putDup_sorted hs _ _, fun _ => rfl, fun x => ?_⟩
  rw [putDup_mem]
  exact ⟨fun hx => hx.elim (fun hx => Or.inr ⟨hne, hx⟩) Or.inl, fun hx => hx.elim Or.inr (fun hx => Or.inl hx.2)⟩

theorem doPutEmpty_dup {ik : Bool} (input : List KV) :
    ∀ {s s' : S}, doPutEmpty ik true plainIter s input = .ok s' → PairSorted s.db →
      PairSorted s'.db ∧ (s.dirty = true → s'.dirty = true) ∧
      ∀ x, x ∈ s'.db ↔ x ∈ s.db ∨ ∃ e ∈ input, e.val ≠ [] ∧ x = (e.key, e.val) := by
  simp only [doPutEmpty_dup_eq_fold]
  induction input with
  | nil =>
    intro s s' h hs
    cases h
    exact ⟨hs, id, fun x => by simp⟩
  | cons a rest ih =>
    intro s s' h hs
    obtain ⟨s1, h1, h⟩ := foldlM_cons_ok h
    obtain ⟨hs1, hd1, hm1⟩ := dupStep_ok h1 hs
    obtain ⟨hs2, hd2, hm2⟩ := ih h hs1
    refine ⟨hs2, fun hd => hd2 (hd1 hd), fun x => ?_⟩
    rw [hm2 x, hm1 x]
    simp only [List.mem_cons, exists_eq_or_imp, or_assoc]

/-- the shadow (key, value) pairs of a duplicate-keys content -/
def encKvs (kvs : KVs) : KVs := kvs.map (fun p => (encKey p.1 p.2, p.2))

theorem encodeAllAux_raw (kvs : KVs) : ∀ (prev : Bytes) (r : List KV),
    encodeAllAux prev (rawEntries kvs) = .ok r → r = rawEntries (encKvs kvs) := by
  induction kvs with
  | nil => intro prev r h; cases h; rfl
  | cons p rest ih =>
    intro prev r h
    have hk := (encodeAllAux_spec _ _ _ h).2.2.2.2 _ (List.mem_cons_self ..)
    change encodeAllAux prev ({ key := p.1, val := p.2, ts := 0, flags := 0 } :: rawEntries rest) = _ at h
    simp only [encodeAllAux, encodeOne_ok _ hk.1 hk.2] at h
    split at h
    · cases h
    split at h
    · cases h
    split at h
    · cases h
    rename_i r' hr
    cases h
    rw [ih _ r' hr]
    rfl

/-- a duplicate-keys content the encoder accepts: the encoded entries are the raw entries of the
    encoded pairs, which are strictly increasing with valid keys -/
theorem encodeAll_raw {kvs : KVs} {r : List KV} (h : encodeAll (rawEntries kvs) = .ok r) :
    r = rawEntries (encKvs kvs) ∧ (∀ p ∈ kvs, 1 ≤ p.1.length ∧ p.1.length ≤ 255) ∧
    Sorted false (encKvs kvs) ∧ DKeysOK (encKvs kvs) := by
  obtain ⟨_, _, hsorted, _, hkl⟩ := encodeAllAux_spec [] _ r h
  have hkl' : ∀ p ∈ kvs, 1 ≤ p.1.length ∧ p.1.length ≤ 255 :=
    fun p hp => hkl _ (List.mem_map.mpr ⟨p, hp, rfl⟩)
  cases encodeAllAux_raw kvs [] r h
  refine ⟨rfl, hkl', List.pairwise_map.mp hsorted, fun p hp => ?_⟩
  obtain ⟨q, hq, rfl⟩ := List.mem_map.mp hp
  have := encKey_length q.1 q.2 (hkl' q hq).1 (hkl' q hq).2
  have hc : Gen.strategyMaxKeySize = 511 := rfl
  simp only [badKey, Bool.or_eq_false_iff, decide_eq_false_iff_not]
  exact ⟨by omega, by omega⟩

/-- the capture of a present application value leaves an entry with that value behind its header -/
theorem capture_some_val {txnID now cutoff : Nat} {v : Bytes} {stored r : Option Bytes}
    (hn : now < two64) (ht : txnID < two64)
    (hclock : ∀ old, stored = some old → ∀ hd a, Header.parse old = .ok (hd, a) → hd.ts < now)
    (h : captureSpec (captureCfg txnID now cutoff) (some v) stored = .ok r) :
    ∃ X hd, r = some X ∧ Header.parse X = .ok (hd, v) := by
  by_cases hs : stored.getD [] = []
  · rw [capture_new txnID now cutoff v stored hs] at h
    injection h with h
    exact ⟨_, _, h.symm, parse_liveBytes now txnID v hn ht⟩
  · cases hst : stored with
    | none => rw [hst] at hs; exact absurd rfl hs
    | some old =>
      rw [hst] at hs h
      simp only [Option.getD_some] at hs
      cases hp : Header.parse old with
      | error x =>
        exfalso
        simp only [captureSpec, Option.getD_some] at h
        have hl : old.length ≠ 0 := fun h0 => hs (List.length_eq_zero_iff.mp h0)
        unfold merge at h
        rw [if_neg hl, hp] at h
        cases h
      | ok pr =>
        obtain ⟨hd, a⟩ := pr
        by_cases hav : a = v
        · subst hav
          rw [capture_unchanged txnID now cutoff a old hd hp] at h
          injection h with h
          exact ⟨old, hd, h.symm, hp⟩
        · rw [capture_changed txnID now cutoff v old a hd hp hav (hclock old hst hd a hp)] at h
          injection h with h
          exact ⟨_, _, h.symm, parse_liveBytes now txnID v hn ht⟩

/-- the capture of an absent key leaves nothing, or an entry with no value behind its header -/
theorem capture_none_val {txnID now cutoff : Nat} {stored r : Option Bytes}
    (hn : now < two64) (ht : txnID < two64)
    (hwf : ∀ old, stored = some old → ValWF old)
    (h : captureSpec (captureCfg txnID now cutoff) none stored = .ok r) :
    r = none ∨ ∃ X hd, r = some X ∧ Header.parse X = .ok (hd, []) := by
  cases hst : stored with
  | none => rw [hst] at h; injection h with h; exact Or.inl h.symm
  | some old =>
    rw [hst] at h
    obtain ⟨hd, a, hp, hw⟩ := hwf old hst
    right
    cases hdel : Header.isDeleted hd.flags with
    | true =>
      rw [capture_marker_kept txnID now cutoff old a hd hp hdel] at h
      injection h with h
      rw [hw hdel] at hp
      exact ⟨old, hd, h.symm, hp⟩
    | false =>
      rw [capture_deleted txnID now cutoff old a hd hp hdel] at h
      injection h with h
      exact ⟨_, _, h.symm, parse_markerBytes now txnID hn ht⟩

theorem decodeOne_eta (e : KV) :
    decodeOne e = decodeOne { key := e.key, val := e.val, ts := e.ts, flags := e.flags } := by
  cases e; rfl

theorem decodeOne_val {e e' : KV} (h : decodeOne e = .ok e') : e'.val = e.val := by
  unfold decodeOne at h
  split at h
  · cases h
  · simp only at h
    split at h
    · cases h
    · split at h
      · cases h
      · injection h with h; subst h; rfl


/-- the mirror cycle on a duplicate-keys content, at the level of the two DBI contents -/
theorem dup_cycle_core {txnID now cutoff : Nat} {app sh : KVs} {d0 : Bool} {s1 s0 s2 : S} {es dec : List KV}
    (hn : now < two64) (ht : txnID < two64)
    (hps : PairSorted app) (hne : ∀ p ∈ app, p.2 ≠ [])
    (hkl : ∀ p ∈ app, 1 ≤ p.1.length ∧ p.1.length ≤ 255)
    (hE : Sorted false (encKvs app)) (hEK : DKeysOK (encKvs app))
    (hS : Sorted false sh) (hSK : DKeysOK sh) (hwf : ∀ p ∈ sh, ValWF p.2)
    (hclock : ∀ p ∈ sh, ∀ hd v, Header.parse p.2 = .ok (hd, v) → hd.ts < now)
    (h1 : iterUpdate false (nativeIter (captureCfg txnID now cutoff)) ⟨sh, d0⟩ (rawEntries (encKvs app)) = .ok s1)
    (hm : s1.db.mapM (entryOf false) = .ok es) (hdec : decodeAll es = .ok dec)
    (h2 : emptyPut false true plainIter s0 dec = .ok s2) : s2.db = app := by
  obtain ⟨hS1, _, hcap⟩ := capture_get (captureCfg txnID now cutoff) hE hEK hS hSK h1
  have hrel := keyRel_read hm
  have hd2 := mapM_ok_all2 _ _ _ hdec
  unfold emptyPut at h2
  obtain ⟨hps2, _, hmem2⟩ := doPutEmpty_dup dec h2 (List.Pairwise.nil)
  have hclk : ∀ k old, get false sh k = some old → ∀ hd a, Header.parse old = .ok (hd, a) → hd.ts < now := by
    intro k old hg hd a hp
    obtain ⟨k', hmem, _⟩ := get_some_mem hg
    exact hclock (k', old) hmem hd a hp
  have hwfk : ∀ k old, get false sh k = some old → ValWF old := by
    intro k old hg
    obtain ⟨k', hmem, _⟩ := get_some_mem hg
    exact hwf (k', old) hmem
  apply pairSorted_ext hps2 hps
  intro x
  rw [hmem2 x]
  simp only [List.not_mem_nil, false_or]
  constructor
  · -- what the projection puts comes from the application content
    rintro ⟨e', he', hv', rfl⟩
    obtain ⟨e, he, hde⟩ := hd2.mem_right e' he'
    obtain ⟨kv, hkv, hke, hd, hp, _, _⟩ := hrel.mem_right e he
    have hval : e'.val = e.val := decodeOne_val hde
    have hg1 : get false s1.db kv.1 = some kv.2 := get_of_mem hS1 (by cases kv; exact hkv)
    have hc := hcap kv.1
    rw [hg1] at hc
    cases hga : get false (encKvs app) kv.1 with
    | none =>
      rw [hga] at hc
      rcases capture_none_val hn ht (fun old ho => hwfk kv.1 old ho) hc with h0 | ⟨X, hd', hX, hpX⟩
      · cases h0
      · injection hX with hX
        rw [← hX, hp] at hpX
        injection hpX with hpX; injection hpX with _ hpX
        exact absurd (hval.trans hpX) hv'
    | some v =>
      rw [hga] at hc
      obtain ⟨X, hd', hX, hpX⟩ := capture_some_val hn ht (fun old ho => hclk kv.1 old ho) hc
      injection hX with hX
      rw [← hX, hp] at hpX
      injection hpX with hpX; injection hpX with _ hpX
      obtain ⟨sk', hmem, hkk⟩ := get_some_mem hga
      have hsk : kv.1 = sk' := bcmp_eq.mp hkk
      obtain ⟨q, hq, hqe⟩ := List.mem_map.mp hmem
      injection hqe with hq1 hq2
      have hkey : e.key = encKey q.1 q.2 := by rw [hke, hsk, ← hq1]
      have hvq : e.val = q.2 := by rw [hpX, ← hq2]
      have hdq := decodeOne_encKey q.1 q.2 e.flags e.ts (hkl q hq).1 (hkl q hq).2
      have hee : e = { key := encKey q.1 q.2, val := q.2, ts := e.ts, flags := e.flags } := by
        cases e; simp only at hkey hvq; rw [hkey, hvq]
      rw [hee, hdq] at hde
      injection hde with hde
      subst hde
      exact hq
  · -- every pair of the application content is put back
    intro hx
    obtain ⟨k, v⟩ := x
    have hmemE : (encKey k v, v) ∈ encKvs app := List.mem_map.mpr ⟨(k, v), hx, rfl⟩
    have hga : get false (encKvs app) (encKey k v) = some v := get_of_mem hE hmemE
    have hc := hcap (encKey k v)
    rw [hga] at hc
    obtain ⟨X, hd', hX, hpX⟩ := capture_some_val hn ht (fun old ho => hclk _ old ho) hc
    obtain ⟨k', hmem1, hkk⟩ := get_some_mem hX
    have hk' : encKey k v = k' := bcmp_eq.mp hkk
    subst hk'
    obtain ⟨e, he, hke, hd, hp, _, _⟩ := hrel.mem_left (encKey k v, X) hmem1
    simp only at hke hp
    rw [hpX] at hp
    injection hp with hp; injection hp with _ hp
    obtain ⟨e', he', hde⟩ := hd2.mem_left e he
    have hdq := decodeOne_encKey k v e.flags e.ts (hkl (k, v) hx).1 (hkl (k, v) hx).2
    have hee : e = { key := encKey k v, val := v, ts := e.ts, flags := e.flags } := by
      cases e; simp only at hke hp; rw [hke, hp]
    rw [hee, hdq] at hde
    injection hde with hde
    refine ⟨e', he', ?_, ?_⟩
    · rw [← hde]; exact hne (k, v) hx
    · rw [← hde]


/-- the mirror cycle on one duplicate-keys application DBI, at the level of environments -/
theorem dup_cycle_env {c : Cfg} {w w1 w2 : W} {txnID now cutoff : Nat} {n : Bytes} {d : Dbi}
    (hdist : DistinctNames w.dbis) (hh : c.hack = true)
    (h1 : mainToShadow c w txnID now cutoff = .ok w1) (h2 : shadowToMain c w1 = .ok w2)
    (hp : isPrivate n = false) (hd : findDbi w.dbis n = some d)
    (hdup : isDupSort d.flags = true) (hik : isIntKey d.flags = false)
    (hiks : isIntKey (shadowOf w n d).flags = false)
    (hps : PairSorted d.kvs) (hne : ∀ p ∈ d.kvs, p.2 ≠ [])
    (hS : Sorted false (shadowOf w n d).kvs) (hSK : DKeysOK (shadowOf w n d).kvs)
    (hwf : ∀ p ∈ (shadowOf w n d).kvs, ValWF p.2)
    (hclock : ∀ p ∈ (shadowOf w n d).kvs, ∀ hd v, Header.parse p.2 = .ok (hd, v) → hd.ts < now)
    (hn : now < two64) (ht : txnID < two64) :
    findDbi w2.dbis n = some d ∧ (∃ enc, encodeAll (rawEntries d.kvs) = .ok enc) ∧
    ∃ sd es dec, findDbi w2.dbis (shadowName n) = some sd ∧
      sd.kvs.mapM (entryOf false) = .ok es ∧ decodeAll es = .ok dec ∧
      emptyPut (isIntKey d.flags) true plainIter ⟨[], false⟩ dec = .ok ⟨d.kvs, true⟩ := by
  obtain ⟨enc, d0, s, henc, hiu, hf⟩ := mainToShadow_dbi hdist h1 hp hd
  rw [if_pos ⟨hh, hdup⟩] at henc
  obtain ⟨rfl, hkl, hE, hEK⟩ := encodeAll_raw henc
  rw [hiks] at hiu
  have hd1 : findDbi w1.dbis n = some d := by rw [mainToShadow_app_unchanged h1 n hp]; exact hd
  have hdist1 := (mainToShadow_frame h1).1 hdist
  obtain ⟨w1', w2', hs, hd1', hsd1', hfin⟩ := shadowToMain_dbi hdist1 h2 hp hd1
  obtain ⟨d', sd, es, s', hd', hsd, hm, hrun, hw2'⟩ := s2mStep_ok hp hs
  cases hd1'.symm.trans hd'
  rw [if_pos hdup] at hrun
  obtain ⟨dec, hdec, hput⟩ := hrun
  rw [hsd1', hf] at hsd
  injection hsd with hsd
  subst hsd
  rw [hik] at hput
  have hcore := dup_cycle_core hn ht hps hne hkl hE hEK hS hSK hwf hclock hiu hm hdec hput
  refine ⟨?_, ⟨_, henc⟩, ?_⟩
  · rw [hfin, hw2']
    simp only [findDbi_setKvs_if, if_true, hd1', Option.map_some, hcore]
  · refine ⟨_, es, dec, ?_, hm, hdec, ?_⟩
    · rw [(shadowToMain_frame h2).2.2 _ (isPrivate_shadowName n)]; exact hf
    · rw [hik]
      have hdirty : s'.dirty = true := by
        unfold emptyPut at hput
        exact (doPutEmpty_dup dec hput List.Pairwise.nil).2.1 rfl
      have : s' = ⟨d.kvs, true⟩ := by cases s'; simp only at hcore hdirty; rw [hcore, hdirty]
      rw [← this, emptyPut_irrel _ _ _ _ ⟨d.kvs, w1'.dirty⟩]; exact hput

end Ls.Txn
