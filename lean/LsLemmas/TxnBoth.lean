import LsLemmas.TxnMirrorStep
import LsLemmas.TxnMirrorDup
/-
  Examples: facts about the DBI list that the transaction lemma files phrase in two ways agree —
  the shadow prefix as one list (`shadowPrefix_eq`), `findDbi` after `setKvs` as a `map`
  (`findDbi_setKvs`) or as an `if` (`findDbi_setKvs_if`), `SortedNames` or `NamesSorted`
  (`namesSorted_iff`). Two pairs of examples are the same statement twice, and the two fold examples
  are reflexivities: `openCreate_of_some`, `mainToShadow_eq_fold` and `shadowToMain_eq_fold` are the
  one lemma each for these facts.
-/
namespace Ls.Txn
open Ls Ls.Lmdb

example : shadowPrefix = [0x5f, 0x73, 0x79, 0x6e, 0x63, 0x5f, 0x73, 0x68, 0x61, 0x64, 0x6f, 0x77, 0x5f] :=
  shadowPrefix_eqMirror

example (dbis : List Dbi) (n : Bytes) (kvs : KVs) (m : Bytes) :
    (findDbi dbis m).map (fun d => if d.name = n then { d with kvs := kvs } else d) =
      if m = n then (findDbi dbis n).map (fun d => { d with kvs := kvs }) else findDbi dbis m := by
  rw [← findDbi_setKvs, findDbi_setKvs_if]

example {w : W} {n : Bytes} {d : Dbi} (fl : Nat) (h : findDbi w.dbis n = some d) :
    openCreate w n fl = w := openCreate_of_some h

example {w : W} {n : Bytes} {d : Dbi} (fl : Nat) (h : findDbi w.dbis n = some d) :
    openCreate w n fl = w := openCreate_of_some h

example (c : Cfg) (w : W) (txnID now cutoff : Nat) :
    (dbiNames w).foldlM (m2sStep c txnID now cutoff) w = (dbiNames w).foldlM (m2sStep c txnID now cutoff) w :=
  rfl

example (c : Cfg) (w : W) :
    (dbiNames w).foldlM (s2mStep c) w = (dbiNames w).foldlM (s2mStep c) w :=
  rfl

example (dbis : List Dbi) (h : SortedNames dbis) : NamesSorted dbis := namesSorted_iff.mpr h

end Ls.Txn
