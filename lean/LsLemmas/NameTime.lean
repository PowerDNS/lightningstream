import LsLemmas.NameDigits
import LsLemmas.NameSplit
import LsLemmas.Civil
/- NameTimestamp over 0 ≤ t < 2^63: field ranges, parse-back, length, separator positions,
   byte order = chronological order. -/
namespace Ls.Name
open Ls Ls.Civil

/-- 2^63: the nanosecond timestamps `t < tsBound` are those `time.Unix(0, t)` can hold (int64) -/
def tsBound : Nat := 9223372036854775808

theorem tsBound_eq : tsBound = 2 ^ 63 := by decide

theorem lt_tsBound {t : Nat} (h : t < 2 ^ 63) : t < tsBound := tsBound_eq ▸ h

theorem days_lt_of_lt_tsBound (t : Nat) (h : t < tsBound) : t / nsPerSec / secPerDay < 106752 := by
  unfold tsBound at h; unfold nsPerSec secPerDay; omega

/-- the date as the number yyyymmdd and the time of day as hhmmss, as the layout prints them -/
def dateKey (t : Nat) : Nat := dateNum (civilFromDays (t / nsPerSec / secPerDay))
def timeKey (t : Nat) : Nat :=
  let sod := t / nsPerSec % secPerDay
  sod / 3600 * 10000 + sod % 3600 / 60 * 100 + sod % 60

theorem ofNanos_fields (t : Nat) :
    (ofNanos t).year = (civilFromDays (t / nsPerSec / secPerDay)).1 ∧
    (ofNanos t).month = (civilFromDays (t / nsPerSec / secPerDay)).2.1 ∧
    (ofNanos t).day = (civilFromDays (t / nsPerSec / secPerDay)).2.2 ∧
    (ofNanos t).hour = t / nsPerSec % secPerDay / 3600 ∧
    (ofNanos t).min = t / nsPerSec % secPerDay % 3600 / 60 ∧
    (ofNanos t).sec = t / nsPerSec % secPerDay % 60 ∧
    (ofNanos t).nsec = t % nsPerSec := ⟨rfl, rfl, rfl, rfl, rfl, rfl, rfl⟩

theorem ofNanos_ranges (t : Nat) (h : t < tsBound) :
    (1970 ≤ (ofNanos t).year ∧ (ofNanos t).year ≤ 2262) ∧
    (1 ≤ (ofNanos t).month ∧ (ofNanos t).month ≤ 12) ∧
    (1 ≤ (ofNanos t).day ∧ (ofNanos t).day ≤ daysIn (ofNanos t).month (ofNanos t).year) ∧
    (ofNanos t).hour < 24 ∧ (ofNanos t).min < 60 ∧ (ofNanos t).sec < 60 ∧
    (ofNanos t).nsec < 1000000000 :=
  have hv := civilFromDays_valid (t / nsPerSec / secPerDay)
  ⟨civilFromDays_year _ (days_lt_of_lt_tsBound t h), hv.1, hv.2,
    Nat.div_lt_of_lt_mul (Nat.mod_lt _ (by decide)), Nat.div_lt_of_lt_mul (Nat.mod_lt _ (by decide)),
    Nat.mod_lt _ (by decide), Nat.mod_lt _ (by decide)⟩

theorem toNanos_ofNanos (t : Nat) : toNanos (ofNanos t) = (t : Int) := by
  unfold toNanos ofNanos
  simp only [daysFromCivil_civilFromDays, nsPerSec, secPerDay]
  omega

theorem formatCivil_shape (c : Civil) :
    formatCivil c = decDigits 4 c.year ++ (decDigits 2 c.month ++ (decDigits 2 c.day ++ (dash ::
      (decDigits 2 c.hour ++ (decDigits 2 c.min ++ (decDigits 2 c.sec ++ (dash :: decDigits 9 c.nsec))))))) := by
  simp [formatCivil, List.append_assoc]

@[simp] theorem nameTimestamp_length (t : Nat) : (nameTimestamp t).length = 25 := by
  simp [nameTimestamp, formatCivil]

theorem tsLen_eq : tsLen = 25 := by decide

theorem nameTimestamp_dash (t : Nat) : (nameTimestamp t).getD Gen.dotIndex 0 = dash := by
  unfold nameTimestamp formatCivil
  rw [List.append_assoc, List.getD_eq_getElem?_getD, List.getElem?_append_right (by simp [Gen.dotIndex])]
  simp [Gen.dotIndex]

/-- every byte of a name timestamp is a digit or '-', so it has no '_' and no '.' -/
theorem nameTimestamp_safe (t : Nat) : Safe (nameTimestamp t) := by
  have hd : ∀ k n, Safe (decDigits k n) := fun k n c hc => by
    have := decDigits_all_digit k n c hc
    simp only [isDigit, isSafe] at this ⊢
    simp [this]
  have hdash : Safe [dash] := by decide
  simp only [Safe, nameTimestamp, formatCivil, List.forall_mem_append] at hd hdash ⊢
  exact ⟨⟨⟨⟨⟨⟨⟨⟨hd _ _, hd _ _⟩, hd _ _⟩, hdash⟩, hd _ _⟩, hd _ _⟩, hd _ _⟩, hdash⟩, hd _ _⟩

theorem parseFrac_digits (f : Bytes) (h : ∀ c ∈ f, isDigit c = true) : parseFrac f = digits f := by
  cases f with
  | nil => rfl
  | cons c ds =>
    have hc := (isDigit_iff c).1 (h c (by simp))
    have h1 : c ≠ 43 := by intro he; subst he; simp at hc
    have h2 : c ≠ 45 := by intro he; subst he; simp at hc
    simp [parseFrac, h1, h2]

theorem expect_cons (b : UInt8) (s : Bytes) : expect b (b :: s) = some s := by simp [expect]

theorem timeParse_nameTimestamp (t : Nat) (h : t < tsBound) :
    timeParse (nameTimestamp t) = some (ofNanos t) := by
  obtain ⟨⟨_, _⟩, ⟨hm1, hm2⟩, ⟨hd1, hd2⟩, hh, hmi, hs, hn⟩ := ofNanos_ranges t h
  have := daysIn_le (ofNanos t).month (ofNanos t).year
  unfold nameTimestamp
  rw [formatCivil_shape]
  unfold timeParse
  rw [takeDigits_field 4 _ _ (by omega), Option.bind_some]
  rw [takeDigits_field 2 _ _ (by omega), Option.bind_some]
  rw [takeDigits_field 2 _ _ (by omega), Option.bind_some]
  rw [expect_cons, Option.bind_some]
  rw [takeDigits_field 2 _ _ (by omega), Option.bind_some]
  rw [takeDigits_field 2 _ _ (by omega), Option.bind_some]
  rw [takeDigits_field 2 _ _ (by omega), Option.bind_some]
  rw [expect_cons, Option.bind_some]
  rw [if_neg (by rw [decDigits_length]; exact fun h => h rfl)]
  rw [parseFrac_digits _ (decDigits_all_digit _ _), digits_decDigits 9 _ (by omega), Option.bind_some]
  dsimp only
  rw [if_neg (by omega), if_neg (by omega), if_neg (by omega)]

theorem parseFrac_lt (f : Bytes) (v : Nat) (hl : f.length = 9) (h : parseFrac f = some v) :
    v < 1000000000 := by
  have key : ∀ (b : Bytes) (w : Nat), b.length ≤ 9 → digits b = some w → w < 1000000000 := by
    intro b w hb hw
    have h1 := digitsAux_lt b 0 w hw
    have h2 : 10 ^ b.length ≤ 10 ^ 9 := Nat.pow_le_pow_right (by decide) hb
    omega
  cases f with
  | nil => simp at hl
  | cons c ds =>
    have hds : ds.length ≤ 9 := by simp at hl; omega
    simp only [parseFrac] at h
    split at h
    · exact key ds v hds h
    · split at h
      · split at h
        · cases h; decide
        · cases h
      · exact key (c :: ds) v (by omega) h

theorem timeParse_valid (s : Bytes) (c : Civil) (h : timeParse s = some c) :
    (1 ≤ c.month ∧ c.month ≤ 12) ∧ (1 ≤ c.day ∧ c.day ≤ daysIn c.month c.year) ∧
    c.hour < 24 ∧ c.min < 60 ∧ c.sec < 60 ∧ c.nsec < 1000000000 := by
  unfold timeParse at h
  simp only [Option.bind_eq_some_iff] at h
  obtain ⟨y, _, mo, _, d, _, s1, _, hh, _, mi, _, se, _, s2, _, h⟩ := h
  obtain ⟨hlen, h⟩ := Option.ite_none_left_eq_some.1 h
  obtain ⟨ns, hns, h⟩ := Option.bind_eq_some_iff.1 h
  obtain ⟨h1, h⟩ := Option.ite_none_left_eq_some.1 h
  obtain ⟨h2, h⟩ := Option.ite_none_left_eq_some.1 h
  obtain ⟨h3, h⟩ := Option.ite_none_left_eq_some.1 h
  have hnsb := parseFrac_lt s2 ns (Classical.byContradiction hlen) hns
  cases h
  dsimp only
  omega

theorem decDigits_three (k a b c : Nat) (rest : Bytes) (hb : b < 100) (hc : c < 100) :
    decDigits k a ++ (decDigits 2 b ++ (decDigits 2 c ++ rest))
      = decDigits (k + 4) (a * 10000 + b * 100 + c) ++ rest := by
  rw [← List.append_assoc (decDigits 2 b), ← List.append_assoc, decDigits_concat 2 2 b c hc,
    decDigits_concat k (2 + 2) a _ (by omega : b * 10 ^ 2 + c < 10 ^ (2 + 2)), Nat.add_assoc]

/-- the date and the time of day each read as one number -/
theorem nameTimestamp_eq_keys (t : Nat) (h : t < tsBound) :
    nameTimestamp t = decDigits 8 (dateKey t) ++ (dash ::
      (decDigits 6 (timeKey t) ++ (dash :: decDigits 9 (t % nsPerSec)))) := by
  obtain ⟨-, ⟨-, _⟩, ⟨-, _⟩, -, _, _, -⟩ := ofNanos_ranges t h
  have := daysIn_le (ofNanos t).month (ofNanos t).year
  rw [nameTimestamp, formatCivil_shape, decDigits_three 4 _ _ _ _ (by omega) (by omega),
    decDigits_three 2 _ _ _ _ (by omega) (by omega)]
  rfl

theorem dateKey_lt_iff (t1 t2 : Nat) :
    dateKey t1 < dateKey t2 ↔ t1 / nsPerSec / secPerDay < t2 / nsPerSec / secPerDay :=
  dateNum_lt_iff _ _

/-- seconds of the day as hhmmss: every minute skips 40, every hour 4000 more -/
theorem timeKey_eq_add (t : Nat) :
    timeKey t = t / nsPerSec % secPerDay + 40 * (t / nsPerSec % secPerDay / 60)
      + 4000 * (t / nsPerSec % secPerDay / 3600) := by
  unfold timeKey; simp only; omega

theorem timeKey_lt_iff (t1 t2 : Nat) :
    timeKey t1 < timeKey t2 ↔ t1 / nsPerSec % secPerDay < t2 / nsPerSec % secPerDay := by
  rw [timeKey_eq_add, timeKey_eq_add]; omega

theorem nameTimestamp_lt_iff (t1 t2 : Nat) (h1 : t1 < tsBound) (h2 : t2 < tsBound) :
    nameTimestamp t1 < nameTimestamp t2 ↔ t1 < t2 := by
  have hd : ∀ t, t < tsBound → dateKey t < 10 ^ 8 := fun t h =>
    Nat.lt_of_le_of_lt (dateNum_range _ (days_lt_of_lt_tsBound t h)).2 (by decide)
  have hk : ∀ t, timeKey t < 10 ^ 6 := fun t => by rw [timeKey_eq_add]; unfold secPerDay; omega
  have hn : ∀ t, t % nsPerSec < 10 ^ 9 := fun t => Nat.mod_lt _ (by decide)
  rw [nameTimestamp_eq_keys t1 h1, nameTimestamp_eq_keys t2 h2,
    decDigits_append_lt_iff 8 _ _ _ _ (hd t1 h1) (hd t2 h2), List.cons_lt_cons_iff,
    decDigits_append_lt_iff 6 _ _ _ _ (hk t1) (hk t2), List.cons_lt_cons_iff,
    decDigits_lt_iff 9 _ _ (hn t1) (hn t2), dateKey_lt_iff,
    eq_iff_of_lt_iff (dateKey_lt_iff t1 t2) (dateKey_lt_iff t2 t1), timeKey_lt_iff,
    eq_iff_of_lt_iff (timeKey_lt_iff t1 t2) (timeKey_lt_iff t2 t1)]
  simp only [UInt8.lt_irrefl, false_or, true_and]
  unfold tsBound at h1 h2
  simp only [nsPerSec, secPerDay]
  omega

theorem nameTimestamp_inj (t1 t2 : Nat) (h1 : t1 < tsBound) (h2 : t2 < tsBound)
    (h : nameTimestamp t1 = nameTimestamp t2) : t1 = t2 :=
  eq_of_lt_iff List.lt_irrefl (nameTimestamp_lt_iff t1 t2 h1 h2) (nameTimestamp_lt_iff t2 t1 h2 h1) h

/-- the name is: common prefix, 25-byte timestamp, the rest -/
theorem buildName_split (db inst gen : Bytes) (extras : List Bytes) (t : Nat) (ext : Bytes) :
    buildName db inst gen extras t ext
      = (db ++ uu ++ (inst ++ uu)) ++ (nameTimestamp t ++ (uu ++ joinUU (gen :: extras) ++ [dot] ++ ext)) := by
  simp [buildName, buildNameTs, joinUU, List.append_assoc]

/-- Names of one database and instance compare by their timestamps first, whatever follows. -/
theorem buildName_lt_iff (db inst g1 g2 : Bytes) (e1 e2 : List Bytes) (x1 x2 : Bytes) (t1 t2 : Nat)
    (h1 : t1 < tsBound) (h2 : t2 < tsBound) :
    buildName db inst g1 e1 t1 x1 < buildName db inst g2 e2 t2 x2 ↔ t1 < t2 ∨ t1 = t2 ∧
      uu ++ joinUU (g1 :: e1) ++ [dot] ++ x1 < uu ++ joinUU (g2 :: e2) ++ [dot] ++ x2 := by
  rw [buildName_split, buildName_split, prefix_lt_iff, append_lt_append_iff _ _ _ _ (by simp),
    nameTimestamp_lt_iff t1 t2 h1 h2]
  exact or_congr_right (and_congr_left' ⟨nameTimestamp_inj t1 t2 h1 h2, congrArg _⟩)

end Ls.Name
