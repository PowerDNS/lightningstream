import LsLemmas.CodecRefine
import LsModel.PbSpec
/-
  csproto's DecodeVarint / EncodeVarint against the declarative base-128 number of PbSpec; what a
  record of the declarative semantics (PbSpec.record) means for the primitives the
  hand-written decoders use (csproto.DecodeVarint, skipTag / Decoder.Skip, the Decoder's getters);
  the equations of the record tokeniser and of folds over records.
-/
namespace Ls.Wire
open Ls

theorem varintN_suffix (k : Nat) (p : Bytes) (w : Nat) (rest : Bytes)
    (h : PbSpec.varintN k p = some (w, rest)) :
    ∃ c, p = c ++ rest ∧ 1 ≤ c.length ∧ c.length ≤ k := by
  induction k generalizing p w rest with
  | zero => simp [PbSpec.varintN] at h
  | succ k ih =>
    cases p with
    | nil => simp [PbSpec.varintN] at h
    | cons b tl =>
      simp only [PbSpec.varintN] at h
      split at h
      · injection h with h; injection h with h1 h2
        subst h2
        exact ⟨[b], rfl, by simp, by simp⟩
      · split at h
        · simp at h
        · rename_i v r hv
          injection h with h; injection h with h1 h2
          subst h2
          obtain ⟨c, hc, h1, h2⟩ := ih tl v r hv
          exact ⟨b :: c, by simp [hc], by simp, by simp; omega⟩

theorem dvLoop_varintN (k : Nat) (p : Bytes) (i acc w : Nat) (rest : Bytes)
    (h : PbSpec.varintN k p = some (w, rest)) :
    dvLoop k p i acc = .ok ((acc + w * 2 ^ (7 * i)) % two64, i + (p.length - rest.length)) := by
  induction k generalizing p i acc w rest with
  | zero => simp [PbSpec.varintN] at h
  | succ k ih =>
    cases p with
    | nil => simp [PbSpec.varintN] at h
    | cons b tl =>
      simp only [PbSpec.varintN] at h
      split at h
      · rename_i hb
        injection h with h; injection h with h1 h2
        subst h1 h2
        rw [dvLoop, if_pos hb, Nat.mod_eq_of_lt hb, List.length_cons, Nat.add_sub_cancel_left]
      · rename_i hb
        split at h
        · simp at h
        · rename_i v r hv
          injection h with h; injection h with h1 h2
          subst h1 h2
          have hlt := b.toNat_lt
          obtain ⟨c, rfl, hc1, _⟩ := varintN_suffix k tl v r hv
          have hlen : (b :: (c ++ r)).length - r.length = 1 + ((c ++ r).length - r.length) := by
            simp only [List.length_cons, List.length_append]; omega
          rw [dvLoop, if_neg hb, ih _ (i + 1) _ v r hv, hlen, show b.toNat % 128 = b.toNat - 128 by omega,
            show 2 ^ (7 * (i + 1)) = 128 * 2 ^ (7 * i) by rw [Nat.mul_add, Nat.pow_add, Nat.mul_comm],
            Nat.add_mod, Nat.mod_mod, ← Nat.add_mod, Nat.add_assoc i]
          -- both sides are `(acc + _) % 2^64`; what is left is
          -- `(b-128)·2^(7i) + v·(128·2^(7i)) = (b-128 + 128·v)·2^(7i)`
          congr 3
          rw [Nat.add_mul, Nat.add_assoc]
          congr 1
          rw [Nat.mul_assoc, Nat.mul_comm v, ← Nat.mul_assoc, Nat.mul_right_comm 128]

/-- csproto.DecodeVarint reads what the declarative varint of PbSpec denotes -/
theorem decodeVarint_of_spec (p : Bytes) (v : Nat) (rest : Bytes)
    (h : PbSpec.varint p = some (v, rest)) :
    ∃ n, decodeVarint p = .ok (v, n) ∧ rest = p.drop n ∧ 1 ≤ n ∧ n ≤ p.length := by
  unfold PbSpec.varint at h
  split at h
  · simp at h
  · rename_i w r hw
    injection h with h; injection h with h1 h2
    subst h1 h2
    obtain ⟨c, hc, hc1, hc2⟩ := varintN_suffix 10 p w r hw
    have hlen : p.length - r.length = c.length := by subst hc; simp
    have hdrop : r = p.drop c.length := by subst hc; simp
    refine ⟨c.length, ?_, hdrop, hc1, by subst hc; simp⟩
    cases p with
    | nil => simp [PbSpec.varintN] at hw
    | cons b tl =>
      simp only [decodeVarint]
      split
      · rename_i hb
        simp only [PbSpec.varintN, hb, if_true] at hw
        injection hw with hw; injection hw with h1 h2
        subst h1 h2
        have : b.toNat % 2 ^ 64 = b.toNat := Nat.mod_eq_of_lt (by have := b.toNat_lt; omega)
        rw [this]
        have : c.length = 1 := by
          have := congrArg List.length hc; simp at this; omega
        rw [this]
      · have := dvLoop_varintN 10 (b :: tl) 0 0 w r hw
        rw [this, hlen]
        simp [two64]

/-- the declarative reader reads back what EncodeVarint wrote, whatever follows -/
theorem varintN_evLoop (k v : Nat) (rest : Bytes) (hv : v < 128 ^ (k + 1)) :
    PbSpec.varintN (k + 1) (evLoop k v ++ rest) = some (v, rest) := by
  induction k generalizing v with
  | zero =>
    have hv' : v < 128 := by simpa using hv
    show PbSpec.varintN 1 (UInt8.ofNat v :: rest) = _
    rw [PbSpec.varintN, UInt8.toNat_ofNat_of_lt (by omega), if_pos hv']
  | succ k ih =>
    rw [evLoop]
    split
    · rename_i hlt
      show PbSpec.varintN (k + 2) (UInt8.ofNat v :: rest) = _
      rw [PbSpec.varintN, UInt8.toNat_ofNat_of_lt (by omega), if_pos hlt]
    · have hdiv := div128_lt hv
      show PbSpec.varintN (k + 2) (UInt8.ofNat (v % 128 + 128) :: (evLoop k (v / 128) ++ rest)) = _
      rw [PbSpec.varintN, UInt8.toNat_ofNat_of_lt (by omega), if_neg (by omega), ih (v / 128) hdiv]
      show some (v % 128 + 128 - 128 + 128 * (v / 128), rest) = _
      congr 2
      omega

theorem varint_encodeVarint (v : Nat) (rest : Bytes) (hv : v < two64) :
    PbSpec.varint (encodeVarint v ++ rest) = some (v, rest) := by
  have h1 : v % two64 = v := Nat.mod_eq_of_lt hv
  have h2 : v < 128 ^ 10 := by simp [two64] at hv; omega
  unfold PbSpec.varint encodeVarint
  rw [h1, varintN_evLoop 9 v rest h2]
  simp
  simpa [two64] using hv

end Ls.Wire

namespace Ls.CodecS
open Ls Ls.Wire Ls.Codec Ls.PbSpec

/-- payload and remaining input of one record behind a tag of wire type `wt`, in terms of
    DecodeVarint and slices of the input `p1` behind the tag -/
inductive RecShape (p1 : Bytes) (wt : Nat) : Payload → Bytes → Prop where
  | varint {v n : Nat} (hwt : wt = 0) (hd : decodeVarint p1 = .ok (v, n)) :
      RecShape p1 wt (.varint v) (p1.drop n)
  | i64 (hwt : wt = 1) (hl : 8 ≤ p1.length) : RecShape p1 wt (.i64 (p1.take 8)) (p1.drop 8)
  | len {l n : Nat} (hwt : wt = 2) (hd : decodeVarint p1 = .ok (l, n)) (hl : n + l ≤ p1.length) :
      RecShape p1 wt (.len ((p1.drop n).take l)) (p1.drop (n + l))
  | i32 (hwt : wt = 5) (hl : 4 ≤ p1.length) : RecShape p1 wt (.i32 (p1.take 4)) (p1.drop 4)

theorem takeN_some {n : Nat} {b x r : Bytes} (h : takeN n b = some (x, r)) :
    n ≤ b.length ∧ x = b.take n ∧ r = b.drop n := by
  unfold takeN at h
  split at h
  · cases h; exact ⟨by assumption, rfl, rfl⟩
  · cases h

theorem takeN_append (x rest : Bytes) : takeN x.length (x ++ rest) = some (x, rest) := by
  simp [takeN]

theorem record_cases {p : Bytes} {r : Rec} {rest : Bytes} (h : record p = some (r, rest)) :
    ∃ key n, decodeVarint p = .ok (key, n) ∧ key / 8 = r.field ∧ r.field ≠ 0 ∧
      RecShape (p.drop n) (key % 8) r.payload rest := by
  unfold record at h
  rcases hv : PbSpec.varint p with _ | ⟨key, r1⟩ <;> rw [hv] at h
  · cases h
  obtain ⟨n, hd, rfl, -, -⟩ := decodeVarint_of_spec p key r1 hv
  refine ⟨key, n, hd, ?_⟩
  dsimp only at h
  by_cases hf : key / 8 = 0 ∨ key / 8 ≥ 2 ^ 29
  · rw [if_pos hf] at h; cases h
  have hf0 : key / 8 ≠ 0 := fun h0 => hf (.inl h0)
  rw [if_neg hf] at h
  by_cases hw0 : key % 8 = 0
  · rw [if_pos hw0] at h
    rcases hv2 : PbSpec.varint (p.drop n) with _ | ⟨v, r2⟩ <;> rw [hv2] at h <;> cases h
    obtain ⟨n2, hd2, rfl, -, -⟩ := decodeVarint_of_spec _ _ _ hv2
    exact ⟨rfl, hf0, .varint hw0 hd2⟩
  rw [if_neg hw0] at h
  by_cases hw1 : key % 8 = 1
  · rw [if_pos hw1] at h
    rcases ht : takeN 8 (p.drop n) with _ | ⟨x, r2⟩ <;> rw [ht] at h <;> cases h
    obtain ⟨hl, rfl, rfl⟩ := takeN_some ht
    exact ⟨rfl, hf0, .i64 hw1 hl⟩
  rw [if_neg hw1] at h
  by_cases hw2 : key % 8 = 2
  · rw [if_pos hw2] at h
    rcases hv2 : PbSpec.varint (p.drop n) with _ | ⟨l, r2⟩ <;> rw [hv2] at h
    · cases h
    obtain ⟨n2, hd2, rfl, -, hn2⟩ := decodeVarint_of_spec _ l r2 hv2
    dsimp only at h
    rcases ht : takeN l ((p.drop n).drop n2) with _ | ⟨x, r3⟩ <;> rw [ht] at h <;> cases h
    obtain ⟨hl, rfl, rfl⟩ := takeN_some ht
    rw [List.drop_drop (i := l)]
    exact ⟨rfl, hf0, .len hw2 hd2 (by rw [List.length_drop] at hl; omega)⟩
  rw [if_neg hw2] at h
  by_cases hw5 : key % 8 = 5
  · rw [if_pos hw5] at h
    rcases ht : takeN 4 (p.drop n) with _ | ⟨x, r2⟩ <;> rw [ht] at h <;> cases h
    obtain ⟨hl, rfl, rfl⟩ := takeN_some ht
    exact ⟨rfl, hf0, .i32 hw5 hl⟩
  rw [if_neg hw5] at h
  cases h

theorem RecShape.length_le {p1 : Bytes} {wt : Nat} {pl : Payload} {rest : Bytes}
    (sh : RecShape p1 wt pl rest) : rest.length ≤ p1.length := by
  cases sh <;> simp only [List.length_drop] <;> omega

theorem record_length_lt {p : Bytes} {r : Rec} {rest : Bytes} (h : record p = some (r, rest)) :
    rest.length < p.length := by
  obtain ⟨key, n, hd, -, -, sh⟩ := record_cases h
  obtain ⟨hn1, hn2, -, -⟩ := decodeVarint_bounds p key n hd
  have := sh.length_le
  rw [List.length_drop] at this
  omega

theorem recordsN_nil (f : Nat) : recordsN f [] = some [] := by
  cases f <;> rfl

theorem recordsN_cons (f : Nat) (b : UInt8) (tl : Bytes) :
    recordsN (f + 1) (b :: tl) = match record (b :: tl) with
      | none => none
      | some (r, rest) => match recordsN f rest with
        | none => none
        | some rs => some (r :: rs) := rfl

theorem recordsN_fuel : ∀ (f f' : Nat) (p : Bytes), p.length ≤ f → p.length ≤ f' →
    recordsN f p = recordsN f' p
  | _, _, [], _, _ => by rw [recordsN_nil, recordsN_nil]
  | f + 1, f' + 1, b :: tl, h, h' => by
    rw [recordsN_cons, recordsN_cons]
    split
    · rfl
    next r rest hrec =>
    have := record_length_lt hrec
    rw [recordsN_fuel f f' rest (by simp only [List.length_cons] at h this; omega)
      (by simp only [List.length_cons] at h' this; omega)]

theorem records_nil : records [] = some [] := rfl

theorem records_cons {p : Bytes} {r : Rec} {rest : Bytes} (h : record p = some (r, rest)) :
    records p = (records rest).map (r :: ·) := by
  have hlt := record_length_lt h
  cases p with
  | nil => cases h
  | cons b tl =>
    unfold records
    rw [List.length_cons, recordsN_cons, h]
    dsimp only
    rw [recordsN_fuel tl.length rest.length rest
      (by simp only [List.length_cons] at hlt; omega) (Nat.le_refl _)]
    cases recordsN rest.length rest <;> rfl

@[elab_as_elim]
theorem records_induction {P : Bytes → List Rec → Prop} (nil : P [] [])
    (cons : ∀ {p r rest rs}, record p = some (r, rest) → records rest = some rs → P rest rs →
      P p (r :: rs))
    {p : Bytes} {rs : List Rec} (h : records p = some rs) : P p rs := by
  induction hn : p.length using Nat.strongRecOn generalizing p rs with
  | _ n ih =>
    cases hrec : record p with
    | none =>
      cases p with
      | nil => cases h; exact nil
      | cons b tl => simp [records, recordsN_cons, hrec] at h
    | some x =>
      obtain ⟨r, rest⟩ := x
      rw [records_cons hrec] at h
      cases hrs : records rest with
      | none => simp [hrs] at h
      | some rs' =>
        simp only [hrs, Option.map_some, Option.some.injEq] at h
        subst h hn
        exact cons hrec hrs (ih _ (record_length_lt hrec) hrs rfl)

theorem skipS_shape {p1 : Bytes} {wt : Nat} {pl : Payload} {rest : Bytes}
    (sh : RecShape p1 wt pl rest) : skipS p1 wt = .ok rest := by
  unfold skipS
  cases sh with
  | varint hwt hd => simp [hwt, wtVarint, hd]
  | i64 hwt hl => simp [hwt, wtVarint, wtLen, wtFixed32, wtFixed64]; omega
  | len hwt hd hl => simp [hwt, wtVarint, wtLen, hd]; omega
  | i32 hwt hl => simp [hwt, wtVarint, wtLen, wtFixed32]; omega

theorem RecShape.ne_nil {p1 : Bytes} {wt : Nat} {pl : Payload} {rest : Bytes}
    (sh : RecShape p1 wt pl rest) : p1 ≠ [] := by
  rintro rfl
  cases sh with
  | varint hwt hd => cases hd
  | i64 hwt hl => cases hl
  | len hwt hd hl => cases hd
  | i32 hwt hl => cases hl

theorem decSkipS_shape {p1 : Bytes} {wt : Nat} {pl : Payload} {rest : Bytes} (maxLen : Nat)
    (sh : RecShape p1 wt pl rest) (hmax : ∀ x, pl = .len x → x.length ≤ maxLen) :
    decSkipS p1 maxLen wt = .ok rest := by
  have hne := sh.ne_nil
  unfold decSkipS
  cases sh with
  | varint hwt hd =>
    obtain ⟨-, g2, -, -⟩ := decodeVarint_bounds _ _ _ hd
    simp [hne, hwt, wtVarint, hd]; omega
  | i64 hwt hl => simp [hne, hwt, wtVarint, wtFixed64]; omega
  | @len l n hwt hd hl =>
    obtain ⟨g1, -, -, -⟩ := decodeVarint_bounds _ _ _ hd
    have hlm : l ≤ maxLen := by
      have := hmax _ rfl
      simp only [List.length_take, List.length_drop] at this
      omega
    simp [hne, hwt, wtVarint, wtLen, wtFixed64, hd, Nat.ne_of_gt g1, Nat.not_lt.2 hlm, Nat.not_lt.2 hl]
  | i32 hwt hl => simp [hne, hwt, wtVarint, wtLen, wtFixed32, wtFixed64]; omega

theorem getBytesS_shape {p1 : Bytes} {wt : Nat} {x rest : Bytes} (maxLen : Nat)
    (sh : RecShape p1 wt (.len x) rest) (hmax : x.length ≤ maxLen) :
    getBytesS p1 maxLen wt = .ok (x, rest) := by
  have hne := sh.ne_nil
  cases sh with
  | @len l n hwt hd hl =>
    obtain ⟨g1, -, -, -⟩ := decodeVarint_bounds _ _ _ hd
    have hlm : l ≤ maxLen := by
      simp only [List.length_take, List.length_drop] at hmax
      omega
    simp [getBytesS, hne, hwt, wtLen, hd, Nat.ne_of_gt g1, Nat.not_lt.2 hlm, Nat.not_lt.2 hl]

theorem decVarintS_shape {p1 : Bytes} {wt v : Nat} {rest : Bytes}
    (sh : RecShape p1 wt (.varint v) rest) : wt = wtVarint ∧ decVarintS p1 = .ok (v, rest) := by
  have hne := sh.ne_nil
  cases sh with
  | varint hwt hd =>
    obtain ⟨g1, -, -, -⟩ := decodeVarint_bounds _ _ _ hd
    simp [decVarintS, hne, hwt, wtVarint, hd, Nat.ne_of_gt g1]

theorem getInt64S_shape {p1 : Bytes} {wt v : Nat} {rest : Bytes}
    (sh : RecShape p1 wt (.varint v) rest) : getInt64S p1 wt = .ok (toInt64 v, rest) := by
  obtain ⟨hwt, hd⟩ := decVarintS_shape sh
  simp [getInt64S, hwt, hd]

theorem getUInt32S_shape {p1 : Bytes} {wt v : Nat} {rest : Bytes}
    (sh : RecShape p1 wt (.varint v) rest) (hv : v < 2 ^ 32) : getUInt32S p1 wt = .ok (v, rest) := by
  obtain ⟨hwt, hd⟩ := decVarintS_shape sh
  have : ¬ 4294967295 < v := by omega
  simp [getUInt32S, hwt, hd, this]

theorem getFixed64S_shape {p1 : Bytes} {wt : Nat} {x rest : Bytes}
    (sh : RecShape p1 wt (.i64 x) rest) : getFixed64S p1 wt = .ok (leNat x, rest) := by
  have hne := sh.ne_nil
  cases sh with
  | i64 hwt hl => simp [getFixed64S, hne, hwt, wtFixed64, Nat.not_lt.2 hl]

/-- `hf26`: csproto's `DecodeTag` compares the whole tag value `key` with MaxTagValue (see `MetaRecOK`) -/
theorem decTagS_record {p : Bytes} {key n : Nat} (hd : decodeVarint p = .ok (key, n))
    (hf0 : key / 8 ≠ 0) (hf26 : key / 8 < 67108864) :
    decTagS p = .ok (key / 8, key % 8, p.drop n) := by
  obtain ⟨hn1, hn2, -, -⟩ := decodeVarint_bounds p key n hd
  have hne : p ≠ [] := by rintro rfl; simp at hn2; omega
  have h1 : ¬ (n < 1 ∨ key < 1 ∨ key > maxTagValue) := by
    simp only [maxTagValue]; omega
  simp only [decTagS, hne, if_false, hd, bind_ok, h1]

theorem foldRecs_nil {α : Type} (f : α → Rec → Option α) (a : α) : foldRecs f a [] = some a := rfl

theorem foldRecs_cons {α : Type} (f : α → Rec → Option α) (a : α) (r : Rec) (rs : List Rec) :
    foldRecs f a (r :: rs) = (f a r).bind (foldRecs f · rs) := by
  simp only [foldRecs, List.foldlM_cons]
  rfl

/-- what it means that `parseKV`, `parseDBI`, `mergeMeta` or `parse` succeeds -/
theorem fold_of_parse {α : Type} {f : α → Rec → Option α} {a a' : α} {b : Bytes}
    (h : (match records b with
      | none => none
      | some rs => foldRecs f a rs) = some a') :
    ∃ rs, records b = some rs ∧ foldRecs f a rs = some a' := by
  cases hr : records b with
  | none => rw [hr] at h; cases h
  | some rs => rw [hr] at h; exact ⟨rs, rfl, h⟩

end Ls.CodecS
