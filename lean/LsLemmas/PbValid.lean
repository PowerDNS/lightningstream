import LsLemmas.CodecEnc
import LsLemmas.PbCompat
/-
  What the encoder writes is a valid message of the published schema whose value (PbSpec) is the
  snapshot that was encoded.
-/
namespace Ls.CodecS
open Ls Ls.Wire Ls.Codec Ls.PbSpec

/-- what `record` reads off a tag the encoder has written -/
theorem encodeTag_facts {f wt : Nat} (q : Bytes) (hf1 : 1 ≤ f) (hf2 : f < 2 ^ 29) (hwt : wt < 8) :
    PbSpec.varint (encodeTag f wt ++ q) = some (f * 8 + wt, q) ∧ (f * 8 + wt) / 8 = f ∧
      (f * 8 + wt) % 8 = wt ∧ ¬ (f = 0 ∨ f ≥ 2 ^ 29) :=
  ⟨varint_encodeVarint _ _ (by simp only [two64]; omega), by omega, by omega, by omega⟩

theorem record_lenField (f : Nat) (x rest : Bytes) (hf1 : 1 ≤ f) (hf2 : f < 2 ^ 29) (hx : x.length < two64) :
    record (encodeTag f wtLen ++ encodeVarint x.length ++ x ++ rest) = some (⟨f, .len x⟩, rest) := by
  obtain ⟨hv, e1, e2, hfn⟩ := encodeTag_facts (wt := 2) (encodeVarint x.length ++ (x ++ rest)) hf1 hf2
    (by decide)
  simp only [List.append_assoc, record, hv, e1, e2, hfn, wtLen, varint_encodeVarint _ _ hx, takeN_append]
  rfl

theorem record_varintField (f v : Nat) (rest : Bytes) (hf1 : 1 ≤ f) (hf2 : f < 2 ^ 29) (hv : v < two64) :
    record (encodeTag f wtVarint ++ encodeVarint v ++ rest) = some (⟨f, .varint v⟩, rest) := by
  obtain ⟨ht, e1, e2, hfn⟩ := encodeTag_facts (wt := 0) (encodeVarint v ++ rest) hf1 hf2 (by decide)
  simp only [List.append_assoc, record, ht, e1, e2, hfn, wtVarint, varint_encodeVarint _ _ hv]
  rfl

theorem record_fixed64Field (f v : Nat) (rest : Bytes) (hf1 : 1 ≤ f) (hf2 : f < 2 ^ 29) :
    record (encodeTag f wtFixed64 ++ le64 v ++ rest) = some (⟨f, .i64 (le64 v)⟩, rest) := by
  obtain ⟨ht, e1, e2, hfn⟩ := encodeTag_facts (wt := 1) (le64 v ++ rest) hf1 hf2 (by decide)
  have h8 := takeN_append (le64 v) rest
  rw [le64_length] at h8
  simp only [List.append_assoc, record, ht, e1, e2, hfn, wtFixed64, h8]
  rfl

theorem leNat_le64 (n : Nat) (h : n < two64) : leNat (le64 n) = n := by
  unfold le64; rw [leNat_leBytes]; exact Nat.mod_eq_of_lt (by simpa [two64] using h)

theorem foldRecs_single {α : Type} (f : α → Rec → Option α) (a : α) (r : Rec) :
    foldRecs f a [r] = f a r := by
  rw [foldRecs_cons]; cases f a r <;> rfl

theorem records_append_of (a b : Bytes) (ra rb : List Rec)
    (ha : ∀ rest rs, records rest = some rs → records (a ++ rest) = some (ra ++ rs))
    (hb : records b = some rb) : records (a ++ b) = some (ra ++ rb) := ha b rb hb

/-- `b` is a run of complete records, whatever follows it; their fold by `f` takes `a` to `a'`,
    and all of them satisfy `OK` -/
def Emits {α : Type} (f : α → Rec → Option α) (OK : Rec → Prop) (a : α) (b : Bytes) (a' : α) : Prop :=
  ∃ rs, (∀ rest rs', records rest = some rs' → records (b ++ rest) = some (rs ++ rs')) ∧
    foldRecs f a rs = some a' ∧ ∀ r ∈ rs, OK r

section
variable {α : Type} {f : α → Rec → Option α} {OK : Rec → Prop} {a a' : α}

theorem Emits.nil : Emits f OK a [] a :=
  ⟨[], fun _ _ h => h, rfl, nofun⟩

theorem Emits.append {a₁ : α} {b₁ b₂ : Bytes} (h₁ : Emits f OK a b₁ a₁) (h₂ : Emits f OK a₁ b₂ a') :
    Emits f OK a (b₁ ++ b₂) a' := by
  obtain ⟨rs₁, hr₁, hf₁, ho₁⟩ := h₁
  obtain ⟨rs₂, hr₂, hf₂, ho₂⟩ := h₂
  refine ⟨rs₁ ++ rs₂, fun rest rs' h => ?_, ?_, fun r hr => ?_⟩
  · rw [List.append_assoc, List.append_assoc]
    exact hr₁ _ _ (hr₂ _ _ h)
  · rw [foldRecs, List.foldlM_append, ← foldRecs, hf₁]
    exact hf₂
  · exact (List.mem_append.1 hr).elim (ho₁ r) (ho₂ r)

theorem Emits.record {fb : Bytes} {r : Rec} (hrec : ∀ rest, record (fb ++ rest) = some (r, rest))
    (hf : f a r = some a') (hok : OK r) : Emits f OK a fb a' :=
  ⟨[r], fun rest rs' h => by rw [records_cons (hrec rest), h]; rfl, by rw [foldRecs_single, hf],
    fun r' hr' => by rw [List.mem_singleton.1 hr']; exact hok⟩

/-- a field the encoder omits when it has its default value -/
theorem Emits.opt {fb : Bytes} {c : Prop} [Decidable c] (h : c → Emits f OK a fb a')
    (hz : ¬ c → a' = a) : Emits f OK a (if c then fb else []) a' := by
  split
  · next hc => exact h hc
  · next hc => rw [hz hc]; exact .nil

/-- `b` on its own, with nothing behind it -/
theorem Emits.whole {b : Bytes} (h : Emits f OK a b a') :
    ∃ rs, records b = some rs ∧ foldRecs f a rs = some a' ∧ ∀ r ∈ rs, OK r := by
  obtain ⟨rs, hr, hf, ho⟩ := h
  exact ⟨rs, by simpa using hr [] [] rfl, hf, ho⟩

/-- the value of `b` under a parser of the schema -/
theorem Emits.value {b : Bytes} (h : Emits f OK a b a') :
    (match records b with
      | none => none
      | some rs => foldRecs f a rs) = some a' := by
  obtain ⟨rs, hr, hf, -⟩ := h.whole
  rw [hr]
  exact hf

theorem Emits.all {b : Bytes} (h : Emits f OK a b a') :
    ∀ rs, records b = some rs → ∀ r ∈ rs, OK r := by
  obtain ⟨rs, hr, -, ho⟩ := h.whole
  intro rs' hr'
  rw [hr] at hr'
  cases hr'
  exact ho

theorem emits_strField {k : Nat} {x : Bytes} (hk : 1 ≤ k ∧ k < 2 ^ 29) (hx : x.length < two64)
    (hf : f a ⟨k, .len x⟩ = some a') (hz : x = [] → a' = a) (hok : OK ⟨k, .len x⟩) :
    Emits f OK a (strField k x) a' :=
  .opt (fun _ => .record (record_lenField k x · hk.1 hk.2 hx) hf hok)
    (fun hc => hz (List.eq_nil_of_length_eq_zero (by omega)))

theorem emits_varintField {k v : Nat} (hk : 1 ≤ k ∧ k < 2 ^ 29) (hv : v < two64)
    (hf : f a ⟨k, .varint v⟩ = some a') (hz : v = 0 → a' = a) (hok : OK ⟨k, .varint v⟩) :
    Emits f OK a (varintField k v) a' :=
  .opt (fun _ => .record (record_varintField k v · hk.1 hk.2 hv) hf hok) (fun hc => hz (by omega))

end

theorem lenField_eq_strField (k : Nat) (x : Bytes) : lenField k x = strField k x := by
  cases x <;> simp [lenField, strField]

/- Each encoder level is a chain of emitted fields; the value after a field is the target with the
   fields not yet written still at their defaults, which is why an omitted field changes nothing. -/

theorem emits_kvBytes (kv : KV) (hr : KVRange kv) :
    Emits kvField (fun _ => True) kvZero (kvBytes kv) kv := by
  obtain ⟨k, v, ts, fl⟩ := kv
  obtain ⟨h1, h2, h3, h4⟩ := hr
  have hfl : fl % 2 ^ 32 = fl := Nat.mod_eq_of_lt h3
  simp only [kvBytes]
  exact
    (emits_strField (a' := ⟨k, [], 0, 0⟩) (by decide) h1 rfl (by rintro rfl; rfl) trivial)
      |>.append (emits_strField (a' := ⟨k, v, 0, 0⟩) (by decide) h2 rfl (by rintro rfl; rfl) trivial)
      |>.append (emits_varintField (a' := ⟨k, v, 0, fl⟩) (by decide) (Nat.lt_trans h3 (by decide))
        (by simp [kvField, Gen.fieldKVFlags, hfl]) (by rintro rfl; rfl) trivial)
      |>.append (.opt
        (fun _ => .record (record_fixed64Field Gen.fieldKVTimestampNano ts · (by decide) (by decide))
          (by simp [kvField, Gen.fieldKVTimestampNano, leNat_le64 ts h4]) trivial)
        (fun hc => by rw [show ts = 0 by omega]))

theorem parseKV_kvBytes (kv : KV) (hr : KVRange kv) : parseKV (kvBytes kv) = some kv :=
  (emits_kvBytes kv hr).value

theorem emits_entriesBytes : ∀ (kvs : List KV) (d : DBI'),
    (∀ kv ∈ kvs, kv.key ≠ [] ∧ KVRange kv ∧ (kvBytes kv).length < two64) →
    Emits dbiField (fun _ => True) d (entriesBytes kvs) { d with entries := d.entries ++ kvs }
  | [], d, _ => by rw [List.append_nil]; exact .nil
  | kv :: kvs, d, h => by
    obtain ⟨hk, hr, hl⟩ := h kv (by simp)
    have hp := parseKV_kvBytes kv hr
    have e := (emits_strField (a := d) (k := Gen.fieldDBIEntries) (a' := { d with entries := d.entries ++ [kv] })
        (by decide) hl (by simp [dbiField, Gen.fieldDBIEntries, hp]) (fun h0 => absurd h0 (parseKV_nonempty _ kv hp hk))
        trivial).append
      (emits_entriesBytes kvs _ (fun kv' hk' => h kv' (List.mem_cons_of_mem _ hk')))
    rw [← lenField_eq_strField, List.append_assoc] at e
    exact e

theorem emits_dbiBytes (d : DBI') (hr : DBIRange d) (hk : ∀ kv ∈ d.entries, kv.key ≠ []) :
    Emits dbiField (fun _ => True) dbiZero (dbiBytes d) d := by
  obtain ⟨n, fl, tr, es⟩ := d
  obtain ⟨h1, h2, h3, h4⟩ := hr
  exact
    (emits_strField (a' := ⟨n, 0, [], []⟩) (by decide) (Nat.lt_of_le_of_lt h1 (by decide)) rfl
        (by rintro rfl; rfl) trivial)
      |>.append (emits_varintField (a' := ⟨n, fl, [], []⟩) (by decide) h3 rfl (by rintro rfl; rfl)
        trivial)
      |>.append (emits_strField (a' := ⟨n, fl, tr, []⟩) (by decide) (Nat.lt_of_le_of_lt h2 (by decide)) rfl
        (by rintro rfl; rfl) trivial)
      |>.append (emits_entriesBytes es _ (fun kv hkv => ⟨hk kv hkv, h4 kv hkv⟩))

theorem parseDBI_dbiBytes (d : DBI') (hr : DBIRange d) (hk : ∀ kv ∈ d.entries, kv.key ≠ []) :
    parseDBI (dbiBytes d) = some d :=
  (emits_dbiBytes d hr hk).value

theorem toUInt64_lt (i : Int) : toUInt64 i < two64 := by
  unfold toUInt64
  have h : (0 : Int) < ((two64 : Nat) : Int) := by decide
  have h1 := Int.emod_nonneg i (Int.ne_of_gt h)
  have h2 := Int.emod_lt_of_pos i h
  omega

/-- ranges of the Go types of Meta, non-negative transaction ids (as LMDB's are), strings within
    csproto's default field limit (math.MaxInt32) -/
def MetaWF (m : Meta) : Prop :=
  0 ≤ m.lmdbTxnID ∧ m.lmdbTxnID < (two63 : Nat) ∧ 0 ≤ m.fromLmdbTxnID ∧ m.fromLmdbTxnID < (two63 : Nat) ∧
  m.timestampNano < two64 ∧
  m.generationID.length ≤ defaultMaxFieldLen ∧ m.instanceID.length ≤ defaultMaxFieldLen ∧
  m.hostname.length ≤ defaultMaxFieldLen ∧ m.databaseName.length ≤ defaultMaxFieldLen

theorem MetaRecOK.len {k : Nat} {x : Bytes} (hk : k < 67108864) (hx : x.length ≤ defaultMaxFieldLen) :
    MetaRecOK ⟨k, .len x⟩ :=
  ⟨hk, fun _ h => by cases h; exact hx⟩

theorem MetaRecOK.scalar {k : Nat} {pl : Payload} (hk : k < 67108864) (hp : ∀ x, pl ≠ .len x) :
    MetaRecOK ⟨k, pl⟩ :=
  ⟨hk, fun x h => absurd h (hp x)⟩

theorem emits_metaMarshal (m : Meta) (hw : MetaWF m) :
    Emits metaField MetaRecOK metaZero (metaMarshal m) m := by
  obtain ⟨g, i, h, txn, ts, dn, fr⟩ := m
  simp only [MetaWF] at hw
  obtain ⟨t0, t1, f0, f1, hts, l1, l2, l3, l4⟩ := hw
  have hd : defaultMaxFieldLen < two64 := Nat.lt_trans defaultMax_lt two63_lt
  -- `wrapInt64 i` is by definition `toInt64 (toUInt64 i)`
  have htxn : toInt64 (toUInt64 txn) = txn := wrapInt64_small txn t0 t1
  have hfr : toInt64 (toUInt64 fr) = fr := wrapInt64_small fr f0 f1
  simp only [metaMarshal]
  exact
    (emits_strField (a' := ⟨g, [], [], 0, 0, [], 0⟩) (by decide) (Nat.lt_of_le_of_lt l1 hd) rfl
        (by rintro rfl; rfl) (.len (by decide) l1))
      |>.append (emits_strField (a' := ⟨g, i, [], 0, 0, [], 0⟩) (by decide) (Nat.lt_of_le_of_lt l2 hd) rfl
        (by rintro rfl; rfl) (.len (by decide) l2))
      |>.append (emits_strField (a' := ⟨g, i, h, 0, 0, [], 0⟩) (by decide) (Nat.lt_of_le_of_lt l3 hd) rfl
        (by rintro rfl; rfl) (.len (by decide) l3))
      |>.append (emits_strField (a' := ⟨g, i, h, 0, 0, dn, 0⟩) (by decide) (Nat.lt_of_le_of_lt l4 hd) rfl
        (by rintro rfl; rfl) (.len (by decide) l4))
      |>.append (.opt (a' := ⟨g, i, h, txn, 0, dn, 0⟩)
        (fun _ => .record (record_varintField Gen.fieldMetaLMDBTxnID _ · (by decide) (by decide) (toUInt64_lt _))
          (by simp [metaField, Gen.fieldMetaLMDBTxnID, htxn]) (.scalar (by decide) nofun))
        (fun hc => by rw [show txn = 0 by omega]))
      |>.append (.opt (a' := ⟨g, i, h, txn, ts, dn, 0⟩)
        (fun _ => .record (record_fixed64Field Gen.fieldMetaTimestampNano ts · (by decide) (by decide))
          (by simp [metaField, Gen.fieldMetaTimestampNano, leNat_le64 ts hts]) (.scalar (by decide) nofun))
        (fun hc => by rw [show ts = 0 by omega]))
      |>.append (.opt
        (fun _ => .record (record_varintField Gen.fieldMetaFromLMDBTxnID _ · (by decide) (by decide) (toUInt64_lt _))
          (by simp [metaField, Gen.fieldMetaFromLMDBTxnID, hfr]) (.scalar (by decide) nofun))
        (fun hc => by rw [show fr = 0 by omega]))

theorem mergeMeta_metaMarshal (m : Meta) (hw : MetaWF m) : mergeMeta metaZero (metaMarshal m) = some m :=
  (emits_metaMarshal m hw).value

theorem metaOK_metaMarshal (m : Meta) (hw : MetaWF m) : MetaOK (metaMarshal m) :=
  (emits_metaMarshal m hw).all

theorem metaMarshal_small (m : Meta) (hw : MetaWF m) : (metaMarshal m).length ≤ snapshotMaxFieldLen := by
  have := metaMarshal_fits m
  obtain ⟨-, -, -, -, -, l1, l2, l3, l4⟩ := hw
  simp only [metaBufSize, defaultMaxFieldLen, snapshotMaxFieldLen] at *
  omega

/-- one DBI of a well-formed snapshot: name 1..511 bytes (LMDB), transform ≤ 64 bytes, flags a
    uint64, keys non-empty, entry flags uint32 and timestamps uint64, and an encoded size within
    snapshot.MaxFieldLength (100 GB), beyond which Snapshot.Unmarshal refuses a DBI -/
def DBIWF (d : DBI') : Prop :=
  1 ≤ d.name.length ∧ d.name.length ≤ 511 ∧ d.transform.length ≤ 64 ∧ d.flags < two64 ∧
  (dbiBytes d).length ≤ snapshotMaxFieldLen ∧
  ∀ kv ∈ d.entries, kv.key ≠ [] ∧ kv.flags < two32 ∧ kv.ts < two64

theorem strField_length_ge (k : Nat) (x : Bytes) : x.length ≤ (strField k x).length := by
  unfold strField
  split
  · simp only [List.length_append]; omega
  · omega

theorem kvBytes_ge (kv : KV) : kv.key.length ≤ (kvBytes kv).length ∧ kv.val.length ≤ (kvBytes kv).length := by
  have h1 := strField_length_ge Gen.fieldKVKey kv.key
  have h2 := strField_length_ge Gen.fieldKVValue kv.val
  unfold strField at h1 h2
  unfold kvBytes
  simp only [List.length_append]
  omega

theorem entryBytes_ge (kv : KV) : (kvBytes kv).length ≤ (entryBytes kv).length := by
  unfold entryBytes
  split
  · omega
  · simp only [List.length_append]; omega

theorem entriesBytes_ge : ∀ (kvs : List KV) (kv : KV), kv ∈ kvs → (kvBytes kv).length ≤ (entriesBytes kvs).length
  | [], _, h => by simp at h
  | k :: kvs, kv, h => by
    simp only [List.mem_cons] at h
    unfold entriesBytes
    simp only [List.length_append]
    rcases h with rfl | h
    · have := entryBytes_ge kv; omega
    · have := entriesBytes_ge kvs kv h; omega

theorem dbiRange_of_wf (d : DBI') (hw : DBIWF d) : DBIRange d := by
  obtain ⟨h1, h2, h3, h4, h5, h6⟩ := hw
  refine ⟨h2, h3, h4, ?_⟩
  intro kv hkv
  obtain ⟨_, k2, k3⟩ := h6 kv hkv
  have hs : snapshotMaxFieldLen < two64 := Nat.lt_trans snapshotMax_lt two63_lt
  have g1 := entriesBytes_ge d.entries kv hkv
  have g2 : (entriesBytes d.entries).length ≤ (dbiBytes d).length := by
    unfold dbiBytes; simp only [List.length_append]; omega
  have g3 := kvBytes_ge kv
  exact ⟨⟨by omega, by omega, k2, k3⟩, by omega⟩

theorem TopRecOK.msg {k : Nat} {x : Bytes} (hk : k < 67108864)
    (hx : x.length ≤ snapshotMaxFieldLen) (hm : k = 2 → MetaOK x) : TopRecOK ⟨k, .len x⟩ :=
  ⟨hk, fun _ h => by cases h; exact hx, fun _ => nofun, fun h2 _ h => by cases h; exact hm h2⟩

theorem emits_dbisBytes : ∀ (ds : List DBI') (s : Snapshot'), (∀ d ∈ ds, DBIWF d) →
    Emits snapField TopRecOK s (dbisBytes ds) { s with dbis := s.dbis ++ ds }
  | [], s, _ => by rw [List.append_nil]; exact .nil
  | d :: ds, s, h => by
    have hd := h d (by simp)
    have ⟨hname, _, _, _, hsize, hent⟩ := hd
    have hp := parseDBI_dbiBytes d (dbiRange_of_wf d hd) (fun kv hkv => (hent kv hkv).1)
    have e := (emits_strField (a := s) (k := Gen.fieldSnapshotDBI)
        (a' := { s with dbis := s.dbis ++ [d] }) (by decide)
        (Nat.lt_of_le_of_lt hsize (Nat.lt_trans snapshotMax_lt two63_lt))
        (by simp [snapField, Gen.fieldSnapshotDBI, hp])
        -- an empty encoding has the value `dbiZero`, whose name is empty
        (fun h0 => by rw [h0] at hp; cases hp; exact absurd hname (by decide))
        (.msg (by decide) hsize (fun h => absurd h (by decide)))).append
      (emits_dbisBytes ds _ (fun d' hd' => h d' (List.mem_cons_of_mem _ hd')))
    rw [← lenField_eq_strField, List.append_assoc] at e
    exact e

/-- Well-formed snapshot (decidable): values within their Go types (uint32 versions and entry
    flags, uint64 timestamps and DBI flags, int64 transaction ids), transaction ids non-negative
    (as LMDB's are), DBI names 1..511 bytes (LMDB's limit), transforms ≤ 64 bytes, keys non-empty;
    values, flags, timestamps, strings otherwise arbitrary.  Three size limits that the decoder
    imposes are part of it: Meta strings ≤ math.MaxInt32 bytes (csproto's default field limit),
    an encoded DBI ≤ snapshot.MaxFieldLength = 100 GB, the whole message < 2^63 bytes. -/
def SnapWF (s : Snapshot') : Prop :=
  s.formatVersion < two32 ∧ s.compatVersion < two32 ∧ MetaWF s.info ∧ (∀ d ∈ s.dbis, DBIWF d) ∧
  (snapBytes s).length < two63

theorem TopRecOK.version {k v : Nat} (hk : k < 67108864) (hv : v < two32) : TopRecOK ⟨k, .varint v⟩ :=
  ⟨hk, nofun, fun _ _ h => by cases h; exact hv, fun _ => nofun⟩

/-- the encoder's bytes are a conforming message of the published schema whose value is the
    encoded snapshot -/
theorem emits_snapBytes (s : Snapshot') (hw : SnapWF s) :
    Emits snapField TopRecOK snapZero' (snapBytes s) s := by
  obtain ⟨fv, cv, info, dbis⟩ := s
  simp only [SnapWF] at hw
  obtain ⟨h1, h2, h3, h4, -⟩ := hw
  have hm := mergeMeta_metaMarshal info h3
  have hs := metaMarshal_small info h3
  simp only [snapBytes, lenField_eq_strField]
  exact
    (emits_varintField (a' := ⟨fv, 0, metaZero, []⟩) (by decide) (Nat.lt_trans h1 (by decide))
        (by simp [snapField, snapZero', Gen.fieldSnapshotFormatVersion]; exact h1) (by rintro rfl; rfl)
        (.version (by decide) h1))
      |>.append (emits_varintField (a' := ⟨fv, cv, metaZero, []⟩) (by decide) (Nat.lt_trans h2 (by decide))
        (by simp [snapField, Gen.fieldSnapshotCompatVersion]; exact h2) (by rintro rfl; rfl)
        (.version (by decide) h2))
      |>.append (emits_strField (a' := ⟨fv, cv, info, []⟩) (by decide) (Nat.lt_of_le_of_lt hs (Nat.lt_trans snapshotMax_lt two63_lt))
        (by simp [snapField, Gen.fieldSnapshotMeta, hm])
        -- an empty encoding has the value `metaZero`, so `info` is `metaZero`
        (fun h0 => by rw [h0] at hm; cases hm; rfl)
        (.msg (by decide) hs (fun _ => metaOK_metaMarshal info h3)))
      |>.append (emits_dbisBytes dbis _ h4)

theorem parse_snapBytes (s : Snapshot') (hw : SnapWF s) : parse (snapBytes s) = some s :=
  (emits_snapBytes s hw).value

theorem conforming_snapBytes (s : Snapshot') (hw : SnapWF s) : Conforming (snapBytes s) :=
  (emits_snapBytes s hw).all

theorem lmdbContent_of_wf (s : Snapshot') (hw : SnapWF s) : LmdbContent s :=
  fun d hd e he =>
    have ⟨_, _, _, hdbis, _⟩ := hw
    have ⟨_, _, _, _, _, hent⟩ := hdbis d hd
    (hent e he).1

end Ls.CodecS
