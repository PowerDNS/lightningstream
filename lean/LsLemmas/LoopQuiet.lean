import LsLemmas.LoopInv
/-
  What one segment does to the bucket, the waiting set, the exit and the environment, each read off
  the segment summary `Seg`; the ghost-free "nothing local to publish" predicate that is stable
  under everything but application transactions; the own-instance guard for armed states.
-/
namespace Ls.Loop
open Ls Ls.Txn Ls.SyncLoop

variable {c : LoopCfg} {b : Bucket} {s : St} {i : In} {gh : Gh} {s' : St} {b' : Bucket} {gh' : Gh}

/-- the blob `SendOnce` stores from the yield point after its transaction -/
def dumpBlob (c : LoopCfg) (s : St) : Option Blob :=
  match s.pc with
  | .sendAfterTxn _ _ ts snap => some { inst := c.own, ts := ts, snap := snap }
  | _ => none

/-- does this segment store a blob? -/
def Stores (c : LoopCfg) (s : St) (i : In) : Prop :=
  (∃ who t ts snap, s.pc = .sendAfterTxn who t ts snap) ∧ c.txn.receiveOnly = false ∧
    i.fails < c.retryCount

def isSendAfterTxn : Pc → Bool
  | .sendAfterTxn .. => true
  | _ => false

/-- `Stores` as a Boolean: the form the counting definitions (`storeCount`, `delta`) compute with;
    `storesB_iff` connects the two -/
def storesB (c : LoopCfg) (s : St) (i : In) : Bool :=
  isSendAfterTxn s.pc && !c.txn.receiveOnly && decide (i.fails < c.retryCount)

theorem storesB_iff (c : LoopCfg) (s : St) (i : In) : storesB c s i = true ↔ Stores c s i := by
  unfold storesB Stores
  simp only [Bool.and_eq_true, Bool.not_eq_true', decide_eq_true_eq, and_assoc]
  refine and_congr_left' ⟨fun h => ?_, fun ⟨who, t, ts, snap, h⟩ => by rw [h]; rfl⟩
  cases hpc : s.pc with
  | sendAfterTxn who t ts snap => exact ⟨who, t, ts, snap, rfl⟩
  | _ => rw [hpc] at h; cases h

instance (c : LoopCfg) (s : St) (i : In) : Decidable (Stores c s i) :=
  decidable_of_iff _ (storesB_iff c s i)

theorem storesB_of_not_send (h : ∀ who t ts snap, s.pc ≠ .sendAfterTxn who t ts snap) :
    storesB c s i = false :=
  Bool.eq_false_iff.mpr fun hb =>
    let ⟨⟨who, t, ts, snap, hp⟩, _⟩ := (storesB_iff c s i).mp hb
    h who t ts snap hp

/-- **The only segment that touches the bucket** is the one from the yield point after
    `SendOnce`'s transaction, not receive-only, with fewer failures than the retry budget; it
    appends exactly the dumped blob (and the ghost counter `stores` counts it). `Seg.bucket`,
    `go_bucket` (in terms of `Stores`) and `step_bucket_delta` are readings of this. -/
theorem Seg.storing (h : Seg c b s i gh s' b' gh') :
    b' = b ++ (if storesB c s i then (dumpBlob c s).toList else []) ∧
    gh'.stores = gh.stores + if storesB c s i then 1 else 0 := by
  have hl : InLoads s → storesB c s i = false := by
    rintro (h | ⟨_, _, _, _, _, h⟩) <;> exact storesB_of_not_send (by rw [h]; nofun)
  cases h
  case stored hpc hro hf => simp [storesB, isSendAfterTxn, dumpBlob, hpc, hro, hf]
  case storeFailed hpc hro hf => simp [storesB, hro, Nat.not_lt.mpr hf]
  case endLoads h _ => simp [hl h]
  case unknown h _ _ => simp [hl h]
  case loadFailed h _ => simp [hl h]
  case loaded h _ _ _ _ _ => simp [hl h]
  -- every other path starts from a yield point that is not `sendAfterTxn`, or is receive-only:
  -- `storesB` is false, bucket and counter are untouched
  all_goals simp [storesB, isSendAfterTxn, Gh.beginDump, Gh.started, *]

theorem Seg.bucket (h : Seg c b s i gh s' b' gh') :
    b' = b ++ if storesB c s i then (dumpBlob c s).toList else [] :=
  h.storing.1

theorem go_bucket (c : LoopCfg) (b : Bucket) (s : St) (i : In) :
    (Stores c s i ∧ ∃ blob, dumpBlob c s = some blob ∧ (go c b s i).2 = b ++ [blob]) ∨
    (¬ Stores c s i ∧ (go c b s i).2 = b) := by
  have h := (go_seg c b s i Gh.init).bucket
  by_cases hs : Stores c s i
  · have ⟨⟨who, t, ts, snap, hpc⟩, _⟩ := hs
    rw [(storesB_iff c s i).mpr hs] at h
    have hd : dumpBlob c s = some { inst := c.own, ts := ts, snap := snap } := by
      unfold dumpBlob; rw [hpc]
    rw [hd] at h
    exact Or.inl ⟨hs, _, hd, h⟩
  · rw [Bool.eq_false_iff.mpr fun hb => hs ((storesB_iff c s i).mp hb)] at h
    exact Or.inr ⟨hs, by simpa using h⟩

/-- the segment after `SendOnce`'s transaction (not receive-only): the store, or the fatal error
    when the retry budget is exhausted -/
theorem go_store {who : Caller} {t ts : Nat} {snap : Snap} (hpc : s.pc = .sendAfterTxn who t ts snap)
    (hro : c.txn.receiveOnly = false) :
    go c b s i =
      if i.fails ≥ c.retryCount then ({ s with pc := .exited (.err "store") }, b)
      else ({ s with pc := .sendStored who (if s.env.lastTxn < t then s.env.lastTxn else t) },
            b ++ [{ inst := c.own, ts := ts, snap := snap }]) := by
  rw [go_eq, goRaw_sendAfterTxn hpc]
  simp only [hro, Bool.false_eq_true, if_false]
  split <;> rw [relist_of_ne_top (by simp)]

theorem go_pc (c : LoopCfg) (b : Bucket) (s : St) (i : In) :
    (go c b s i).1.pc = (goRaw c b s i).1.pc ∧ (go c b s i).1.waiting = (goRaw c b s i).1.waiting ∧
    (go c b s i).1.env = (goRaw c b s i).1.env ∧ (go c b s i).1.lastSynced = (goRaw c b s i).1.lastSynced := by
  rw [go_eq]
  unfold relist
  split <;> exact ⟨rfl, rfl, rfl, rfl⟩

/-- **How an instance leaves the waiting set** (after start-up): a `poll` found one of its
    snapshots in the bucket and began to load it, or `afterLoads` ran while the receiver no longer
    saw the instance. -/
theorem Seg.waiting_leave (h : Seg c b s i gh s' b' gh') {x : InstId} (hboot : s.pc ≠ .boot)
    (hx : x ∈ s.waiting) (hx' : x ∉ s'.waiting) :
    pollTarget b s i = some x ∨ (runsAfterLoads s i = true ∧ x ∉ s.seen) := by
  have hfil : ∀ inst, pollTarget b s i = some inst → x ∉ s.waiting.filter (· != inst) →
      pollTarget b s i = some x := by
    intro inst ht hx'
    by_cases hc : x = inst
    · rw [hc]; exact ht
    · exact absurd (List.mem_filter.mpr ⟨hx, by simpa using hc⟩) hx'
  cases h with
  | bootFailed _ _ hpc | booted _ hpc | bootDumped _ _ hpc => exact absurd hpc hboot
  | endLoads _ hr =>
    exact Or.inr ⟨hr, fun hs => hx' (List.mem_filter.mpr ⟨hx, by simpa using hs⟩)⟩
  | loadFailed inst _ _ ht => exact Or.inl (hfil inst ht hx')
  | loaded inst _ _ _ _ _ ht => exact Or.inl (hfil inst ht hx')
  | _ => exact absurd hx hx'

theorem Seg.waiting_shrinks (h : Seg c b s i gh s' b' gh') {x : InstId} (hboot : s.pc ≠ .boot)
    (hx : x ∈ s'.waiting) : x ∈ s.waiting := by
  cases h with
  | bootFailed _ _ hpc | booted _ hpc | bootDumped _ _ hpc => exact absurd hpc hboot
  | endLoads | loadFailed | loaded => exact (List.mem_filter.mp hx).1
  | _ => exact hx

/-- the start-up segment: the waiting set is what the listing showed, and a `SendOnce` happens
    only into an empty bucket from a non-empty LMDB -/
theorem Seg.boot (h : Seg c b s i gh s' b' gh') (hpc : s.pc = .boot) :
    s'.waiting = instancesOf b ∧
    ∀ who t ts snap, s'.pc = .sendAfterTxn who t ts snap → b = [] ∧ s.env.lastTxn > 0 ∧ who = .initial := by
  cases h with
  | bootFailed | booted => exact ⟨rfl, nofun⟩
  | bootDumped env r _ _ hs hb =>
    exact ⟨rfl, fun who _ _ _ h => ⟨hb, hs, by injection h with h; exact h.symm⟩⟩
  -- the other paths do not start at `boot`
  | _ => simp_all [InLoads]

/-- the segments that end in `afterSend` (the tail of an iteration) -/
def EndsIteration (c : LoopCfg) (s : St) : Prop :=
  s.pc = .beforeInfo ∨ (∃ t, s.pc = .sendStored .loop t) ∨
  (∃ t ts snap, s.pc = .sendAfterTxn .loop t ts snap ∧ c.txn.receiveOnly = true)

theorem tailPc_exit {w : List InstId} (h : tailPc c w = .exited .ok) : c.onlyOnce = true ∧ w = [] := by
  rcases tailPc_cases c w with e | ⟨_, h1, h2⟩
  · rw [e] at h; cases h
  · exact ⟨h1, h2⟩

/-- **The loop ends by itself only at the tail of an iteration, in only-once mode, with an empty
    waiting set.** -/
theorem Seg.exit_ok (h : Seg c b s i gh s' b' gh') (hne : s.pc ≠ .exited .ok) (he : s'.pc = .exited .ok) :
    c.onlyOnce = true ∧ s'.waiting = [] ∧ s.waiting = [] ∧ EndsIteration c s := by
  cases h with
  | noSend hpc | emptyGuard hpc =>
    obtain ⟨h1, h2⟩ := tailPc_exit he
    exact ⟨h1, h2, h2, Or.inl hpc⟩
  | roLoop t ts snap hpc hro =>
    obtain ⟨h1, h2⟩ := tailPc_exit he
    exact ⟨h1, h2, h2, Or.inr (Or.inr ⟨t, ts, snap, hpc, hro⟩)⟩
  | doneLoop t hpc =>
    obtain ⟨h1, h2⟩ := tailPc_exit he
    exact ⟨h1, h2, h2, Or.inr (Or.inl ⟨t, hpc⟩)⟩
  | stay => exact absurd he hne
  | _ => cases he

/-- the run-once exit invariant: once the loop has ended by itself, it was in only-once mode and
    the waiting set is empty -/
theorem exit_ok_run (c : LoopCfg) (env : Env) (b : Bucket) (evs : List Ev) :
    (run c env b evs).st.pc = .exited .ok →
      c.onlyOnce = true ∧ (run c env b evs).st.waiting = [] := by
  refine run_induct (c := c) (fun g => g.st.pc = .exited .ok → c.onlyOnce = true ∧ g.st.waiting = [])
    (fun h => by cases h) (fun g e ih => ?_) evs
  cases e with
  | go i =>
    intro he
    have hseg := go_seg c g.bucket g.st i g.gh
    by_cases hne : g.st.pc = .exited .ok
    · refine ⟨(ih hne).1, List.eq_nil_iff_forall_not_mem.mpr fun x hx => ?_⟩
      have := hseg.waiting_shrinks (by rw [hne]; nofun) hx
      rw [(ih hne).2] at this; cases this
    · obtain ⟨h1, h2, _⟩ := hseg.exit_ok hne he
      exact ⟨h1, h2⟩
  | app ops =>
    intro he
    obtain ⟨hpc, _, hw, _⟩ := appCommit_facts g.st ops
    show c.onlyOnce = true ∧ (appCommit g.st ops).waiting = []
    rw [hw]
    exact ih (by rw [← hpc]; exact he)
  | list => exact ih
  | others bs => exact ih

/-- `lastSynced` has caught up with `lastTxn` (and the loop is not in its send part) -/
def Caught (s : St) : Prop :=
  match s.pc with
  | .top => s.env.lastTxn ≤ s.lastSynced
  | .beforeInfo => s.env.lastTxn ≤ s.lastSynced
  | .sleep => s.env.lastTxn ≤ s.lastSynced
  | .loadAfterTxn t lc _ _ _ => lc = false ∧ s.env.lastTxn ≤ t
  | .exited _ => True
  | _ => False

instance (s : St) : Decidable (Caught s) := by unfold Caught; split <;> infer_instance

/-- nothing local to publish: `lastSynced` has caught up with `lastTxn` (`Caught`) and no
    snapshot is overdue (`storage_force_snapshot_interval`: the force flag is not armed) -/
def Synced (s : St) : Prop := Caught s ∧ s.forceArmed = false

instance (s : St) : Decidable (Synced s) := by unfold Synced; infer_instance

theorem caught_tail {s : St} (c : LoopCfg) (w : List InstId) (h : s.env.lastTxn ≤ s.lastSynced) :
    Caught { s with pc := tailPc c w } := by
  unfold Caught
  rcases tailPc_cases c w with e | ⟨e, _⟩ <;> simp only [e]
  exact h

/-- **Merging never triggers an upload.** From a state in which `lastSynced` has caught up, a
    segment — whatever the receiver hands over, whatever the snapshot contains — ends in such a
    state again and does not touch the bucket. -/
theorem Seg.synced (h : Seg c b s i gh s' b' gh') (hs : Synced s) : Synced s' ∧ b' = b := by
  obtain ⟨hc, hu⟩ := hs
  refine ⟨⟨?_, h.unarmed hu⟩, ?_⟩
  · have hload : InLoads s → s.env.lastTxn ≤ loadSynced s := by
      unfold Caught at hc
      unfold loadSynced
      rintro (hpc | ⟨t, lc, inst, ts, n, hpc⟩) <;> rw [hpc] at hc ⊢
      · exact hc
      · obtain ⟨rfl, hc⟩ := hc
        exact min_le_of hc
    cases h with
    | endLoads hl => exact hload hl
    | unknown | loadFailed | stay => trivial
    | loaded inst ts n blob r hl ht _ _ _ hload' =>
      obtain ⟨hL, hlc⟩ := loadOnce_facts hload'
      have := hload hl
      exact ⟨by rw [hlc]; simp; omega, by dsimp only; omega⟩
    | noSend hpc => unfold Caught at hc; rw [hpc] at hc; exact caught_tail c _ hc
    | emptyGuard hpc harm => rw [hu] at harm; cases harm
    | toSend hpc hgt =>
      unfold Caught at hc; rw [hpc] at hc
      rcases hgt with hgt | hgt
      · exact absurd hc (by omega)
      · rw [hu] at hgt; cases hgt
    | woke hpc => unfold Caught at hc; rw [hpc] at hc; exact hc
    | _ => unfold Caught at hc; rw [‹s.pc = _›] at hc; exact hc.elim
  · have hns : storesB c s i = false := storesB_of_not_send fun who t ts snap hp => by
      unfold Caught at hc; rw [hp] at hc; exact hc
    rw [h.bucket, hns]
    exact List.append_nil _

/-- the blobs other instances stored during a schedule -/
def othersOf : List Ev → List Blob
  | [] => []
  | .others bs :: es => bs ++ othersOf es
  | _ :: es => othersOf es

theorem recorded_false {s : St} {ops : List AppOp} (h : recorded s ops = false) :
    (appCommit s ops).env.lastTxn = s.env.lastTxn := by
  unfold recorded at h; simpa using h

/-- **No echo, as a statement about schedules.** From a state in which `lastSynced` has caught up,
    however long the loop runs, whatever snapshots it merges, whatever others store and however
    often the bucket is listed: as long as no application transaction is recorded, the loop
    stores nothing — the bucket grows by the others' blobs only. -/
theorem synced_run (c : LoopCfg) (g : G) (evs : List Ev) (hs : Synced g.st) (hna : NoAppFrom c g evs) :
    Synced (runFrom c g evs).st ∧ (runFrom c g evs).bucket = g.bucket ++ othersOf evs := by
  induction evs generalizing g with
  | nil => exact ⟨hs, (List.append_nil _).symm⟩
  | cons e es ih =>
    obtain ⟨h1, h2⟩ := hna
    have hstep : Synced (step c g e).st ∧ (step c g e).bucket ++ othersOf es = g.bucket ++ othersOf (e :: es) := by
      cases e with
      | go i =>
        obtain ⟨a, b⟩ := (go_seg c g.bucket g.st i g.gh).synced hs
        exact ⟨a, by show (go c g.bucket g.st i).2 ++ _ = _; rw [b]; rfl⟩
      | app ops =>
        refine ⟨?_, rfl⟩
        obtain ⟨hpc, hS, _⟩ := appCommit_facts g.st ops
        have hL := recorded_false h1
        show Synced (appCommit g.st ops)
        refine ⟨?_, (appCommit_force g.st ops).trans hs.2⟩
        have hs := hs.1
        unfold Caught at hs ⊢
        rw [hpc, hS, hL]; exact hs
      | list => exact ⟨hs, rfl⟩
      | others bs => exact ⟨hs, by show (g.bucket ++ bs) ++ _ = _; rw [List.append_assoc]; rfl⟩
    obtain ⟨a, b⟩ := ih (step c g e) hstep.1 h2
    exact ⟨a, by show (runFrom c (step c g e) es).bucket = _; rw [b, hstep.2]⟩

theorem receiveOnly_run (c : LoopCfg) (hro : c.txn.receiveOnly = true) (g : G) (evs : List Ev) :
    (runFrom c g evs).bucket = g.bucket ++ othersOf evs := by
  induction evs generalizing g with
  | nil => exact (List.append_nil _).symm
  | cons e es ih =>
    show (runFrom c (step c g e) es).bucket = _
    rw [ih]
    cases e with
    | go i =>
      show (go c g.bucket g.st i).2 ++ _ = _
      rw [(go_seg c g.bucket g.st i g.gh).bucket]
      simp [storesB, hro, othersOf]
    | app ops => rfl
    | list => rfl
    | others bs => show (g.bucket ++ bs) ++ _ = _; rw [List.append_assoc]; rfl

/-! ## the own-instance guard, for armed states too

  `Inv0` speaks about the schedules of `Ev`, which never arm the force flag. The start-up guard
  "no upload while the own instance is in the waiting set" must hold whether or not a snapshot is
  overdue (`storage_force_snapshot_interval` must not bypass it): it is an invariant of `go` from
  ARBITRARY states, of application transactions, listings and of the harness's arming. -/

/-- at the yield points of the send part the own instance is not waited for, and a start-up
    `SendOnce` has an empty waiting set -/
def OwnGuard (c : LoopCfg) (s : St) : Prop :=
  match s.pc with
  | .beforeSend => c.own ∉ s.waiting
  | .sendAfterTxn who _ _ _ => c.own ∉ s.waiting ∧ (who = .initial → s.waiting = [])
  | .sendStored who _ => c.own ∉ s.waiting ∧ (who = .initial → s.waiting = [])
  | _ => True

theorem Seg.ownGuard (h : Seg c b s i gh s' b' gh') (hg : OwnGuard c s) : OwnGuard c s' := by
  have htail : ∀ (s0 : St) w, OwnGuard c { s0 with pc := tailPc c w } := by
    intro s0 w
    unfold OwnGuard
    rcases tailPc_cases c w with e | ⟨e, _⟩ <;> simp only [e]
  unfold OwnGuard at hg
  cases h with
  | bootDumped env r hpc he hs hb => subst hb; exact ⟨List.not_mem_nil, fun _ => rfl⟩
  | toSend hpc hgt hown => exact hown
  | dumped r hpc => rw [hpc] at hg; exact ⟨hg, fun hc => (nomatch hc)⟩
  | stored who t ts snap hpc => rw [hpc] at hg; exact hg
  | noSend | emptyGuard | roLoop | doneLoop => exact htail _ _
  | stay e hpc => unfold OwnGuard; rw [hpc]; trivial
  | _ => trivial

/-- schedules with the harness's arming event ("loop.overdue"; here at ANY yield point, the
    harness arms only at `top` and `sleep`) -/
inductive EvA where
  | ev (e : Ev)
  | arm

def stepA (c : LoopCfg) (g : G) : EvA → G
  | .ev e => step c g e
  | .arm => { g with st := armForce g.st }

def runA (c : LoopCfg) (env : Env) (b : Bucket) (evs : List EvA) : G := evs.foldl (stepA c) (G.init env b)

theorem ownGuard_stepA {c : LoopCfg} {g : G} (h : OwnGuard c g.st) (e : EvA) : OwnGuard c (stepA c g e).st := by
  cases e with
  | arm => exact h
  | ev e =>
    cases e with
    | go i => exact (go_seg c g.bucket g.st i g.gh).ownGuard h
    | app ops =>
      obtain ⟨h1, _, h3, _⟩ := appCommit_facts g.st ops
      show OwnGuard c (appCommit g.st ops)
      unfold OwnGuard at h ⊢
      rw [h1, h3]; exact h
    | list => exact h
    | others bs => exact h

theorem ownGuard_runA (c : LoopCfg) (env : Env) (b : Bucket) (evs : List EvA) :
    OwnGuard c (runA c env b evs).st := by
  unfold runA
  have h0 : OwnGuard c (G.init env b).st := True.intro
  generalize G.init env b = g at h0
  induction evs generalizing g with
  | nil => exact h0
  | cons e es ih => exact ih _ (ownGuard_stepA h0 e)

theorem ownGuard_run (c : LoopCfg) (env : Env) (b : Bucket) (evs : List Ev) :
    OwnGuard c (run c env b evs).st := by
  have h := ownGuard_runA c env b (evs.map .ev)
  unfold runA at h
  rw [List.foldl_map] at h
  exact h

/-- the guard where it matters: no store while the own instance is waited for -/
theorem OwnGuard.stores {c : LoopCfg} {s : St} {i : In} (h : OwnGuard c s) (hst : Stores c s i) :
    c.own ∉ s.waiting ∧ ∀ t ts snap, s.pc = .sendAfterTxn .initial t ts snap → s.waiting = [] := by
  obtain ⟨⟨who, t, ts, snap, hpc⟩, _⟩ := hst
  unfold OwnGuard at h
  rw [hpc] at h ⊢
  exact ⟨h.1, fun _ _ _ hp => h.2 (by injection hp)⟩

theorem OwnGuard.send_part {c : LoopCfg} {s : St} (h : OwnGuard c s)
    (hpc : s.pc = .beforeSend ∨ (∃ who t ts snap, s.pc = .sendAfterTxn who t ts snap) ∨
      ∃ who t, s.pc = .sendStored who t) : c.own ∉ s.waiting := by
  unfold OwnGuard at h
  rcases hpc with hp | ⟨who, t, ts, snap, hp⟩ | ⟨who, t, hp⟩ <;> rw [hp] at h
  · exact h
  · exact h.1
  · exact h.1

/-- **Native schema: the only Lightning Stream transaction that writes is `LoadOnce`.** A segment
    of a native-schema instance leaves the environment as it is (the start-up capture does not
    exist, `SendOnce` uses a read transaction), or the environment is the result of one successful
    `loadOnce` (cut-off 0) of a blob of the bucket. -/
theorem Seg.env_native (h : Seg c b s i gh s' b' gh') (hn : c.txn.native = true) :
    s'.env = s.env ∨
    ∃ blob r, blob ∈ b ∧ loadOnce c.txn s.env blob.snap (loadSynced s) i.now 0 = .ok r ∧ s'.env = r.env := by
  cases h with
  | bootFailed env _ hpc he => exact Or.inl (he.elim id fun he => startCapture_native he hn)
  | booted env hpc he => exact Or.inl (startCapture_native he hn)
  | bootDumped env r hpc he hs hb hr =>
    exact Or.inl ((sendOnce_native hr hn).trans (startCapture_native he hn))
  | dumped r hpc hr => exact Or.inl (sendOnce_native hr hn)
  | loaded inst ts n blob r hl ht _ _ hb hload =>
    exact Or.inr ⟨blob, r, List.mem_of_find?_eq_some hb, hload, rfl⟩
  | _ => exact Or.inl rfl

end Ls.Loop
