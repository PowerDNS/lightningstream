import LsLemmas.RecvStep
/-
  Receiver model: token conservation is an inductive invariant. Core Lean only.
-/
namespace Ls.Recv
variable {ι : Type} [DecidableEq ι]

/-- downloaders that hold a download token -/
def dlHeld (s : St ι) : Nat := AL.count (fun x : Dl => x.pc.hasDl) s.dls
/-- downloaders that hold a decompress token not yet attached to an `Update` -/
def dcHeld (s : St ι) : Nat := AL.count (fun x : Dl => x.pc.hasDc) s.dls

@[simp] theorem hasDl_idle : Pc.hasDl .idle = false := rfl
@[simp] theorem hasDl_check : Pc.hasDl .check = false := rfl
@[simp] theorem hasDl_wantDl (t : Nat) : Pc.hasDl (.wantDl t) = false := rfl
@[simp] theorem hasDl_loading (t : Nat) : Pc.hasDl (.loading t) = true := rfl
@[simp] theorem hasDl_wantDc (t : Nat) (b : Bool) : Pc.hasDl (.wantDc t b) = true := rfl
@[simp] theorem hasDl_decoding (t : Nat) (b : Bool) : Pc.hasDl (.decoding t b) = true := rfl
@[simp] theorem hasDl_backoff : Pc.hasDl .backoff = false := rfl
@[simp] theorem hasDc_idle : Pc.hasDc .idle = false := rfl
@[simp] theorem hasDc_check : Pc.hasDc .check = false := rfl
@[simp] theorem hasDc_wantDl (t : Nat) : Pc.hasDc (.wantDl t) = false := rfl
@[simp] theorem hasDc_loading (t : Nat) : Pc.hasDc (.loading t) = false := rfl
@[simp] theorem hasDc_wantDc (t : Nat) (b : Bool) : Pc.hasDc (.wantDc t b) = false := rfl
@[simp] theorem hasDc_decoding (t : Nat) (b : Bool) : Pc.hasDc (.decoding t b) = true := rfl
@[simp] theorem hasDc_backoff : Pc.hasDc .backoff = false := rfl

/-- 1 if the consumer holds an update -/
def held : Option (ι × Nat) → Nat
  | none => 0
  | some _ => 1

structure Inv (s : St ι) : Prop where
  nodup : (s.dls.map Prod.fst).Nodup
  tokDl : s.dlFree + dlHeld s = s.dlLimit
  tokDc : s.dcFree + dcHeld s + s.pending.length + held s.holding = s.dcLimit

omit [DecidableEq ι] in
theorem inv_init (own : ι) (a b : Nat) : Inv (init own a b) := by
  constructor <;> simp [init, dlHeld, dcHeld, AL.count, held]

theorem cnt_set (p : Pc → Bool) {s : St ι} {d : ι} {y : Dl} (hy : getDl s d = some y) (y' : Dl) :
    AL.count (fun z : Dl => p z.pc) (AL.set s.dls d y') + (if p y.pc then 1 else 0)
      = AL.count (fun z : Dl => p z.pc) s.dls + (if p y'.pc then 1 else 0) := by
  have := AL.count_set (fun z : Dl => p z.pc) s.dls d y'
  rwa [show AL.get s.dls d = some y from hy] at this

theorem Move.tok {s : St ι} {d : ι} {y y' : Dl} {x : Step ι} {a b : Nat} (m : Move s d y x y' a b) :
    a + (if y'.pc.hasDl then 1 else 0) = s.dlFree + (if y.pc.hasDl then 1 else 0) ∧
    b + (if y'.pc.hasDc then 1 else 0) = s.dcFree + (if y.pc.hasDc then 1 else 0) := by
  cases m <;> simp [*] <;> omega

/-- Every step keeps one downloader per instance and conserves, for each limit, free tokens plus
    tokens in use. -/
theorem step_tokens {s s' : St ι} {x : Step ι} (h : step s x = some s') :
    ((s.dls.map Prod.fst).Nodup → (s'.dls.map Prod.fst).Nodup) ∧
    s'.dlFree + dlHeld s' = s.dlFree + dlHeld s ∧
    s'.dcFree + dcHeld s' + s'.pending.length + held s'.holding =
      s.dcFree + dcHeld s + s.pending.length + held s.holding := by
  unfold dlHeld dcHeld
  cases step_trans h with
  | list inc hr =>
    have h0 := runOnce_nodup inc s
    have h1 := runOnce_count inc Pc.hasDl rfl s
    have h2 := runOnce_count inc Pc.hasDc rfl s
    rw [hr] at h0 h1 h2
    exact ⟨h0, congrArg _ h1, by simp only [h2]⟩
  | skip | put | rm => exact ⟨id, rfl, rfl⟩
  | @move d y _ y' a b hy m =>
    have c1 := cnt_set Pc.hasDl hy y'
    have c2 := cnt_set Pc.hasDc hy y'
    have := m.tok
    exact ⟨(AL.nodup_set · _ _), by simp only; omega, by simp only; omega⟩
  | @decodeBad d y t hy hpc =>
    have c1 := cnt_set Pc.hasDl hy { y with last := some t, pc := .backoff }
    have c2 := cnt_set Pc.hasDc hy { y with last := some t, pc := .backoff }
    simp [hpc] at c1 c2
    exact ⟨(AL.nodup_set · _ _), by simp only; omega, by simp only; omega⟩
  | @decodeGood d y t hy hpc =>
    have c1 := cnt_set Pc.hasDl hy { y with last := some t, pc := .idle }
    have c2 := cnt_set Pc.hasDc hy { y with last := some t, pc := .idle }
    have := AL.length_set s.pending d t
    simp [hpc] at c1 c2
    exact ⟨(AL.nodup_set · _ _), by simp only; omega, by simp only; omega⟩
  | next hh hp =>
    have := AL.length_erase hp
    exact ⟨id, rfl, by simp only [hh, held]; omega⟩
  | close hh => exact ⟨id, rfl, by simp only [hh, held]; omega⟩

theorem inv_step {s s' : St ι} {x : Step ι} (hi : Inv s) (h : step s x = some s') : Inv s' := by
  obtain ⟨hn, h1, h2⟩ := step_tokens h
  obtain ⟨_, l1, l2⟩ := step_own h
  exact ⟨hn hi.nodup, by rw [h1, l1]; exact hi.tokDl, by rw [h2, l2]; exact hi.tokDc⟩

end Ls.Recv
