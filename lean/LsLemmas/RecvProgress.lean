import LsLemmas.RecvDeliver
/-
  Receiver model: deadlock freedom (some fault-free step of a downloader or of the consumer is
  enabled whenever anything is unfinished) and termination of fault-free runs (a measure that
  every fault-free step decreases), hence: a finite fault-free continuation to a state at rest.
  Core Lean only.
-/
namespace Ls.Recv
variable {ι : Type} [DecidableEq ι]

/-- the fault-free steps of the downloaders and of the consumer (no listing, no failed load, no
    environment step) -/
def Step.fair : Step ι → Bool
  | .wake _ | .check _ | .acqDl _ | .acqDc _ | .decode _ | .retry _ | .next _ | .close => true
  | .load _ r => r != .fail
  | _ => false

theorem enabled_decode {s : St ι} {d : ι} {x : Dl} {t : Nat} {bad : Bool} (hx : getDl s d = some x)
    (hpc : x.pc = .decoding t bad) : ∃ y : Step ι, y.fair = true ∧ (step s y).isSome :=
  ⟨.decode d, rfl, by cases bad <;> simp [step, hx, hpc]⟩

theorem enabled_consumer (s : St ι) :
    (∃ x : Step ι, x.fair = true ∧ (step s x).isSome) ∨ s.pending = [] ∧ s.holding = none := by
  cases hh : s.holding with
  | some n => exact Or.inl ⟨.close, rfl, by simp [step, hh]⟩
  | none =>
    cases hp : s.pending with
    | nil => exact Or.inr ⟨rfl, rfl⟩
    | cons e r => exact Or.inl ⟨.next e.1, rfl, by simp [step, hh, hp, AL.get]⟩

/-- a downloader waiting for a decompress token is not stuck: a token is free, or the consumer
    can release one, or all are held by downloaders in `LoadData` -/
theorem enabled_wantDc {s : St ι} (hi : Inv s) (h2 : 1 ≤ s.dcLimit) {d : ι} {x : Dl} {t : Nat} {bad : Bool}
    (hx : getDl s d = some x) (hpc : x.pc = .wantDc t bad) :
    ∃ x : Step ι, x.fair = true ∧ (step s x).isSome := by
  by_cases hf : 0 < s.dcFree
  · exact ⟨.acqDc d, rfl, by simp [step, hx, hpc, hf]⟩
  rcases enabled_consumer s with h | ⟨hp, hh⟩
  · exact h
  have := hi.tokDc
  rw [hp, hh] at this
  obtain ⟨k, v, hg, hv⟩ := AL.get_of_count_pos (p := fun x : Dl => x.pc.hasDc) hi.nodup
    (by simp [held, dcHeld] at this; omega)
  cases hpc : v.pc with
  | decoding t bad => exact enabled_decode hg hpc
  | _ => simp [hpc, Pc.hasDc] at hv

/-- Deadlock freedom: whenever a downloader is busy, a snapshot is pending or the consumer holds
    one, a fault-free step of a downloader or of the consumer is enabled. -/
theorem progress_enabled {s : St ι} (hi : Inv s) (h1 : 1 ≤ s.dlLimit) (h2 : 1 ≤ s.dcLimit)
    (hw : (∃ d x, getDl s d = some x ∧ x.busy = true) ∨ s.pending ≠ [] ∨ s.holding ≠ none) :
    ∃ x : Step ι, x.fair = true ∧ (step s x).isSome := by
  have holder : ∀ k v, getDl s k = some v → v.pc.hasDl = true → ∃ x : Step ι, x.fair = true ∧ (step s x).isSome := by
    intro k v hg hv
    cases hpc : v.pc with
    | decoding t bad => exact enabled_decode hg hpc
    | wantDc t bad => exact enabled_wantDc hi h2 hg hpc
    | loading t =>
      cases hb : hasBlob s k t with
      | none => exact ⟨.load k .notFound, rfl, by simp [step, hg, hpc, hb]⟩
      | some b => exact ⟨.load k .ok, rfl, by simp [step, hg, hpc, hb]⟩
    | _ => simp [hpc, Pc.hasDl] at hv
  rcases hw with ⟨d, x, hx, hb⟩ | hc
  · cases hpc : x.pc with
    | idle => exact ⟨.wake d, rfl, by simpa [step, hx, hpc, Dl.busy] using hb⟩
    | check =>
      refine ⟨.check d, rfl, ?_⟩
      simp only [step, hx, hpc, if_true]
      split
      · rfl
      · split <;> rfl
    | wantDl t =>
      by_cases hf : 0 < s.dlFree
      · exact ⟨.acqDl d, rfl, by simp [step, hx, hpc, hf]⟩
      · have := hi.tokDl
        obtain ⟨k, v, hg, hv⟩ := AL.get_of_count_pos (p := fun x : Dl => x.pc.hasDl) hi.nodup
          (by unfold dlHeld at this; omega)
        exact holder k v hg hv
    | backoff => exact ⟨.retry d, rfl, by simp [step, hx, hpc]⟩
    | _ => exact holder d x hx (by rw [hpc]; rfl)
  · exact (enabled_consumer s).elim id fun ⟨hp, hh⟩ => hc.elim (absurd hp) (absurd hh)

/-! ### a measure that every fault-free step decreases -/

namespace AL
variable {κ : Type} [DecidableEq κ] {α : Type}

def sum (f : κ → α → Nat) : List (κ × α) → Nat
  | [] => 0
  | (k, v) :: r => f k v + sum f r

theorem sum_set_some (f : κ → α → Nat) {l : List (κ × α)} {k : κ} {v : α} (v' : α) (h : get l k = some v) :
    sum f (set l k v') + f k v = sum f l + f k v' := by
  induction l with
  | nil => cases h
  | cons e r ih =>
    obtain ⟨k0, v0⟩ := e
    by_cases h0 : k0 = k
    · subst h0
      simp only [get, if_true, Option.some.injEq] at h; subst h
      simp only [set, if_true, sum]; omega
    · simp only [get, h0, if_false] at h
      have := ih h
      simp only [set, h0, if_false, sum]; omega

end AL

/-- Position of a downloader in its cycle, counted down along
    `backoff → check → wantDl → loading → wantDc → decoding → idle`; see `mu` for the gaps. -/
def rank : Pc → Nat
  | .idle => 0
  | .decoding .. => 3
  | .wantDc .. => 4
  | .loading _ => 5
  | .wantDl _ => 6
  | .check => 7
  | .backoff => 8

/-- 1 if the downloader works on a name that is not in the bucket -/
def staleB (bk : List (Blob ι)) (d : ι) (x : Dl) : Nat :=
  match x.pc.ts? with
  | some t => if (bk.find? (fun b => b.name = (d, t))).isSome then 0 else 1
  | none => 0

/-- weight of one downloader in `mu` -/
def wDl (bk : List (Blob ι)) (d : ι) (x : Dl) : Nat :=
  6 * staleB bk d x + (if x.signal then 9 else 0) + rank x.pc

/-- blobs whose name is not marked corrupt -/
def freshCount (bk : List (Blob ι)) (cor : List (ι × Nat)) : Nat := (bk.filter (fun b => b.name ∉ cor)).length

/-- The measure every fault-free step decreases (`mu_decreases`) while the bucket and the listing
    stand still. A step along the cycle lowers `rank` by at least 1. The other weights pay for the
    steps that climb:
    * `wake` goes from `idle` (0) up to `check` (7) and consumes the signal: a signal weighs 9 > 7;
    * a good `decode` leaves `decoding` (3) for `idle` and may add a pending entry: an entry weighs
      2 < 3; `next` turns an entry (2) into a held update (1), `close` drops the held update;
    * the two ways into `backoff` (8): a load that finds the blob gone, from `loading` (+3), is paid
      by the name no longer being stale; a corrupt `decode`, from `decoding` (+5), is paid by the
      stale name or, if the blob is there, by that blob no longer being fresh (it is marked corrupt
      in the same step): stale names and fresh blobs weigh 6 > 5.
    A downloader never starts on a stale name (`SeenInBucket`), so staleness is never bought. -/
def mu (s : St ι) : Nat :=
  6 * freshCount s.bucket s.corrupt + AL.sum (wDl s.bucket) s.dls
    + 2 * s.pending.length + held s.holding

/-- every name in `lastSeen` is in the bucket (true after a listing until the bucket changes) -/
def SeenInBucket (s : St ι) : Prop := ∀ d t, AL.get s.lastSeen d = some t → (hasBlob s d t).isSome = true

theorem freshCount_mono {bk : List (Blob ι)} {cor cor' : List (ι × Nat)} (hsub : ∀ n ∈ cor, n ∈ cor') :
    freshCount bk cor' ≤ freshCount bk cor ∧
    ∀ b ∈ bk, b.name ∉ cor → b.name ∈ cor' → freshCount bk cor' < freshCount bk cor := by
  have e : bk.filter (fun b => b.name ∉ cor') =
      (bk.filter (fun b => b.name ∉ cor)).filter (fun b => b.name ∉ cor') := by
    rw [List.filter_filter]
    refine List.filter_congr fun x _ => ?_
    by_cases h : x.name ∈ cor <;> simp [h, hsub]
  unfold freshCount
  rw [e]
  exact ⟨List.length_filter_le .., fun b hb h1 h2 => List.length_filter_lt_length_iff_exists.mpr
    ⟨b, List.mem_filter.mpr ⟨hb, by simpa using h1⟩, by simpa using h2⟩⟩

theorem Move.wDl_lt {s : St ι} {d : ι} {y y' : Dl} {x : Step ι} {a b : Nat} (m : Move s d y x y' a b)
    (hsb : SeenInBucket s) (hf : x.fair = true) : wDl s.bucket d y' < wDl s.bucket d y := by
  cases m with
  | want hpc h hl =>
    have := hsb d _ h
    simp [wDl, staleB, rank, Pc.ts?, hpc, show (s.bucket.find? _).isSome = true from this]
  | loadErr hpc hr =>
    rcases hr with rfl | ⟨rfl, hb⟩
    · cases hf
    · simp [wDl, staleB, rank, Pc.ts?, hpc, show s.bucket.find? _ = none from hb]; omega
  | _ => simp [wDl, staleB, rank, Pc.ts?, *]

theorem mu_decreases {s s' : St ι} {x : Step ι} (hk : InvK s) (hsb : SeenInBucket s) (hf : x.fair = true)
    (h : step s x = some s') : mu s' < mu s := by
  cases step_trans h with
  | list | skip | put | rm => cases hf
  | @move d y _ y' _ _ hy m =>
    have := AL.sum_set_some (wDl s.bucket) y' hy
    have := m.wDl_lt hsb hf
    simp only [mu]; omega
  | @decodeBad d y t hy hpc =>
    have hs := AL.sum_set_some (wDl s.bucket) { y with last := some t, pc := .backoff } hy
    have hnc : (d, t) ∉ s.corrupt := fun hc => hk.k3 d t y hc hy (by rw [hpc]; rfl)
    obtain ⟨hle, hlt⟩ := freshCount_mono (bk := s.bucket) (cor := s.corrupt) (cor' := insertName s.corrupt (d, t))
      fun n hn => mem_insertName.mpr (Or.inl hn)
    simp only [mu]
    -- the rank goes up by 5; either the name was stale (6 less) or its blob is no longer fresh
    cases hb : s.bucket.find? (fun b => b.name = (d, t)) with
    | none =>
      simp [wDl, staleB, hpc, rank, Pc.ts?, hb] at hs
      omega
    | some b =>
      obtain ⟨hbm, hbn⟩ := hasBlob_some (s := s) hb
      have := hlt b hbm (hbn ▸ hnc) (hbn ▸ mem_insertName.mpr (Or.inr rfl))
      simp [wDl, staleB, hpc, rank, Pc.ts?, hb] at hs
      omega
  | @decodeGood d y t hy hpc =>
    have hs := AL.sum_set_some (wDl s.bucket) { y with last := some t, pc := .idle } hy
    have := AL.length_set s.pending d t
    simp [wDl, staleB, hpc, rank, Pc.ts?] at hs
    simp only [mu]; omega
  | next hh hp =>
    have := AL.length_erase hp
    simp only [mu, hh, held]; omega
  | close hh => simp only [mu, hh, held]; omega

/-- nothing is in flight: every downloader is parked with an empty signal channel, nothing is
    pending, the consumer holds nothing -/
def AtRest (s : St ι) : Prop :=
  (∀ d x, getDl s d = some x → x.busy = false) ∧ s.pending = [] ∧ s.holding = none

theorem fair_frame {s s' : St ι} {x : Step ι} (hf : x.fair = true) (h : step s x = some s') :
    s'.bucket = s.bucket ∧ s'.lastSeen = s.lastSeen ∧ s'.ignored = s.ignored := by
  cases step_trans h with
  | list | skip | put | rm => cases hf
  | _ => exact ⟨rfl, rfl, rfl⟩

theorem seenInBucket_fair {s s' : St ι} {x : Step ι} (hsb : SeenInBucket s) (hf : x.fair = true)
    (h : step s x = some s') : SeenInBucket s' := by
  obtain ⟨hb, hs, _⟩ := fair_frame hf h
  intro d t ht
  rw [hs] at ht
  rw [hasBlob, hb]; exact hsb d t ht

theorem seenInBucket_runOnce (inc : Bool) (s : St ι) : SeenInBucket (runOnce inc s) := by
  intro d t ht
  rw [runOnce_frame] at ht ⊢
  obtain ⟨⟨b, hb, hbn⟩, _⟩ := seenOf_some.mp ht
  cases hf : hasBlob s d t with
  | some _ => exact congrArg Option.isSome hf
  | none => exact absurd hbn (hasBlob_none hf b hb)

/-- From a state whose `lastSeen` names are all in the bucket, some finite sequence of fault-free
    downloader and consumer steps leads to a state at rest. -/
theorem reach_rest {s : St ι} (hi : Inv s) (hk : InvK s) (hsb : SeenInBucket s)
    (h1 : 1 ≤ s.dlLimit) (h2 : 1 ≤ s.dcLimit) :
    ∃ steps s', (∀ x ∈ steps, x.fair = true) ∧ run s steps = some s' ∧ AtRest s' := by
  generalize hn : mu s = n
  induction n using Nat.strongRecOn generalizing s with
  | _ n ih =>
    by_cases hw : (∃ d x, getDl s d = some x ∧ x.busy = true) ∨ s.pending ≠ [] ∨ s.holding ≠ none
    · obtain ⟨x, hf, he⟩ := progress_enabled hi h1 h2 hw
      obtain ⟨s1, hs1⟩ := Option.isSome_iff_exists.mp he
      obtain ⟨_, l1, l2⟩ := step_own hs1
      obtain ⟨steps, s', hfs, hr, hrest⟩ := ih _ (hn ▸ mu_decreases hk hsb hf hs1) (inv_step hi hs1)
        (invK_step hk hs1) (seenInBucket_fair hsb hf hs1) (l1 ▸ h1) (l2 ▸ h2) rfl
      exact ⟨x :: steps, s', List.forall_mem_cons.mpr ⟨hf, hfs⟩, by simp only [run, hs1]; exact hr, hrest⟩
    · exact ⟨[], s, nofun, rfl, fun d x hx => Bool.eq_false_iff.mpr fun hb => hw (.inl ⟨d, x, hx, hb⟩),
        Classical.not_not.mp fun e => hw (.inr (.inl e)), Classical.not_not.mp fun e => hw (.inr (.inr e))⟩

end Ls.Recv
