import LsLemmas.AbsFleet
/-
  The invariant behind C01_content_is_written / C01_winner on the abstract fleet: along every
  monotone schedule the fleet stays well-formed, nothing is invented and nothing written is lost.
  Then how a concrete system is shown to run such schedules: `StepsWF` and `MonotoneFrom` of a
  concatenation, and `run_refines`, which lifts a per-step simulation to whole runs.
-/
namespace Ls.Abs
open Ls

/-- the writes of a schedule: (instance, key, version), in schedule order -/
def writesOf : List Step → List (Nat × Key × Ver)
  | [] => []
  | .write i k v :: rest => (i, k, v) :: writesOf rest
  | _ :: rest => writesOf rest

/-- an application never overwrites a key with a version that loses against what its own
    instance holds (what a native application stamping the current time does, and what the
    non-native capture does under the shared monotone clock) -/
def MonotoneFrom (f : Fleet) : List Step → Prop
  | [] => True
  | s :: rest =>
    (match s with
     | .write i k v => join (f.db i k) (some v) = some v
     | _ => True) ∧ MonotoneFrom (step f s) rest

/-- the invariant carried along a schedule: well-formed, nothing invented, nothing written lost -/
structure Inv (f : Fleet) (W : List (Nat × Key × Ver)) : Prop where
  wf : FleetWF f
  dbFrom : ∀ i k v, f.db i k = some v → ∃ i', (i', k, v) ∈ W
  snapFrom : ∀ p ∈ f.bucket, ∀ k v, p.2 k = some v → ∃ i', (i', k, v) ∈ W
  kept : ∀ i k v, (i, k, v) ∈ W → join (some v) (f.db i k) = f.db i k
  wWF : ∀ i k v, (i, k, v) ∈ W → v.WF

/-- `Inv f W` speaks of `W` through membership only -/
theorem Inv.congr {f : Fleet} {W W' : List (Nat × Key × Ver)} (h : Inv f W)
    (hW : ∀ x, x ∈ W ↔ x ∈ W') : Inv f W' :=
  ⟨h.wf, fun i k v e => (h.dbFrom i k v e).imp fun _ => (hW _).mp,
   fun p hp k v e => (h.snapFrom p hp k v e).imp fun _ => (hW _).mp,
   fun i k v m => h.kept i k v ((hW _).mpr m), fun i k v m => h.wWF i k v ((hW _).mpr m)⟩

theorem inv_write {f : Fleet} {W : List (Nat × Key × Ver)} (h : Inv f W) (i : Nat) (k : Key) (v : Ver)
    (hs : v.WF) (hm : join (f.db i k) (some v) = some v) :
    Inv (step f (.write i k v)) ((i, k, v) :: W) := by
  have hwf' : FleetWF (step f (.write i k v)) := step_wf h.wf hs
  refine ⟨hwf', ?_, ?_, ?_, ?_⟩
  · intro j k' v' hv'
    simp only [step] at hv'
    by_cases hj : j = i
    · rw [if_pos hj] at hv'
      by_cases hk : k' = k
      · subst hk; rw [upd_same] at hv'; injection hv' with hv'; subst hv'
        exact ⟨i, by simp⟩
      · rw [upd_other _ _ _ _ hk] at hv'
        obtain ⟨i', hi'⟩ := h.dbFrom i k' v' hv'; exact ⟨i', by simp [hi']⟩
    · rw [if_neg hj] at hv'
      obtain ⟨i', hi'⟩ := h.dbFrom j k' v' hv'; exact ⟨i', by simp [hi']⟩
  · intro p hp k' v' hv'
    obtain ⟨i', hi'⟩ := h.snapFrom p hp k' v' hv'; exact ⟨i', by simp [hi']⟩
  · intro j k' v' hmem
    simp only [step]
    rcases List.mem_cons.mp hmem with heq | hold
    · injection heq with h1 h2; injection h2 with h2 h3
      subst h1; subst h2; subst h3
      rw [if_pos rfl, upd_same, join_idem]
    · by_cases hj : j = i
      · subst hj
        rw [if_pos rfl]
        by_cases hk : k' = k
        · subst hk
          rw [upd_same]
          rw [← hm, ← join_assoc, h.kept j k' v' hold]
        · rw [upd_other _ _ _ _ hk]; exact h.kept j k' v' hold
      · rw [if_neg hj]; exact h.kept j k' v' hold
  · intro j k' v' hmem
    rcases List.mem_cons.mp hmem with heq | hold
    · injection heq with h1 h2; injection h2 with h2 h3; subst h3; exact hs
    · exact h.wWF j k' v' hold

theorem inv_send {f : Fleet} {W : List (Nat × Key × Ver)} (h : Inv f W) (i : Nat) :
    Inv (step f (.send i)) W := by
  have hwf' : FleetWF (step f (.send i)) := step_wf h.wf trivial
  refine ⟨hwf', h.dbFrom, ?_, h.kept, h.wWF⟩
  intro p hp k v hv
  simp only [step, List.mem_append, List.mem_singleton] at hp
  rcases hp with hp | hp
  · exact h.snapFrom p hp k v hv
  · subst hp; exact h.dbFrom i k v hv

theorem inv_load {f : Fleet} {W : List (Nat × Key × Ver)} (h : Inv f W) (i idx : Nat) :
    Inv (step f (.load i idx)) W := by
  have hwf' : FleetWF (step f (.load i idx)) := step_wf h.wf trivial
  simp only [step] at hwf' ⊢
  split
  · exact h
  · rename_i j s hget
    rw [hget] at hwf'
    have hmemb := List.mem_of_getElem? hget
    refine ⟨hwf', ?_, h.snapFrom, ?_, h.wWF⟩
    · intro j' k v hv
      simp only at hv
      by_cases hj : j' = i
      · rw [if_pos hj] at hv
        simp only [DB.join] at hv
        rcases join_cases (f.db i k) (s k) with hc | hc
        · rw [hc] at hv; exact h.dbFrom i k v hv
        · rw [hc] at hv; exact h.snapFrom _ hmemb k v hv
      · rw [if_neg hj] at hv; exact h.dbFrom j' k v hv
    · intro j' k v hmem
      simp only
      by_cases hj : j' = i
      · subst hj
        rw [if_pos rfl]
        simp only [DB.join]
        rw [← join_assoc, h.kept j' k v hmem]
      · rw [if_neg hj]; exact h.kept j' k v hmem

/-- the invariant holds along every monotone schedule of well-formed writes -/
theorem inv_run {f : Fleet} {W : List (Nat × Key × Ver)} (steps : List Step) (h : Inv f W)
    (hs : StepsWF steps) (hm : MonotoneFrom f steps) :
    Inv (run f steps) (writesOf steps ++ W) := by
  induction steps generalizing f W with
  | nil => exact h
  | cons s rest ih =>
    have hs' : StepsWF rest := fun s' h' => hs s' (List.mem_cons_of_mem _ h')
    have hs0 := hs s (List.mem_cons_self ..)
    cases s with
    | write i k v =>
      exact (ih (inv_write h i k v hs0 hm.1) hs' hm.2).congr fun x => by
        simp only [writesOf, List.cons_append, List.mem_append, List.mem_cons, or_left_comm]
    | send i => exact ih (inv_send h i) hs' hm.2
    | load i idx => exact ih (inv_load h i idx) hs' hm.2

theorem init_inv (n : Nat) : Inv (init n) [] :=
  ⟨init_wf n, fun _ _ _ h => (nomatch h), fun _ h => (nomatch h),
   fun _ _ _ h => (nomatch h), fun _ _ _ h => (nomatch h)⟩

theorem inv_run_init (n : Nat) (steps : List Step) (hs : StepsWF steps)
    (hm : MonotoneFrom (init n) steps) : Inv (run (init n) steps) (writesOf steps) :=
  (inv_run steps (init_inv n) hs hm).congr fun _ => by rw [List.append_nil]

theorem monotoneFrom_append (f : Fleet) (a b : List Step) :
    MonotoneFrom f (a ++ b) ↔ MonotoneFrom f a ∧ MonotoneFrom (run f a) b := by
  induction a generalizing f with
  | nil => simp [MonotoneFrom, run]
  | cons s rest ih =>
    simp only [List.cons_append, MonotoneFrom, ih, run, List.foldl_cons]
    exact ⟨fun ⟨h1, h2, h3⟩ => ⟨⟨h1, h2⟩, h3⟩, fun ⟨⟨h1, h2⟩, h3⟩ => ⟨h1, h2, h3⟩⟩

theorem stepsWF_append (a b : List Step) : StepsWF (a ++ b) ↔ StepsWF a ∧ StepsWF b := by
  unfold StepsWF
  constructor
  · intro h
    exact ⟨fun s hs => h s (List.mem_append_left _ hs), fun s hs => h s (List.mem_append_right _ hs)⟩
  · rintro ⟨h1, h2⟩ s hs
    rcases List.mem_append.mp hs with hs | hs
    · exact h1 s hs
    · exact h2 s hs

theorem refines_nil (F : Fleet) : F = run F [] ∧ StepsWF [] ∧ MonotoneFrom F [] :=
  ⟨rfl, fun _ h => (nomatch h), trivial⟩

/-- **per-step simulation ⇒ run simulation**, for any transition system `step` on states `σ` with
    an abstraction `abs` to the abstract fleet. If every step that satisfies its side condition
    `ok` keeps the invariant and maps to the abstract steps `one f s` — well-formed, monotone, with
    some further property `Q` —, then a run whose steps satisfy their side conditions in the
    states they are applied to (`Ok`) maps to the run of the concatenated abstract steps (`sched`),
    which is well-formed and monotone, and `Q` holds along the run (`AllQ`). The schedule, `Ok`
    and `AllQ` are given by their unfolding equations. -/
theorem run_refines {σ ι : Type} {step : σ → ι → σ} {abs : σ → Fleet} {one : σ → ι → List Step}
    {Inv : σ → Prop} {ok Q : σ → ι → Prop}
    (hstep : ∀ f s, Inv f → ok f s → Inv (step f s) ∧ abs (step f s) = run (abs f) (one f s) ∧
      StepsWF (one f s) ∧ MonotoneFrom (abs f) (one f s) ∧ Q f s)
    {sched : σ → List ι → List Step} (hs0 : ∀ f, sched f [] = [])
    (hs1 : ∀ f s r, sched f (s :: r) = one f s ++ sched (step f s) r)
    {Ok AllQ : σ → List ι → Prop} (hok : ∀ f s r, Ok f (s :: r) → ok f s ∧ Ok (step f s) r)
    (hq0 : ∀ f, AllQ f []) (hq1 : ∀ f s r, Q f s → AllQ (step f s) r → AllQ f (s :: r)) :
    ∀ steps f, Inv f → Ok f steps →
      abs (steps.foldl step f) = run (abs f) (sched f steps) ∧ Inv (steps.foldl step f) ∧
      StepsWF (sched f steps) ∧ MonotoneFrom (abs f) (sched f steps) ∧ AllQ f steps := by
  intro steps
  induction steps with
  | nil => intro f hinv _; rw [hs0]; exact ⟨rfl, hinv, fun _ h => (nomatch h), trivial, hq0 f⟩
  | cons s rest ih =>
    intro f hinv h
    obtain ⟨hs, hrest⟩ := hok f s rest h
    obtain ⟨hinv', hrun, hwf, hmono, hq⟩ := hstep f s hinv hs
    obtain ⟨ih1, ih2, ih3, ih4, ih5⟩ := ih (step f s) hinv' hrest
    rw [hs1, run_append, ← hrun]
    exact ⟨ih1, ih2, (stepsWF_append _ _).mpr ⟨hwf, ih3⟩,
      (monotoneFrom_append _ _ _).mpr ⟨hmono, by rw [← hrun]; exact ih4⟩, hq1 f s rest hq ih5⟩

/-- a monotone abstract step only grows every database -/
theorem step_db_mono {f : Fleet} {s : Step}
    (hm : match s with | .write i k v => join (f.db i k) (some v) = some v | _ => True) (j : Nat) :
    (f.db j).le ((step f s).db j) := by
  cases s with
  | write i k v =>
    simp only [step]
    by_cases hj : j = i
    · rw [if_pos hj, hj]; exact le_upd hm
    · rw [if_neg hj]; exact le_refl _
  | send i => exact le_refl _
  | load i idx =>
    simp only [step]
    split
    · exact le_refl _
    · simp only
      by_cases hj : j = i
      · rw [if_pos hj, hj]; exact DB.le_join_left _ _
      · rw [if_neg hj]; exact le_refl _

/-- along a monotone abstract schedule every database only grows -/
theorem run_db_mono : ∀ (steps : List Step) (f : Fleet), MonotoneFrom f steps →
    ∀ j, (f.db j).le ((run f steps).db j)
  | [], f, _, j => le_refl _
  | s :: rest, f, hm, j => (step_db_mono hm.1 j).trans (run_db_mono rest (step f s) hm.2 j)

end Ls.Abs
