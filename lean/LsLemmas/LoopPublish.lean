import LsLemmas.LoopBucket
/-
  Content-level readings of the transaction-id bookkeeping of the sync loop, on the product
  fleet of native-mode loops (LsLemmas/LoopBound.lean; simulation relation `RelN`: LsLemmas/LoopAbs.lean): the logical content of an instance only
  grows (so a committed application write is never destroyed), and which application writes
  the newest own snapshot covers at an idle point (helper lemmas of LsProps/C09Fleet.lean).
-/
namespace Ls.Loop
open Ls Ls.Lmdb Ls.Txn Ls.SyncLoop

/-- the segment began a dump (`SendOnce`'s transaction committed) -/
def isDumpTr (pc pc' : Pc) : Bool := isSendAfterTxn pc' && !isSendAfterTxn pc
/-- the segment stored the dump -/
def isStoreTr (pc pc' : Pc) : Bool := isSendAfterTxn pc && isStoredPc pc'

/-- a recorded application write: its transaction id, its key, its version -/
abbrev WriteRec := Nat × Abs.Key × Ver

/-- ghost bookkeeping WITH CONTENT, parallel to `Gh.allApp / unpub / inflight / published`: the
    recorded application writes, those no dump covers yet, those covered by the dump in flight,
    those covered by a stored dump; the environment at the moment the latest dump began, and at
    the moment the dump of the latest STORED blob began. `Gh` (LsLemmas/LoopGhost.lean) records
    transaction ids only, which is all the loop invariants `Inv0` / `Inv1` (I1, I2) speak about; the
    content-level statements of C09 need key and version of every write, so they are recorded
    here beside `Gh` and tied to it by `PInvJ.allApp … published`, and I1 / I2 are used as proved. -/
structure PG where
  allW : List WriteRec
  unpubW : List WriteRec
  inflightW : List WriteRec
  publishedW : List WriteRec
  dumpEnv : Option Env
  storedEnv : Option Env

def PG.init : PG :=
  { allW := [], unpubW := [], inflightW := [], publishedW := [], dumpEnv := none, storedEnv := none }

/-- ghost effect of a segment from `s` to `s'` -/
def pgGo (pg : PG) (s s' : St) : PG :=
  if isDumpTr s.pc s'.pc then
    { pg with inflightW := pg.inflightW ++ pg.unpubW, unpubW := [], dumpEnv := some s.env }
  else if isStoreTr s.pc s'.pc then
    { pg with publishedW := pg.publishedW ++ pg.inflightW, inflightW := [], storedEnv := pg.dumpEnv }
  else pg

/-- ghost effect of an application transaction (a single put) if LMDB records it -/
def pgApp (pg : PG) (s : St) (ops : List AppOp) : PG :=
  match ops with
  | [.put name key val] =>
    if recorded s ops then
      { pg with allW := ((appCommit s ops).env.lastTxn, (name, key), verOf val) :: pg.allW,
                unpubW := ((appCommit s ops).env.lastTxn, (name, key), verOf val) :: pg.unpubW }
    else pg
  | _ => pg

/-- the loop fleet with the content ghosts -/
structure PS where
  F : Fleet
  pg : Nat → PG

def pgEv (cs : Nat → LoopCfg) (P : PS) (ke : Nat × Ev) : PG :=
  match ke.2 with
  | .go _ => pgGo (P.pg ke.1) (P.F ke.1).st (fleetStep cs P.F ke ke.1).st
  | .app ops => pgApp (P.pg ke.1) (P.F ke.1).st ops
  | _ => P.pg ke.1

def pstep (cs : Nat → LoopCfg) (P : PS) (ke : Nat × Ev) : PS :=
  { F := fleetStep cs P.F ke, pg := fun j => if j = ke.1 then pgEv cs P ke else P.pg j }

def prun (cs : Nat → LoopCfg) (P : PS) (evs : List (Nat × Ev)) : PS := evs.foldl (pstep cs) P

def pinit (envs : Nat → Env) : PS := { F := fun j => G.init (envs j) [], pg := fun _ => PG.init }

theorem prun_F (cs : Nat → LoopCfg) : ∀ (evs : List (Nat × Ev)) (P : PS),
    (prun cs P evs).F = fleetRun cs P.F evs := by
  intro evs
  induction evs with
  | nil => intro P; rfl
  | cons e es ih => intro P; exact ih (pstep cs P e)

/-- the last (most recently stored) blob of an instance in the bucket -/
def lastOwn (B : Bucket) (own : InstId) : Option Blob := (B.filter fun x => x.inst == own).getLast?

theorem lastOwn_append_other {B : Bucket} {own : InstId} {Y : List Blob} (h : ∀ x ∈ Y, x.inst ≠ own) :
    lastOwn (B ++ Y) own = lastOwn B own := by
  unfold lastOwn
  rw [List.filter_append]
  have : Y.filter (fun x => x.inst == own) = [] := by
    apply List.filter_eq_nil_iff.mpr
    intro x hx; simpa using h x hx
  rw [this, List.append_nil]

theorem lastOwn_append_own {B : Bucket} {own : InstId} {x : Blob} (h : x.inst = own) :
    lastOwn (B ++ [x]) own = some x := by
  unfold lastOwn
  rw [List.filter_append]
  have : [x].filter (fun y => y.inst == own) = [x] := by simp [h]
  rw [this, List.getLast?_append]
  simp

theorem lastOwn_mem {B : Bucket} {own : InstId} {w : Blob} (h : lastOwn B own = some w) :
    w ∈ B ∧ w.inst = own := by
  unfold lastOwn at h
  have := List.mem_of_getLast? h
  have := List.mem_filter.mp this
  exact ⟨this.1, by simpa using this.2⟩

/-- version `v` is below what `D` holds for key `k` -/
def Below (v : Ver) (k : Abs.Key) (D : Abs.DB) : Prop := join (some v) (D k) = D k

theorem below_mono {v : Ver} {k : Abs.Key} {D D' : Abs.DB} (hle : D.le D') (h : Below v k D) :
    Below v k D' := by
  unfold Below at h ⊢
  rw [← hle k, ← join_assoc, h]

/-- **the content invariant of one instance**: the content ghosts are the `Gh` lists with content;
    ids are distinct and at most `lastTxn` (`idle`: the next recorded id is fresh); every
    recorded write is below the instance's content;
    own blobs are below the instance's content; a dump in flight is the content at the moment the
    dump began and covers the in-flight writes and the own blobs; the last own blob of the bucket
    is the content at the moment ITS dump began and covers all published writes -/
structure PInvJ (me : InstId) (gh : Gh) (env : Env) (pc : Pc) (pg : PG) (B : Bucket) : Prop where
  allApp : gh.allApp = pg.allW.map (·.1)
  unpub : gh.unpub = pg.unpubW.map (·.1)
  inflight : gh.inflight = pg.inflightW.map (·.1)
  published : gh.published = pg.publishedW.map (·.1)
  subU : ∀ t ∈ pg.unpubW, t ∈ pg.allW
  subI : ∀ t ∈ pg.inflightW, t ∈ pg.allW
  subP : ∀ t ∈ pg.publishedW, t ∈ pg.allW
  nodup : (pg.allW.map (·.1)).Nodup
  idle : ∀ t ∈ pg.allW, t.1 ≤ env.lastTxn
  cur : ∀ t ∈ pg.allW, t.2.2.WF ∧ Below t.2.2 t.2.1 (absEnv env)
  own : ∀ x ∈ B, x.inst = me → (blobDB x).le (absEnv env)
  pend : ∀ who t ts sn, pc = .sendAfterTxn who t ts sn →
    ∃ e, pg.dumpEnv = some e ∧ absSnap sn = absEnv e ∧ (absSnap sn).le (absEnv env) ∧
      (∀ x ∈ B, x.inst = me → (blobDB x).le (absSnap sn)) ∧
      ∀ t ∈ pg.inflightW, Below t.2.2 t.2.1 (absSnap sn)
  last : (lastOwn B me = none ∧ pg.publishedW = []) ∨
    ∃ w e, lastOwn B me = some w ∧ pg.storedEnv = some e ∧ blobDB w = absEnv e ∧
      ∀ t ∈ pg.publishedW, Below t.2.2 t.2.1 (blobDB w)

/-- the invariant of the fleet with content ghosts -/
def PInv (cs : Nat → LoopCfg) (n : Nat) (P : PS) : Prop :=
  (∃ A, RelN cs P.F A) ∧
  ∀ j, j < n → PInvJ (cs j).own (P.F j).gh (P.F j).st.env (P.F j).st.pc (P.pg j) (P.F 0).bucket

theorem pinvJ_other {own : InstId} {gh : Gh} {env : Env} {pc : Pc} {pg : PG} {B : Bucket} (Y : List Blob)
    (h : PInvJ own gh env pc pg B) (hY : ∀ x ∈ Y, x.inst ≠ own) : PInvJ own gh env pc pg (B ++ Y) := by
  refine { h with own := ?_, pend := ?_, last := ?_ }
  · intro x hx hi
    rcases List.mem_append.mp hx with hx | hx
    · exact h.own x hx hi
    · exact absurd hi (hY x hx)
  · intro who t ts sn hpc
    obtain ⟨e, h1, h2, h3, h4, h5⟩ := h.pend who t ts sn hpc
    refine ⟨e, h1, h2, h3, ?_, h5⟩
    intro x hx hi
    rcases List.mem_append.mp hx with hx | hx
    · exact h4 x hx hi
    · exact absurd hi (hY x hx)
  · rw [lastOwn_append_other hY]; exact h.last

theorem go_lastTxn_le (c : LoopCfg) (hn : c.txn.native = true) (b : Bucket) (s : St) (i : In) :
    s.env.lastTxn ≤ (go c b s i).1.env.lastTxn := by
  cases go_segTxn c b s i Gh.init with
  | quiet h1 _ _ => rw [h1.native hn]; exact Nat.le_refl _
  | store _ _ _ _ _ _ _ _ h1 => rw [h1]; exact Nat.le_refl _
  | load s1 n inst ts blob r _ _ _ _ h4 h5 =>
    rw [h5]; rcases (loadOnce_facts h4).1 with h | h <;> omega
  | dump env1 r who _ h0 hs h1 =>
    obtain rfl := h0.native hn
    rw [h1, (sendOnce_facts hs).1 hn]; exact Nat.le_refl _

theorem delta_inst {cs : Nat → LoopCfg} {F : Fleet} {k : Nat} {e : Ev} (hok : LoopOkN cs F (k, e)) :
    ∀ x ∈ delta (cs k) (F k) e, x.inst = (cs k).own := by
  intro x hx
  cases e with
  | go i =>
    have hx' : x ∈ (if storesB (cs k) (F k).st i then (dumpBlob (cs k) (F k).st).toList else []) := hx
    split at hx'
    · unfold dumpBlob at hx'
      split at hx'
      · rw [List.mem_singleton.mp hx']
      · cases hx'
    · cases hx'
  | app ops => cases hx
  | list => cases hx
  | others bs =>
    obtain rfl : bs = [] := hok
    cases hx

theorem pinvJ_env {me : InstId} {gh gh' : Gh} {env env' : Env} {pc pc' : Pc} {pg : PG} {B : Bucket}
    (h : PInvJ me gh env pc pg B)
    (hle : (absEnv env).le (absEnv env')) (hlt : env.lastTxn ≤ env'.lastTxn)
    (h1 : gh'.allApp = gh.allApp) (h2 : gh'.unpub = gh.unpub) (h3 : gh'.inflight = gh.inflight)
    (h4 : gh'.published = gh.published)
    (hpc : ∀ who t ts sn, pc' = .sendAfterTxn who t ts sn → pc = .sendAfterTxn who t ts sn) :
    PInvJ me gh' env' pc' pg B := by
  refine
    { allApp := by rw [h1]; exact h.allApp, unpub := by rw [h2]; exact h.unpub,
      inflight := by rw [h3]; exact h.inflight, published := by rw [h4]; exact h.published,
      subU := h.subU, subI := h.subI, subP := h.subP, nodup := h.nodup,
      idle := fun t ht => Nat.le_trans (h.idle t ht) hlt,
      cur := fun t ht => ⟨(h.cur t ht).1, below_mono hle (h.cur t ht).2⟩,
      own := fun x hx hi => (h.own x hx hi).trans hle,
      pend := ?_, last := h.last }
  intro who t ts sn hpc'
  obtain ⟨e, a1, a2, a3, a4, a5⟩ := h.pend who t ts sn (hpc who t ts sn hpc')
  exact ⟨e, a1, a2, a3.trans hle, a4, a5⟩

/-- a recorded application put (transaction id `env'.lastTxn`) enters the content ghosts -/
theorem pinvJ_put {me : InstId} {gh : Gh} {env env' : Env} {pc : Pc} {pg : PG} {B : Bucket}
    {name key val : Bytes} (h : PInvJ me gh env pc pg B)
    (hle : (absEnv env).le (absEnv env')) (hl : env'.lastTxn = env.lastTxn + 1) (hv : (verOf val).WF)
    (hnew : absEnv env' (name, key) = some (verOf val)) :
    PInvJ me (gh.app env'.lastTxn) env' pc
      { pg with allW := (env'.lastTxn, (name, key), verOf val) :: pg.allW,
                unpubW := (env'.lastTxn, (name, key), verOf val) :: pg.unpubW } B := by
  have base := pinvJ_env h hle (by omega) (gh' := gh) rfl rfl rfl rfl (fun _ _ _ _ h => h)
  refine
    { allApp := by simp [Gh.app, base.allApp], unpub := by simp [Gh.app, base.unpub],
      inflight := by simp [Gh.app, base.inflight], published := by simp [Gh.app, base.published],
      subU := ?_, subI := fun t ht => List.mem_cons_of_mem _ (base.subI t ht),
      subP := fun t ht => List.mem_cons_of_mem _ (base.subP t ht), nodup := ?_, idle := ?_,
      cur := ?_, own := base.own, pend := base.pend, last := base.last }
  · intro t ht
    rcases List.mem_cons.mp ht with h1 | h1
    · rw [h1]; exact List.mem_cons_self ..
    · exact List.mem_cons_of_mem _ (base.subU t h1)
  · simp only [List.map_cons, List.nodup_cons]
    refine ⟨?_, base.nodup⟩
    intro hin
    obtain ⟨t, ht, hte⟩ := List.mem_map.mp hin
    have := h.idle t ht
    omega
  · intro t ht
    rcases List.mem_cons.mp ht with h1 | h1
    · rw [h1]; exact Nat.le_refl _
    · exact base.idle t h1
  · intro t ht
    rcases List.mem_cons.mp ht with h1 | h1
    · rw [h1]
      refine ⟨hv, ?_⟩
      unfold Below
      simp only
      rw [hnew]; exact join_idem _
    · exact base.cur t h1

/-- a segment of a native-mode, not receive-only instance keeps the content invariant: a dump
    moves the unpublished writes in flight, the store publishes them -/
theorem pinvJ_go {c : LoopCfg} (hn : c.txn.native = true) (hro : c.txn.receiveOnly = false) {g : G} {i : In}
    {pg : PG} (hJ : PInvJ c.own g.gh g.st.env g.st.pc pg g.bucket) (hwf : EnvWF g.st.env)
    (hle : (absEnv g.st.env).le (absEnv (step c g (.go i)).st.env)) :
    PInvJ c.own (step c g (.go i)).gh (step c g (.go i)).st.env (step c g (.go i)).st.pc
      (pgGo pg g.st (step c g (.go i)).st) (step c g (.go i)).bucket := by
  have hlt : g.st.env.lastTxn ≤ (step c g (.go i)).st.env.lastTxn := go_lastTxn_le c hn g.bucket g.st i
  have hseg := step_segTxn c g i
  generalize step c g (.go i) = g' at *
  unfold pgGo isDumpTr isStoreTr
  -- a segment that neither begins nor stores a dump
  have rest : isSendAfterTxn g'.st.pc = false → isStoredPc g'.st.pc = false → g'.bucket = g.bucket →
      g'.gh.lists = g.gh.lists →
      PInvJ c.own g'.gh g'.st.env g'.st.pc
        (if (isSendAfterTxn g'.st.pc && !isSendAfterTxn g.st.pc) = true then
          { pg with inflightW := pg.inflightW ++ pg.unpubW, unpubW := [], dumpEnv := some g.st.env }
        else if (isSendAfterTxn g.st.pc && isStoredPc g'.st.pc) = true then
          { pg with publishedW := pg.publishedW ++ pg.inflightW, inflightW := [], storedEnv := pg.dumpEnv }
        else pg) g'.bucket := by
    intro q1 q3 hb hl
    simp only [Gh.lists, Prod.mk.injEq] at hl
    rw [q1, q3, hb, Bool.and_false]
    exact pinvJ_env hJ hle hlt hl.1 hl.2.1 hl.2.2.1 hl.2.2.2
      (fun who t ts sn hpc => by rw [hpc] at q1; cases q1)
  cases hseg with
  | quiet _ h2 h3 _ hl => exact rest (quietPc_not h3).1 (quietPc_not h3).2 h2 hl
  | load s1 m inst ts blob r _ _ _ _ _ _ h6 h7 hl => exact rest (by rw [h6]; rfl) (by rw [h6]; rfl) h7 hl
  | dump env1 r who hpcold h0 hs henv hpc' hb hl =>
    obtain rfl := h0.native hn
    obtain ⟨hre, habs, _, _⟩ := sendOnce_abs c.txn g.st.env i.now 0 r hn hro hwf hs
    have hsn : absSnap r.snap = absEnv g.st.env := funext habs
    simp only [Gh.lists, Prod.mk.injEq] at hl
    obtain ⟨m0, m1, m2, m3⟩ := hl
    have hd : isSendAfterTxn g.st.pc = false := by rcases hpcold with h | h <;> rw [h] <;> rfl
    rw [hpc', hd, hb, henv, hre]
    simp only [isSendAfterTxn, Bool.not_false, Bool.and_self, if_true]
    refine
      { allApp := by rw [m0]; exact hJ.allApp, unpub := by rw [m1]; rfl,
        inflight := by rw [m2, hJ.inflight, hJ.unpub, List.map_append],
        published := by rw [m3]; exact hJ.published,
        subU := nofun, subI := ?_, subP := hJ.subP, nodup := hJ.nodup,
        idle := hJ.idle, cur := hJ.cur, own := hJ.own, pend := ?_, last := hJ.last }
    · intro t' ht'
      exact (List.mem_append.mp ht').elim (hJ.subI t') (hJ.subU t')
    · intro who' t' ts' sn' hpc''
      injection hpc'' with _ _ _ e4
      subst e4
      refine ⟨g.st.env, rfl, hsn, by rw [hsn]; exact Abs.le_refl _, ?_, ?_⟩
      · intro x hx hi; rw [hsn]; exact hJ.own x hx hi
      · intro t' ht'
        rw [hsn]
        exact (List.mem_append.mp ht').elim (fun h => (hJ.cur t' (hJ.subI t' h)).2)
          (fun h => (hJ.cur t' (hJ.subU t' h)).2)
  | store who t ts sn t' hpcold _ _ henv hpc' hb _ hl =>
    simp only [Gh.lists, Prod.mk.injEq] at hl
    obtain ⟨m0, m1, m2, m3⟩ := hl
    rw [hpc', hpcold, hb, henv]
    simp only [isSendAfterTxn, isStoredPc, Bool.not_true, Bool.and_self, Bool.false_eq_true,
      if_false, if_true]
    obtain ⟨e0, a1, a2, a3, a4, a5⟩ := hJ.pend who t ts sn hpcold
    generalize hx' : ({ inst := c.own, ts := ts, snap := sn } : Blob) = x'
    have hx'i : x'.inst = c.own := by rw [← hx']
    have hx'c : blobDB x' = absSnap sn := by rw [← hx']; rfl
    refine
      { allApp := by rw [m0]; exact hJ.allApp, unpub := by rw [m1]; exact hJ.unpub,
        inflight := by rw [m2]; rfl,
        published := by rw [m3, hJ.published, hJ.inflight, List.map_append],
        subU := hJ.subU, subI := nofun, subP := ?_, nodup := hJ.nodup,
        idle := hJ.idle, cur := hJ.cur, own := ?_, pend := nofun, last := ?_ }
    · intro t'' ht''
      exact (List.mem_append.mp ht'').elim (hJ.subP t'') (hJ.subI t'')
    · intro x hx hi
      rcases List.mem_append.mp hx with hx | hx
      · exact hJ.own x hx hi
      · rw [List.mem_singleton.mp hx, hx'c]; exact a3
    · right
      refine ⟨x', e0, lastOwn_append_own hx'i, a1, by rw [hx'c]; exact a2, ?_⟩
      intro t'' ht''
      rw [hx'c]
      rcases List.mem_append.mp ht'' with h | h
      · rcases hJ.last with ⟨_, hnone⟩ | ⟨w, e1, hw, _, _, hcov⟩
        · rw [hnone] at h; cases h
        · obtain ⟨hwB, hwi⟩ := lastOwn_mem hw
          exact below_mono (a4 w hwB hwi) (hcov t'' h)
      · exact a5 t'' h

theorem pinv_step (cs : Nat → LoopCfg) (n : Nat) (hn : ∀ j, (cs j).txn.native = true)
    (hro : ∀ j, (cs j).txn.receiveOnly = false)
    (hown : ∀ i j, i < n → j < n → (cs i).own = (cs j).own → i = j)
    (P : PS) (ke : Nat × Ev) (hk : ke.1 < n) (hinv : PInv cs n P) (hok : LoopOkN cs P.F ke) :
    PInv cs n (pstep cs P ke) := by
  obtain ⟨k, e⟩ := ke
  have hk : k < n := hk
  obtain ⟨⟨A, hrel⟩, hJ⟩ := hinv
  obtain ⟨steps, hrel', hswf, hsmono, _⟩ := loop_step_refines_native cs hn P.F A (k, e) hrel hok
  refine ⟨⟨_, hrel'⟩, ?_⟩
  obtain ⟨B0, hB0, _⟩ := hrel.bucket
  have hB : ∀ j, (P.F j).bucket = (P.F 0).bucket := fun j => by rw [hB0 j, hB0 0]
  have hB' : (fleetStep cs P.F (k, e) 0).bucket = (step (cs k) (P.F k) e).bucket :=
    fleetStep_shared cs P.F (k, e) _ hB 0
  intro j hj
  show PInvJ (cs j).own (fleetStep cs P.F (k, e) j).gh (fleetStep cs P.F (k, e) j).st.env
    (fleetStep cs P.F (k, e) j).st.pc (if j = k then pgEv cs P (k, e) else P.pg j)
    (fleetStep cs P.F (k, e) 0).bucket
  rw [hB']
  by_cases hjk : j = k
  case neg =>
    -- another instance: only the bucket grows, by blobs of `k`
    rw [if_neg hjk, step_bucket_delta, hB k]
    obtain ⟨h1, h2, _⟩ := fleetStep_other cs P.F (k, e) hjk
    rw [h1, h2]
    refine pinvJ_other _ (hJ j hj) ?_
    intro x hx hi
    rw [delta_inst hok x hx] at hi
    exact hjk (hown j k hj hk hi.symm)
  subst hjk
  have hself : fleetStep cs P.F (j, e) j = step (cs j) (P.F j) e := fleetStep_self cs P.F (j, e)
  have hJj := hB j ▸ hJ j hj
  have hwf := hrel.wf j
  have hle : (absEnv (P.F j).st.env).le (absEnv (fleetStep cs P.F (j, e) j).st.env) := by
    rw [← hrel.db j, ← hrel'.db j]
    exact Abs.run_db_mono steps A hsmono j
  rw [if_pos rfl]
  unfold pgEv
  rw [hself] at hle ⊢
  cases e with
  | list => exact pinvJ_env hJj hle (Nat.le_refl _) rfl rfl rfl rfl (fun _ _ _ _ h => h)
  | others bs =>
    obtain rfl : bs = [] := hok
    exact pinvJ_env (pinvJ_other [] hJj nofun) hle (Nat.le_refl _) rfl rfl rfl rfl
      (fun _ _ _ _ h => h)
  | go i => exact pinvJ_go (hn j) (hro j) hJj hwf hle
  | app ops =>
    obtain ⟨name, key, val, rfl, hp, hv, hd, _⟩ := hok
    have hlt := (appCommit_facts (P.F j).st [.put name key val]).2.2.2.2.2
    show PInvJ (cs j).own
      (if recorded (P.F j).st [.put name key val] then
        (P.F j).gh.app (appCommit (P.F j).st [.put name key val]).env.lastTxn else (P.F j).gh)
      (appCommit (P.F j).st [.put name key val]).env (appCommit (P.F j).st [.put name key val]).pc
      (pgApp (P.pg j) (P.F j).st [.put name key val]) (P.F j).bucket
    rw [(appCommit_facts _ _).1]
    unfold pgApp
    cases hrec : recorded (P.F j).st [.put name key val] with
    | false =>
      exact pinvJ_env hJj hle (by rcases hlt with h | h <;> omega) rfl rfl rfl rfl
        (fun _ _ _ _ h => h)
    | true =>
      have hl' : (appCommit (P.F j).st [.put name key val]).env.lastTxn = (P.F j).st.env.lastTxn + 1 := by
        unfold recorded at hrec
        rcases hlt with h | h
        · simp [h] at hrec
        · exact h
      refine pinvJ_put hJj hle hl' (verOf_spec hv).2 ?_
      rcases appCommit_put (key := key) hwf hp hv hd with ⟨_, henv⟩ | ⟨_, _, habs⟩
      · rw [henv] at hl'; omega
      · rw [habs, Abs.upd_same]

/-- side conditions of a schedule: every event is an event of an instance of the fleet and
    satisfies `LoopOkN` in the state it is applied to -/
def PRunOk (cs : Nat → LoopCfg) (n : Nat) : Fleet → List (Nat × Ev) → Prop
  | _, [] => True
  | F, ke :: es => (ke.1 < n ∧ LoopOkN cs F ke) ∧ PRunOk cs n (fleetStep cs F ke) es

theorem pRunOk_loopRunOkN {cs : Nat → LoopCfg} {n : Nat} : ∀ (evs : List (Nat × Ev)) (F : Fleet),
    PRunOk cs n F evs → LoopRunOkN cs F evs := by
  intro evs
  induction evs with
  | nil => intro _ _; trivial
  | cons e es ih => intro F h; exact ⟨h.1.2, ih _ h.2⟩

theorem pRunOk_of_check {cs : Nat → LoopCfg} {n : Nat} : ∀ (evs : List (Nat × Ev)) (F : Fleet),
    runOkB cs (fun F ke => decide (ke.1 < n) && loopOkNB cs F ke) F evs = true → PRunOk cs n F evs
  | [], _, _ => trivial
  | ke :: es, F, h => by
    simp only [runOkB, Bool.and_eq_true, decide_eq_true_eq] at h
    exact ⟨⟨h.1.1, loopOkN_of_check h.1.2⟩, pRunOk_of_check es _ h.2⟩

theorem pinv_init (cs : Nat → LoopCfg) (n : Nat) (envs : Nat → Env) (hwf : ∀ j, EnvWF (envs j)) :
    PInv cs n (pinit envs) := by
  refine ⟨⟨_, relN_init cs n envs hwf⟩, ?_⟩
  intro j _
  exact
    { allApp := rfl, unpub := rfl, inflight := rfl, published := rfl,
      subU := fun _ h => (by cases h), subI := fun _ h => (by cases h), subP := fun _ h => (by cases h),
      nodup := List.nodup_nil, idle := fun _ h => (by cases h), cur := fun _ h => (by cases h),
      own := fun _ h => (by cases h),
      pend := fun who t ts sn h => (by simp [pinit, G.init, SyncLoop.init] at h),
      last := Or.inl ⟨rfl, rfl⟩ }

theorem pinv_run (cs : Nat → LoopCfg) (n : Nat) (hn : ∀ j, (cs j).txn.native = true)
    (hro : ∀ j, (cs j).txn.receiveOnly = false)
    (hown : ∀ i j, i < n → j < n → (cs i).own = (cs j).own → i = j) :
    ∀ (evs : List (Nat × Ev)) (P : PS), PInv cs n P → PRunOk cs n P.F evs → PInv cs n (prun cs P evs) := by
  intro evs
  induction evs with
  | nil => intro P h _; exact h
  | cons e es ih =>
    intro P h hok
    exact ih (pstep cs P e) (pinv_step cs n hn hro hown P e hok.1.1 h hok.1.2) hok.2

end Ls.Loop

