import LsLemmas.LoopWitness
/-
  How many blobs an instance still stores once applications have stopped writing: a potential
  (`owed`) over the yield points that never grows along a continuation without recorded
  application transactions and drops by one with every segment that stores.
  Then the product of n single-instance schedules over one bucket (`Fleet`, `fleetStep`, `fleetRun`,
  `localEvs`): every instance of a fleet runs one of the single-instance schedules, so the bound
  holds for the fleet as the sum (`sumTo`) of the instances' bounds.
-/
namespace Ls.Loop
open Ls Ls.Txn Ls.SyncLoop

def storeCount (c : LoopCfg) (g : G) : Ev → Nat
  | .go i => if storesB c g.st i then 1 else 0
  | _ => 0

/-- **the number of blobs the instance stores during the continuation `evs` from `g`**: the
    number of `go` events of `evs` that are storing segments (`Stores`) in the state in which
    they run. Each of them appends exactly one blob of `c.own` to the bucket (`go_bucket`), no
    other event of the instance does (`ownStores_bucket`). -/
def ownStores (c : LoopCfg) : G → List Ev → Nat
  | _, [] => 0
  | g, e :: es => storeCount c g e + ownStores c (step c g e) es

theorem ownStores_append (c : LoopCfg) (g : G) (l1 l2 : List Ev) :
    ownStores c g (l1 ++ l2) = ownStores c g l1 + ownStores c (runFrom c g l1) l2 := by
  induction l1 generalizing g with
  | nil => simp [ownStores, runFrom]
  | cons e es ih =>
    show storeCount c g e + ownStores c (step c g e) (es ++ l2) = _
    rw [ih]
    show _ = storeCount c g e + ownStores c (step c g e) es + ownStores c (runFrom c (step c g e) es) l2
    omega

/-- what an event of one instance appends to the bucket -/
def delta (c : LoopCfg) (g : G) : Ev → List Blob
  | .go i => if storesB c g.st i then (dumpBlob c g.st).toList else []
  | .others bs => bs
  | _ => []

theorem step_bucket_delta (c : LoopCfg) (g : G) (e : Ev) :
    (step c g e).bucket = g.bucket ++ delta c g e := by
  cases e with
  | go i => exact (go_seg c g.bucket g.st i g.gh).bucket
  | app ops => exact (List.append_nil _).symm
  | list => exact (List.append_nil _).symm
  | others bs => rfl

/-- the blobs that come from outside (an `others` event) -/
def extOf : Ev → List Blob
  | .others bs => bs
  | _ => []

theorem othersOf_cons (e : Ev) (es : List Ev) : othersOf (e :: es) = extOf e ++ othersOf es := by
  cases e <;> rfl

/-- what a storing segment appends is one blob, of the own instance -/
theorem dumpBlob_of_stores {c : LoopCfg} {s : St} {i : In} (h : storesB c s i = true) :
    ∃ blob, (dumpBlob c s).toList = [blob] ∧ blob.inst = c.own := by
  obtain ⟨⟨who, t, ts, snap, hpc⟩, _⟩ := (storesB_iff c s i).mp h
  exact ⟨{ inst := c.own, ts := ts, snap := snap }, by unfold dumpBlob; rw [hpc]; rfl, rfl⟩

/-- every additive measure of buckets that counts a blob of the own instance as one: an event adds
    to it its value on the blobs from outside, plus one if the event is a storing segment -/
theorem delta_measure {c : LoopCfg} (f : List Blob → Nat) (hf : ∀ a b, f (a ++ b) = f a + f b)
    (hown : ∀ blob, blob.inst = c.own → f [blob] = 1) (g : G) (e : Ev) :
    f (delta c g e) = f (extOf e) + storeCount c g e := by
  have h0 : f [] = 0 := by have := hf [] []; rw [List.append_nil] at this; omega
  cases e with
  | go i =>
    show f (if storesB c g.st i then _ else _) = f [] + if storesB c g.st i then 1 else 0
    cases hs : storesB c g.st i with
    | false => simp [h0]
    | true =>
      obtain ⟨blob, e1, e2⟩ := dumpBlob_of_stores hs
      simp [e1, hown blob e2, h0]
  | app ops => exact (Nat.add_zero _).symm
  | list => exact (Nat.add_zero _).symm
  | others bs => exact (Nat.add_zero _).symm

/-- … and so it grows along a continuation by its value on the others' blobs plus `ownStores` -/
theorem ownStores_measure {c : LoopCfg} (f : List Blob → Nat) (hf : ∀ a b, f (a ++ b) = f a + f b)
    (hown : ∀ blob, blob.inst = c.own → f [blob] = 1) (g : G) (evs : List Ev) :
    f (runFrom c g evs).bucket = f g.bucket + f (othersOf evs) + ownStores c g evs := by
  induction evs generalizing g with
  | nil =>
    have h0 : f [] = 0 := by have := hf [] []; rw [List.append_nil] at this; omega
    show f g.bucket = f g.bucket + f [] + 0
    omega
  | cons e es ih =>
    show f (runFrom c (step c g e) es).bucket = _ + _ + (storeCount c g e + ownStores c (step c g e) es)
    rw [ih, step_bucket_delta, hf, delta_measure f hf hown, othersOf_cons, hf]
    omega

/-- the blobs of instance `own` in a bucket -/
def ownCount (own : InstId) (b : List Blob) : Nat := b.countP (fun x => x.inst == own)

/-- **`ownStores` is the growth of the own part of the bucket**: the number of blobs named
    `c.own` in the bucket after the continuation is the number before, plus those stored by
    others under that name (none, when names are not shared), plus `ownStores`. -/
theorem ownStores_bucket (c : LoopCfg) (g : G) (evs : List Ev) :
    ownCount c.own (runFrom c g evs).bucket =
      ownCount c.own g.bucket + ownCount c.own (othersOf evs) + ownStores c g evs :=
  ownStores_measure (ownCount c.own) (fun _ _ => List.countP_append)
    (fun blob h => by simp [ownCount, h]) g evs

theorem ownStores_length (c : LoopCfg) (g : G) (evs : List Ev) :
    (runFrom c g evs).bucket.length = g.bucket.length + (othersOf evs).length + ownStores c g evs :=
  ownStores_measure List.length (fun _ _ => List.length_append) (fun _ _ => rfl) g evs

theorem delta_length (c : LoopCfg) (g : G) (e : Ev) :
    (delta c g e).length = (extOf e).length + storeCount c g e :=
  delta_measure List.length (fun _ _ => List.length_append) (fun _ _ => rfl) g e

theorem ownStores_ghost (c : LoopCfg) (g : G) (evs : List Ev) :
    (runFrom c g evs).gh.stores = g.gh.stores + ownStores c g evs := by
  induction evs generalizing g with
  | nil => rfl
  | cons e es ih =>
    show (runFrom c (step c g e) es).gh.stores = g.gh.stores + (storeCount c g e + _)
    rw [ih]
    have : (step c g e).gh.stores = g.gh.stores + storeCount c g e := by
      cases e with
      | go i => exact (go_seg c g.bucket g.st i g.gh).storing.2
      | app ops =>
        show (if recorded g.st ops then _ else g.gh).stores = _
        split <;> rfl
      | list => rfl
      | others bs => rfl
    omega

/-- 1 if a cause for an upload is outstanding (`¬ Calm`), else 0 -/
def cause (gh : Gh) : Nat := if gh.appDirty || gh.startDirty then 1 else 0

instance (gh : Gh) : Decidable (Calm gh) := by unfold Calm; infer_instance

theorem cause_le_one (gh : Gh) : cause gh ≤ 1 := by unfold cause; split <;> omega

theorem cause_eq_zero_iff (gh : Gh) : cause gh = 0 ↔ Calm gh := by
  unfold cause Calm
  cases gh.appDirty <;> cases gh.startDirty <;> simp

/-- **The uploads still owed** at a yield point with ghost state `gh`:
    one for a dump in flight (`sendAfterTxn`: `SendOnce`'s transaction is done, the store is
    next), plus one if a cause is outstanding (`¬ Calm`: an application transaction recorded since
    the latest dump began, or a non-empty LMDB at start-up with no dump begun yet). Before the
    start-up segment: one (whatever the start-up finds). After the loop has ended: none. -/
def owedOf (pc : Pc) (gh : Gh) : Nat :=
  match pc with
  | .exited _ => 0
  | .boot => 1
  | .sendAfterTxn .. => 1 + cause gh
  | _ => cause gh

def owed (g : G) : Nat := owedOf g.st.pc g.gh

theorem owedOf_le_two (pc : Pc) (gh : Gh) : owedOf pc gh ≤ 2 := by
  have := cause_le_one gh
  unfold owedOf; split <;> omega

/-- outside `boot` and `sendAfterTxn` at most the outstanding cause is owed -/
theorem owedOf_le_cause {pc : Pc} (gh : Gh) (h1 : pc ≠ .boot)
    (h2 : ∀ who t ts snap, pc ≠ .sendAfterTxn who t ts snap) : owedOf pc gh ≤ cause gh := by
  cases pc with
  | boot => exact absurd rfl h1
  | sendAfterTxn who t ts snap => exact absurd rfl (h2 who t ts snap)
  | exited e => exact Nat.zero_le _
  | _ => exact Nat.le_refl _

theorem owedOf_tail (c : LoopCfg) (w : List InstId) (gh : Gh) : owedOf (tailPc c w) gh ≤ cause gh := by
  rcases tailPc_cases c w with e | ⟨e, _⟩ <;> rw [e]
  · exact Nat.le_refl _
  · exact Nat.zero_le _

/-- **One segment**: what is owed afterwards, plus one if the segment stored, is at most what was
    owed before. The only fact about reachable states used: at `beforeSend` a cause is outstanding
    (`PcInv0`; with an armed force flag it need not be: that is a cause `owed` does not count, see
    `C10_forced_upload`). -/
theorem Seg.owed {c : LoopCfg} {b : Bucket} {s : St} {i : In} {gh : Gh} {s' : St} {b' : Bucket} {gh' : Gh}
    (h : Seg c b s i gh s' b' gh') (hbs : s.pc = .beforeSend → ¬ Calm gh) :
    owedOf s'.pc gh' + (if storesB c s i then 1 else 0) ≤ owedOf s.pc gh := by
  have hc := cause_le_one gh
  have hns : ∀ {pc}, s.pc = pc → (∀ who t ts snap, pc ≠ .sendAfterTxn who t ts snap) →
      (if storesB c s i then 1 else 0) = 0 := by
    intro pc hpc hne
    rw [storesB_of_not_send (by rw [hpc]; exact hne)]; rfl
  have hl : InLoads s → owedOf s.pc gh = cause gh ∧ (if storesB c s i then 1 else 0) = 0 := by
    rintro (h | ⟨_, _, _, _, _, h⟩) <;> exact ⟨by rw [h]; rfl, hns h nofun⟩
  cases h with
  | bootFailed _ _ hpc => rw [hpc, hns hpc nofun]; exact Nat.zero_le 1
  | booted env hpc => rw [hpc, hns hpc nofun]; exact cause_le_one _
  | bootDumped env r hpc => rw [hpc, hns hpc nofun]; exact Nat.le_refl 1
  | endLoads hl' | loaded _ _ _ _ _ hl' => rw [(hl hl').1, (hl hl').2]; exact Nat.le_refl _
  | unknown _ _ hl' | loadFailed _ _ hl' => rw [(hl hl').1, (hl hl').2]; exact Nat.zero_le _
  | noSend hpc | emptyGuard hpc => rw [hpc, hns hpc nofun]; exact owedOf_tail c _ gh
  | toSend hpc => rw [hpc, hns hpc nofun]; exact Nat.le_refl _
  | sendFailed e hpc => rw [hpc, hns hpc nofun]; exact Nat.zero_le _
  | dumped r hpc =>
    rw [hpc, hns hpc nofun]
    have : cause gh ≠ 0 := fun h => hbs hpc ((cause_eq_zero_iff gh).mp h)
    show 1 + 0 + 0 ≤ cause gh
    omega
  | roInitial t ts snap hpc hro =>
    rw [hpc, show storesB c s i = false by simp [storesB, hro]]
    exact Nat.le_add_left _ _
  | roLoop t ts snap hpc hro =>
    rw [hpc, show storesB c s i = false by simp [storesB, hro]]
    exact Nat.le_trans (owedOf_tail c _ gh) (Nat.le_add_left _ _)
  | storeFailed who t ts snap hpc hro hf =>
    rw [show storesB c s i = false by simp [storesB, Nat.not_lt.mpr hf]]
    exact Nat.zero_le _
  | stored who t ts snap hpc =>
    rw [hpc]
    show cause gh + _ ≤ 1 + cause gh
    split <;> omega
  | doneInitial t hpc => rw [hpc, hns hpc nofun]; exact Nat.le_refl _
  | doneLoop t hpc => rw [hpc, hns hpc nofun]; exact owedOf_tail c _ gh
  | woke hpc => rw [hpc, hns hpc nofun]; exact Nat.le_refl _
  | stay e hpc => rw [hns hpc nofun]; exact Nat.le_refl _

theorem step_owed {c : LoopCfg} {g : G} (h0 : Inv0 c g) (e : Ev)
    (hna : ∀ ops, e = .app ops → recorded g.st ops = false) :
    owed (step c g e) + storeCount c g e ≤ owed g := by
  cases e with
  | go i =>
    refine (go_seg c g.bucket g.st i g.gh).owed fun hpc => ?_
    have := h0.pcinv
    rw [hpc] at this
    exact this.1
  | app ops =>
    have hr := hna ops rfl
    have hpc := (appCommit_facts g.st ops).1
    show owedOf (appCommit g.st ops).pc (if recorded g.st ops then _ else g.gh) + 0 ≤ _
    rw [hr, hpc]
    exact Nat.le_refl _
  | list => exact Nat.le_refl _
  | others bs => exact Nat.le_refl _

/-- **The bound.** From a state satisfying the invariant of every schedule, a continuation of any
    length without recorded application transactions stores at most `owed` blobs, and what is owed
    at its end is at most what remains. -/
theorem ownStores_le_owed (c : LoopCfg) (g : G) (evs : List Ev) (h0 : Inv0 c g)
    (hna : NoAppFrom c g evs) : owed (runFrom c g evs) + ownStores c g evs ≤ owed g := by
  induction evs generalizing g with
  | nil => exact Nat.le_refl _
  | cons e es ih =>
    obtain ⟨h1, h2⟩ := hna
    have hs := step_owed h0 e (fun ops he => by subst he; exact h1)
    have := ih (step c g e) (h0.step e) h2
    show owed (runFrom c (step c g e) es) + (storeCount c g e + ownStores c (step c g e) es) ≤ owed g
    omega

instance decNoAppFrom (c : LoopCfg) : ∀ (g : G) (evs : List Ev), Decidable (NoAppFrom c g evs)
  | _, [] => isTrue trivial
  | g, e :: es =>
    have := decNoAppFrom c (step c g e) es
    match e with
    | .app ops => inferInstanceAs (Decidable (recorded g.st ops = false ∧ _))
    | .go _ => inferInstanceAs (Decidable (True ∧ _))
    | .list => inferInstanceAs (Decidable (True ∧ _))
    | .others _ => inferInstanceAs (Decidable (True ∧ _))

/-- A fleet: instance `j` has configuration `cs j` and (ghost-extended) state `F j`. A global
    event `(k, e)` is an event `e` of instance `k`; `e = .others bs` stands for writers outside
    the fleet. -/
abbrev Fleet := Nat → G

/-- what instance `j` sees of the global event `(k, e)`: the event itself if `j = k`, otherwise
    "others stored what that event appended to the bucket" -/
def localEv (cs : Nat → LoopCfg) (F : Fleet) (ke : Nat × Ev) (j : Nat) : Ev :=
  if j = ke.1 then ke.2 else .others (delta (cs ke.1) (F ke.1) ke.2)

def fleetStep (cs : Nat → LoopCfg) (F : Fleet) (ke : Nat × Ev) : Fleet :=
  fun j => step (cs j) (F j) (localEv cs F ke j)

def fleetRun (cs : Nat → LoopCfg) (F : Fleet) (evs : List (Nat × Ev)) : Fleet :=
  evs.foldl (fleetStep cs) F

/-- the schedule of instance `j` inside the global schedule -/
def localEvs (cs : Nat → LoopCfg) : Fleet → List (Nat × Ev) → Nat → List Ev
  | _, [], _ => []
  | F, ke :: es, j => localEv cs F ke j :: localEvs cs (fleetStep cs F ke) es j

/-- **projection**: every instance of the fleet runs one of the single-instance schedules -/
theorem fleetRun_local (cs : Nat → LoopCfg) (F : Fleet) (evs : List (Nat × Ev)) (j : Nat) :
    fleetRun cs F evs j = runFrom (cs j) (F j) (localEvs cs F evs j) := by
  induction evs generalizing F with
  | nil => rfl
  | cons ke es ih => exact ih (fleetStep cs F ke)

/-- no application transaction is recorded at any instance -/
def FleetNoApp (cs : Nat → LoopCfg) : Fleet → List (Nat × Ev) → Prop
  | _, [] => True
  | F, ke :: es =>
    (match ke.2 with
     | .app ops => recorded (F ke.1).st ops = false
     | _ => True) ∧ FleetNoApp cs (fleetStep cs F ke) es

instance decFleetNoApp (cs : Nat → LoopCfg) :
    ∀ (F : Fleet) (evs : List (Nat × Ev)), Decidable (FleetNoApp cs F evs)
  | _, [] => isTrue trivial
  | F, (k, e) :: es =>
    have := decFleetNoApp cs (fleetStep cs F (k, e)) es
    match e with
    | .app ops => inferInstanceAs (Decidable (recorded (F k).st ops = false ∧ _))
    | .go _ => inferInstanceAs (Decidable (True ∧ _))
    | .list => inferInstanceAs (Decidable (True ∧ _))
    | .others _ => inferInstanceAs (Decidable (True ∧ _))

theorem FleetNoApp.local {cs : Nat → LoopCfg} {F : Fleet} {evs : List (Nat × Ev)}
    (h : FleetNoApp cs F evs) (j : Nat) : NoAppFrom (cs j) (F j) (localEvs cs F evs j) := by
  induction evs generalizing F with
  | nil => trivial
  | cons ke es ih =>
    obtain ⟨h1, h2⟩ := h
    refine ⟨?_, ih h2⟩
    unfold localEv
    by_cases hj : j = ke.1
    · rw [if_pos hj, hj]; exact h1
    · rw [if_neg hj]; trivial

/-- the number of storing segments in the global schedule -/
def fleetStores (cs : Nat → LoopCfg) : Fleet → List (Nat × Ev) → Nat
  | _, [] => 0
  | F, ke :: es => storeCount (cs ke.1) (F ke.1) ke.2 + fleetStores cs (fleetStep cs F ke) es

/-- the blobs written by writers outside the fleet -/
def fleetExt : List (Nat × Ev) → List Blob
  | [] => []
  | ke :: es => extOf ke.2 ++ fleetExt es

/-- everything appended to the bucket during the global schedule, in order -/
def fleetDelta (cs : Nat → LoopCfg) : Fleet → List (Nat × Ev) → List Blob
  | _, [] => []
  | F, ke :: es => delta (cs ke.1) (F ke.1) ke.2 ++ fleetDelta cs (fleetStep cs F ke) es

theorem fleetDelta_length (cs : Nat → LoopCfg) (F : Fleet) (evs : List (Nat × Ev)) :
    (fleetDelta cs F evs).length = (fleetExt evs).length + fleetStores cs F evs := by
  induction evs generalizing F with
  | nil => rfl
  | cons ke es ih =>
    show (delta _ _ _ ++ fleetDelta cs _ es).length = (extOf ke.2 ++ fleetExt es).length + (_ + _)
    rw [List.length_append, List.length_append, ih, delta_length]; omega

theorem fleetStep_bucket (cs : Nat → LoopCfg) (n : Nat) (F : Fleet) (ke : Nat × Ev) (B : Bucket)
    (hB : ∀ j, j < n → (F j).bucket = B) (j : Nat) (hj : j < n) :
    (fleetStep cs F ke j).bucket = B ++ delta (cs ke.1) (F ke.1) ke.2 := by
  unfold fleetStep localEv
  by_cases hjk : j = ke.1
  · rw [if_pos hjk, step_bucket_delta, hB j hj, hjk]
  · rw [if_neg hjk]
    show (F j).bucket ++ _ = _
    rw [hB j hj]

/-- **one bucket**: if all instances see the same bucket at the start, they see the same bucket
    after every global schedule — the start bucket plus everything that was appended -/
theorem fleetRun_bucket (cs : Nat → LoopCfg) (n : Nat) (F : Fleet) (evs : List (Nat × Ev)) (B : Bucket)
    (hB : ∀ j, j < n → (F j).bucket = B) (j : Nat) (hj : j < n) :
    (fleetRun cs F evs j).bucket = B ++ fleetDelta cs F evs := by
  induction evs generalizing F B with
  | nil => simp [fleetRun, fleetDelta, hB j hj]
  | cons ke es ih =>
    show (fleetRun cs (fleetStep cs F ke) es j).bucket = B ++ (_ ++ _)
    rw [ih (fleetStep cs F ke) _ (fun j' hj' => fleetStep_bucket cs n F ke B hB j' hj'),
      List.append_assoc]

def sumTo : Nat → (Nat → Nat) → Nat
  | 0, _ => 0
  | n + 1, f => sumTo n f + f n

theorem sumTo_add (n : Nat) (f g : Nat → Nat) :
    sumTo n (fun j => f j + g j) = sumTo n f + sumTo n g := by
  induction n with
  | zero => rfl
  | succ n ih => simp only [sumTo, ih]; omega

theorem sumTo_le {n : Nat} {f g : Nat → Nat} (h : ∀ j, j < n → f j ≤ g j) : sumTo n f ≤ sumTo n g := by
  induction n with
  | zero => exact Nat.le_refl _
  | succ n ih =>
    have := ih (fun j hj => h j (Nat.lt_succ_of_lt hj))
    have := h n (Nat.lt_succ_self n)
    simp only [sumTo]; omega

theorem sumTo_const_le {n : Nat} {f : Nat → Nat} {m : Nat} (h : ∀ j, j < n → f j ≤ m) :
    sumTo n f ≤ m * n := by
  induction n with
  | zero => exact Nat.le_refl _
  | succ n ih =>
    have := ih (fun j hj => h j (Nat.lt_succ_of_lt hj))
    have := h n (Nat.lt_succ_self n)
    simp only [sumTo, Nat.mul_succ]; omega

theorem sumTo_single (n k a : Nat) (hk : k < n) : sumTo n (fun j => if j = k then a else 0) = a := by
  induction n with
  | zero => omega
  | succ n ih =>
    simp only [sumTo]
    by_cases hkn : k = n
    · subst hkn
      have h0 : sumTo k (fun j => if j = k then a else 0) = 0 := by
        have := sumTo_const_le (n := k) (f := fun j => if j = k then a else 0) (m := 0)
          (fun j hj => by show (if j = k then a else 0) ≤ 0; rw [if_neg (by omega)]; exact Nat.le_refl _)
        omega
      rw [h0]; simp
    · rw [ih (by omega), if_neg (fun h => hkn h.symm)]; rfl

theorem storeCount_local (cs : Nat → LoopCfg) (F : Fleet) (ke : Nat × Ev) (j : Nat) :
    storeCount (cs j) (F j) (localEv cs F ke j) =
      if j = ke.1 then storeCount (cs ke.1) (F ke.1) ke.2 else 0 := by
  unfold localEv
  by_cases hj : j = ke.1
  · rw [if_pos hj, if_pos hj, hj]
  · rw [if_neg hj, if_neg hj]; rfl

theorem fleetStores_sum (cs : Nat → LoopCfg) (n : Nat) (F : Fleet) (evs : List (Nat × Ev))
    (hk : ∀ ke ∈ evs, ke.1 < n) :
    fleetStores cs F evs = sumTo n (fun j => ownStores (cs j) (F j) (localEvs cs F evs j)) := by
  induction evs generalizing F with
  | nil =>
    have := sumTo_const_le (n := n) (f := fun j => ownStores (cs j) (F j) (localEvs cs F [] j)) (m := 0)
      (fun j _ => Nat.le_refl _)
    show 0 = _
    omega
  | cons ke es ih =>
    have h1 : (fun j => ownStores (cs j) (F j) (localEvs cs F (ke :: es) j)) =
        fun j => (if j = ke.1 then storeCount (cs ke.1) (F ke.1) ke.2 else 0) +
          ownStores (cs j) (fleetStep cs F ke j) (localEvs cs (fleetStep cs F ke) es j) := by
      funext j
      show storeCount (cs j) (F j) (localEv cs F ke j) + _ = _
      rw [storeCount_local]; rfl
    rw [h1, sumTo_add, sumTo_single n ke.1 _ (hk ke List.mem_cons_self),
      ← ih (fleetStep cs F ke) (fun ke' h => hk ke' (List.mem_cons_of_mem _ h))]
    rfl

/-- **The fleet bound**, from the single-instance bound used once per instance (each instance's
    environment — including the other instances' stores — is arbitrary there). -/
theorem fleetStores_le (cs : Nat → LoopCfg) (n : Nat) (F : Fleet) (evs : List (Nat × Ev))
    (hk : ∀ ke ∈ evs, ke.1 < n) (hinv : ∀ j, j < n → Inv0 (cs j) (F j))
    (hna : FleetNoApp cs F evs) :
    fleetStores cs F evs + sumTo n (fun j => owed (fleetRun cs F evs j)) ≤ sumTo n (fun j => owed (F j)) := by
  rw [fleetStores_sum cs n F evs hk, ← sumTo_add]
  refine sumTo_le (fun j hj => ?_)
  have := ownStores_le_owed (cs j) (F j) (localEvs cs F evs j) (hinv j hj) (hna.local j)
  rw [fleetRun_local]
  omega

theorem fleetRun_append (cs : Nat → LoopCfg) (F : Fleet) (l1 l2 : List (Nat × Ev)) :
    fleetRun cs F (l1 ++ l2) = fleetRun cs (fleetRun cs F l1) l2 := List.foldl_append

theorem go_of_raw {c : LoopCfg} {b : Bucket} {s : St} {i : In} {s' : St} {b' : Bucket}
    (h : goRaw c b s i = (s', b')) (hpc : s'.pc ≠ .top) : go c b s i = (s', b') := by
  rw [go_eq, h]
  simp only [relist_of_ne_top hpc]

theorem othersOf_gos (l : List In) : othersOf (l.map Ev.go) = [] := by
  induction l with
  | nil => rfl
  | cons a l ih => exact ih

/-- segments one after the other, on state and bucket -/
def goes (c : LoopCfg) : St × Bucket → List In → St × Bucket
  | p, [] => p
  | p, i :: is => goes c (go c p.2 p.1 i) is

theorem runFrom_gos (c : LoopCfg) (g : G) (is : List In) :
    ((runFrom c g (is.map Ev.go)).st, (runFrom c g (is.map Ev.go)).bucket) = goes c (g.st, g.bucket) is := by
  induction is generalizing g with
  | nil => rfl
  | cons i is ih => exact ih (step c g (.go i))

/-- the five segments of an iteration without loads that sends: `top`, `beforeInfo`,
    `beforeSend`, `sendAfterTxn`, `sendStored` -/
def iteration (i1 i2 i3 i4 i5 : In) : List Ev := [i1, i2, i3, i4, i5].map Ev.go

end Ls.Loop

namespace Ls.Loop.BoundWitness
open Ls Ls.Txn Ls.SyncLoop Ls.Loop Ls.Loop.Witness

/-- `n` loop segments in which the receiver hands over nothing and no store fails -/
def gos (n : Nat) : List Ev := List.replicate n (.go (inp none))

/-- application transactions (shadow mode: plain values) -/
def app1 : Ev := .app [.create app 0, .put app [2] [66]]
def app2 : Ev := .app [.put app [3] [67]]

/-- a native-mode application value: header and one byte (the timestamp 7 is arbitrary, below the
    clock reading 100 of `inp`) -/
def hv (b : UInt8) : Bytes := Header.putBasic 7 0 0 ++ [b]

/-- application transactions (native mode: values with a header) -/
def napp1 : Ev := .app [.create app 0, .put app [2] (hv 66)]
def napp2 : Ev := .app [.put app [3] (hv 67)]

/-- history: one idle iteration, then an application transaction at `top` -/
def histOne : List Ev := gos 4 ++ [app1]
def histOneN : List Ev := gos 4 ++ [napp1]

/-- history: as `histOne`, then on to the yield point after `SendOnce`'s transaction, where a
    second application transaction commits (after the dump was taken, before it is stored) -/
def histTwo : List Ev := gos 4 ++ [app1] ++ gos 3 ++ [app2]
def histTwoN : List Ev := gos 4 ++ [napp1] ++ gos 3 ++ [napp2]

/-- history: the application wrote before the instance started (non-empty LMDB at start-up) -/
def histStart : List Ev := [napp1]

/-- history: non-empty LMDB at start-up, empty bucket: the start-up `SendOnce` has taken its
    dump, and an application transaction commits before the dump is stored -/
def histStartTwo : List Ev := [napp1] ++ gos 1 ++ [napp2]

/-- a second shadow-mode instance -/
def cfgB : LoopCfg := { cfgS with own := "b" }

/-- a fleet of two: instance 0 is "a", instance 1 is "b" -/
def cs2 : Nat → LoopCfg := fun j => if j = 0 then cfgS else cfgB

def fleet0 : Fleet := fun _ => G.init env0 []

/-- global history: "a" idles one iteration, its application writes; "b" starts -/
def fleetHist : List (Nat × Ev) := (gos 4).map (0, ·) ++ [(0, app1), (1, .go (inp none))]

/-- global continuation without application transactions: "a" uploads; "b" merges a's snapshot
    (its LMDB changes) and goes through its iteration; "a" runs on; "b" merges the same snapshot
    again and runs on -/
def fleetCont : List (Nat × Ev) :=
  (gos 4).map (0, ·) ++ [(1, .go (inp (some ("a", 100))))] ++ (gos 8).map (1, ·) ++ (gos 6).map (0, ·)
    ++ [(1, .go (inp (some ("a", 100))))] ++ (gos 8).map (1, ·)

end Ls.Loop.BoundWitness
