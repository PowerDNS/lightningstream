import LsLemmas.TxnMirrorStep
import LsModel.SyncLoop
/-
  Step-level facts about the sync-loop model (`LsModel/SyncLoop.lean`): what one `go` segment does
  from each yield point, in a form the invariant proofs can use without unfolding the model again.
-/
namespace Ls.Loop
open Ls Ls.Txn Ls.SyncLoop

theorem commit_lastTxn (e : Env) (w : W) :
    (commit e w).lastTxn = e.lastTxn ∨ (commit e w).lastTxn = e.lastTxn + 1 := by
  unfold commit; cases w.dirty <;> simp

/-- a successful `loadOnce`: the id LMDB shows afterwards is the old one (empty transaction) or
    the next one, and `localChanged` is `lastSynced < lastTxn` -/
theorem loadOnce_facts {c : Cfg} {e : Env} {snap : Snap} {ls now cutoff : Nat} {r : LoadRes}
    (h : loadOnce c e snap ls now cutoff = .ok r) :
    (r.env.lastTxn = e.lastTxn ∨ r.env.lastTxn = e.lastTxn + 1) ∧
    r.localChanged = decide (ls < e.lastTxn) := by
  cases hn : c.native with
  | true =>
    obtain ⟨w, _, he, hl, _⟩ := loadOnce_native_ok hn h
    rw [he]; exact ⟨commit_lastTxn e w, hl⟩
  | false =>
    obtain ⟨_, _, w, _, _, _, he, hl, _⟩ := loadOnce_shadow_ok hn h
    rw [he]; exact ⟨commit_lastTxn e w, hl⟩

/-- a successful `sendOnce`: native — the environment is untouched; shadow — old id or next id -/
theorem sendOnce_facts {c : Cfg} {e : Env} {now cutoff : Nat} {r : SendRes}
    (h : sendOnce c e now cutoff = .ok r) :
    (c.native = true → r.env = e) ∧
    (r.env.lastTxn = e.lastTxn ∨ r.env.lastTxn = e.lastTxn + 1) := by
  obtain ⟨h1, h2⟩ := sendOnce_env h
  refine ⟨h1, ?_⟩
  cases hn : c.native with
  | true => left; rw [h1 hn]
  | false =>
    obtain ⟨w, _, he⟩ := h2 hn
    rw [he]; exact commit_lastTxn e w

theorem loadOnce_localChanged {c : Cfg} {e : Env} {snap : Snap} {ls now cutoff : Nat} {r : LoadRes}
    (h : loadOnce c e snap ls now cutoff = .ok r) : r.localChanged = decide (ls < e.lastTxn) :=
  (loadOnce_facts h).2

theorem sendOnce_native {c : Cfg} {e : Env} {now cutoff : Nat} {r : SendRes}
    (h : sendOnce c e now cutoff = .ok r) (hn : c.native = true) : r.env = e :=
  (sendOnce_facts h).1 hn

/-- an application transaction changes nothing but the environment; LMDB gives it the next id if
    it records it -/
theorem appCommit_facts (s : St) (ops : List AppOp) :
    (appCommit s ops).pc = s.pc ∧ (appCommit s ops).lastSynced = s.lastSynced ∧
    (appCommit s ops).waiting = s.waiting ∧ (appCommit s ops).seen = s.seen ∧
    (appCommit s ops).hasDataAtStart = s.hasDataAtStart ∧
    ((appCommit s ops).env.lastTxn = s.env.lastTxn ∨
      (appCommit s ops).env.lastTxn = s.env.lastTxn + 1) := by
  unfold appCommit
  cases h : appTxn s.env ops with
  | none => simp
  | some e =>
    refine ⟨rfl, rfl, rfl, rfl, rfl, ?_⟩
    unfold appTxn at h
    simp only [Option.map_eq_some_iff] at h
    obtain ⟨w, _, hw⟩ := h
    subst hw
    exact commit_lastTxn s.env w

/-- the bookkeeping `goRaw` does at `loadAfterTxn` before it polls again -/
def loadDone (s : St) (txnID : Nat) (lc : Bool) (inst : InstId) (ts : Nat) : St :=
  let t := if s.env.lastTxn < txnID then s.env.lastTxn else txnID
  let s := { s with lastBy := setAssoc s.lastBy inst ts }
  if lc then s else { s with lastSynced := t }

/-- the four outcomes of `poll` -/
inductive PollOut (c : LoopCfg) (b : Bucket) (s : St) (i : In) (n : Nat) : St → Prop where
  | none : i.next = none → PollOut c b s i n (afterLoads s)
  | unknown (inst ts) : i.next = some (inst, ts) → findBlob b inst ts = none →
      PollOut c b s i n { s with pc := .exited (.err "unknown-snapshot") }
  | failed (inst ts blob e) : i.next = some (inst, ts) → findBlob b inst ts = some blob →
      loadOnce c.txn s.env blob.snap s.lastSynced i.now 0 = .error e →
      PollOut c b s i n { s with waiting := s.waiting.filter (· != inst), pc := .exited (.err e.cls) }
  | loaded (inst ts blob r) : i.next = some (inst, ts) → findBlob b inst ts = some blob →
      loadOnce c.txn s.env blob.snap s.lastSynced i.now 0 = .ok r →
      PollOut c b s i n
        { s with waiting := s.waiting.filter (· != inst), env := r.env,
                 pc := .loadAfterTxn (s.env.lastTxn + 1) r.localChanged inst ts (n + 1) }

theorem poll_out (c : LoopCfg) (b : Bucket) (s : St) (i : In) (n : Nat) :
    PollOut c b s i n (poll c b s i n) := by
  unfold poll
  cases hn : i.next with
  | none => exact .none hn
  | some p =>
    obtain ⟨inst, ts⟩ := p
    simp only
    cases hb : findBlob b inst ts with
    | none => exact .unknown inst ts hn hb
    | some blob =>
      simp only
      cases hl : loadOnce c.txn s.env blob.snap s.lastSynced i.now 0 with
      | error e => exact .failed inst ts blob e hn hb hl
      | ok r => exact .loaded inst ts blob r hn hb hl

theorem poll_ne_top (c : LoopCfg) (b : Bucket) (s : St) (i : In) (n : Nat) : (poll c b s i n).pc ≠ .top := by
  have h := poll_out c b s i n
  generalize poll c b s i n = s' at h
  cases h <;> simp [afterLoads]

theorem beginSend_ne_top (c : LoopCfg) (s : St) (who : Caller) (now : Nat) :
    (beginSend c s who now).pc ≠ .top := by
  unfold beginSend
  split <;> simp

/-- the yield point at which an iteration ends: in only-once mode with nothing waited for the loop
    ends, otherwise it sleeps -/
def tailPc (c : LoopCfg) (w : List InstId) : Pc :=
  if c.onlyOnce = true ∧ w = [] then .exited .ok else .sleep

theorem afterSend_eq (c : LoopCfg) (s : St) : afterSend c s = { s with pc := tailPc c s.waiting } := by
  unfold afterSend tailPc
  have : s.waiting.isEmpty = true ↔ s.waiting = [] := List.isEmpty_iff
  by_cases h : c.onlyOnce = true ∧ s.waiting = []
  · rw [if_pos (by rw [this]; exact h), if_pos h]
  · rw [if_neg (by rw [this]; exact h), if_neg h]

theorem tailPc_cases (c : LoopCfg) (w : List InstId) :
    tailPc c w = .sleep ∨ (tailPc c w = .exited .ok ∧ c.onlyOnce = true ∧ w = []) := by
  unfold tailPc
  split
  · rename_i h; exact Or.inr ⟨rfl, h⟩
  · exact Or.inl rfl

theorem tailPc_ne_top (c : LoopCfg) (w : List InstId) : tailPc c w ≠ .top := by
  rcases tailPc_cases c w with h | ⟨h, _⟩ <;> rw [h] <;> nofun

theorem sendReturned_eq (c : LoopCfg) (s : St) (who : Caller) (t : Nat) :
    sendReturned c s who t =
      match who with
      | .initial => { s with lastSynced := t, pc := .top }
      | .loop => { s with lastSynced := t, pc := tailPc c s.waiting } := by
  cases who
  · rfl
  · exact afterSend_eq c _

/-- **run-once exit condition, exactly**: `afterSend` exits iff only-once and nothing is waited for -/
theorem afterSend_pc (c : LoopCfg) (s : St) :
    (afterSend c s).pc = if c.onlyOnce = true ∧ s.waiting = [] then .exited .ok else .sleep := by
  rw [afterSend_eq]; rfl

/-- what `go` adds to `goRaw`: the first listing of the receiver's own goroutine -/
def relist (s : St) (b : Bucket) : St :=
  if s.pc = .top ∧ ¬ s.bgListed then { s with seen := instancesOf b, bgListed := true } else s

theorem go_eq (c : LoopCfg) (b : Bucket) (s : St) (i : In) :
    go c b s i = (relist (goRaw c b s i).1 (goRaw c b s i).2, (goRaw c b s i).2) := by
  unfold go relist
  cases goRaw c b s i
  simp only
  split <;> rfl

theorem goRaw_top {c : LoopCfg} {b : Bucket} {s : St} {i : In} (h : s.pc = .top) :
    goRaw c b s i = (poll c b s i 0, b) := by
  unfold goRaw
  rw [h]

theorem goRaw_loadAfterTxn {c : LoopCfg} {b : Bucket} {s : St} {i : In} {t : Nat} {lc : Bool}
    {inst : InstId} {ts n : Nat} (h : s.pc = .loadAfterTxn t lc inst ts n) :
    goRaw c b s i =
      if lc = true ∧ n > maxConsecutive then (afterLoads (loadDone s t lc inst ts), b)
      else (poll c b (loadDone s t lc inst ts) i n, b) := by
  unfold goRaw loadDone
  rw [h]

theorem goRaw_beforeInfo {c : LoopCfg} {b : Bucket} {s : St} {i : In} (h : s.pc = .beforeInfo) :
    goRaw c b s i =
      if s.env.lastTxn > s.lastSynced ∨ s.forceArmed = true then
        if s.waiting.contains c.own then (afterSend c s, b)
        else
          if s.hasDataAtStart ∨ s.env.lastTxn > 0 then
            ({ s with lastSynced := s.env.lastTxn, pc := .beforeSend }, b)
          else (afterSend c { s with lastSynced := s.env.lastTxn }, b)
      else (afterSend c s, b) := by
  unfold goRaw
  rw [h]

theorem goRaw_beforeSend {c : LoopCfg} {b : Bucket} {s : St} {i : In} (h : s.pc = .beforeSend) :
    goRaw c b s i = (beginSend c s .loop i.now, b) := by
  unfold goRaw
  rw [h]

theorem goRaw_sendAfterTxn {c : LoopCfg} {b : Bucket} {s : St} {i : In} {who : Caller} {t ts : Nat}
    {snap : Snap} (h : s.pc = .sendAfterTxn who t ts snap) :
    goRaw c b s i =
      if c.txn.receiveOnly then
        (sendReturned c s who (if s.env.lastTxn < t then s.env.lastTxn else t), b)
      else if i.fails ≥ c.retryCount then ({ s with pc := .exited (.err "store") }, b)
      else ({ s with pc := .sendStored who (if s.env.lastTxn < t then s.env.lastTxn else t) },
            b ++ [{ inst := c.own, ts := ts, snap := snap }]) := by
  unfold goRaw
  rw [h]

/-- the bookkeeping `goRaw` does at `sendStored`: the cleaner is told what the stored snapshot
    incorporates, and (the store succeeded) no snapshot is overdue any more -/
def stored (s : St) : St :=
  { s with committed := s.lastBy.foldl (fun acc p => setAssoc acc p.1 p.2) s.committed,
           forceArmed := false }

theorem stored_facts (s : St) :
    (stored s).env = s.env ∧ (stored s).pc = s.pc ∧ (stored s).lastSynced = s.lastSynced ∧
    (stored s).waiting = s.waiting ∧ (stored s).seen = s.seen ∧
    (stored s).hasDataAtStart = s.hasDataAtStart ∧ (stored s).lastBy = s.lastBy ∧
    (stored s).bgListed = s.bgListed ∧ (stored s).forceArmed = false ∧
    (stored s).committed = s.lastBy.foldl (fun acc p => setAssoc acc p.1 p.2) s.committed :=
  ⟨rfl, rfl, rfl, rfl, rfl, rfl, rfl, rfl, rfl, rfl⟩

theorem goRaw_sendStored {c : LoopCfg} {b : Bucket} {s : St} {i : In} {who : Caller} {t : Nat}
    (h : s.pc = .sendStored who t) :
    goRaw c b s i =
      (sendReturned c (stored s) who t, b) := by
  unfold goRaw stored
  rw [h]

theorem goRaw_sleep {c : LoopCfg} {b : Bucket} {s : St} {i : In} (h : s.pc = .sleep) :
    goRaw c b s i = ({ s with pc := .top }, b) := by
  unfold goRaw
  rw [h]

theorem goRaw_exited {c : LoopCfg} {b : Bucket} {s : St} {i : In} {e : Exit} (h : s.pc = .exited e) :
    goRaw c b s i = (s, b) := by
  unfold goRaw
  rw [h]

/-- the start-up capture: a non-empty LMDB in shadow mode is copied into the shadow DBIs, with
    detection time 1 (sync.go: `pastNano := header.Timestamp(1)`, 1 ns after the epoch, so that the
    copy never beats an entry that carries a real timestamp) -/
def startCapture (c : LoopCfg) (e : Env) : Except Txn.Err Env :=
  if e.lastTxn > 0 ∧ ¬ c.txn.native then
    (mainToShadow c.txn { dbis := e.dbis, dirty := false } (e.lastTxn + 1) 1 0).map (commit e)
  else .ok e

theorem startCapture_facts {c : LoopCfg} {e env : Env} (h : startCapture c e = .ok env) :
    (env.lastTxn = e.lastTxn ∨ env.lastTxn = e.lastTxn + 1) ∧
    (e.lastTxn = 0 → env = e) ∧ (c.txn.native = true → env = e) := by
  unfold startCapture at h
  split at h
  · rename_i hc
    cases hm : mainToShadow c.txn { dbis := e.dbis, dirty := false } (e.lastTxn + 1) 1 0 with
    | error e => rw [hm] at h; cases h
    | ok w =>
      rw [hm] at h
      injection h with h
      subst h
      exact ⟨commit_lastTxn _ _, fun h0 => by omega, fun hn => absurd hn hc.2⟩
  · injection h with h; subst h
    exact ⟨Or.inl rfl, fun _ => rfl, fun _ => rfl⟩

/-- the state after the start-up listing and capture (with result `env`) -/
def startSt (s : St) (b : Bucket) (env : Env) : St :=
  { s with hasDataAtStart := decide (s.env.lastTxn > 0), lastSynced := 0, seen := instancesOf b,
           waiting := instancesOf b, env := env }

theorem startCapture_native {c : LoopCfg} {e env : Env} (h : startCapture c e = .ok env)
    (hn : c.txn.native = true) : env = e :=
  (startCapture_facts h).2.2 hn

theorem goRaw_boot {c : LoopCfg} {b : Bucket} {s : St} {i : In} (h : s.pc = .boot) :
    goRaw c b s i =
      match startCapture c s.env with
      | .error e => ({ startSt s b s.env with pc := .exited (.err e.cls) }, b)
      | .ok env =>
        if s.env.lastTxn > 0 ∧ b = [] then (beginSend c (startSt s b env) .initial i.now, b)
        else ({ startSt s b env with pc := .top }, b) := by
  unfold goRaw
  rw [h]
  simp only [List.isEmpty_iff]
  rfl

/-- the loop is in its load part: the segment goes on with `poll` or `afterLoads` -/
def InLoads (s : St) : Prop := s.pc = .top ∨ ∃ t lc inst ts n, s.pc = .loadAfterTxn t lc inst ts n

/-- `lastSynced` when the segment from `s` enters the load part (`poll` or `afterLoads`): at the
    yield point after a `LoadOnce` transaction that saw no local change the loop first takes that
    transaction's id for it — or `lastTxn`, if that is smaller: the transaction was empty -/
def loadSynced (s : St) : Nat :=
  match s.pc with
  | .loadAfterTxn t false _ _ _ => if s.env.lastTxn < t then s.env.lastTxn else t
  | _ => s.lastSynced

/-- `lastBy` when the segment from `s` enters the load part -/
def loadLastBy (s : St) : List (InstId × Nat) :=
  match s.pc with
  | .loadAfterTxn _ _ inst ts _ => setAssoc s.lastBy inst ts
  | _ => s.lastBy

theorem loadDone_eq {s : St} {t : Nat} {lc : Bool} {inst : InstId} {ts n : Nat}
    (h : s.pc = .loadAfterTxn t lc inst ts n) :
    loadDone s t lc inst ts = { s with lastBy := loadLastBy s, lastSynced := loadSynced s } := by
  unfold loadDone loadLastBy loadSynced
  rw [h]
  cases lc <;> rfl

/-- the state (and load count) with which `goRaw` calls `poll` from `s`, if it does -/
def prePoll (s : St) : Option (St × Nat) :=
  match s.pc with
  | .top => some (s, 0)
  | .loadAfterTxn t lc inst ts n =>
    if lc = true ∧ n > maxConsecutive then none else some (loadDone s t lc inst ts, n)
  | _ => none

theorem prePoll_eq {s s1 : St} {n : Nat} (h : prePoll s = some (s1, n)) :
    InLoads s ∧ s1.env = s.env ∧ s1.lastSynced = loadSynced s := by
  unfold prePoll at h
  split at h
  · rename_i hpc
    cases h
    exact ⟨Or.inl hpc, rfl, by unfold loadSynced; rw [hpc]⟩
  · rename_i t lc inst ts n' hpc
    split at h
    · cases h
    · cases h
      rw [loadDone_eq hpc]
      exact ⟨Or.inr ⟨_, _, _, _, _, hpc⟩, rfl, rfl⟩
  · cases h

theorem goRaw_prePoll {c : LoopCfg} {b : Bucket} {s s1 : St} {i : In} {n : Nat}
    (h : prePoll s = some (s1, n)) : goRaw c b s i = (poll c b s1 i n, b) := by
  unfold prePoll at h
  split at h
  · rename_i hpc
    cases h
    exact goRaw_top hpc
  · rename_i t lc inst ts n' hpc
    split at h
    · cases h
    · rename_i hbr
      cases h
      rw [goRaw_loadAfterTxn hpc, if_neg hbr]
  · cases h

/-- what `LoadOnce` is called with: `poll` runs `loadOnce` on the pre-poll state's environment and
    `lastSynced` (read off the model's `poll`) -/
theorem poll_loads {c : LoopCfg} {b : Bucket} {s1 : St} {i : In} {n : Nat} {inst : InstId} {ts : Nat}
    {blob : Blob} {r : LoadRes} (hn : i.next = some (inst, ts)) (hb : findBlob b inst ts = some blob)
    (hl : loadOnce c.txn s1.env blob.snap s1.lastSynced i.now 0 = .ok r) :
    (poll c b s1 i n).env = r.env ∧
    (poll c b s1 i n).pc = .loadAfterTxn (s1.env.lastTxn + 1) r.localChanged inst ts (n + 1) := by
  unfold poll
  simp only [hn, hb, hl]
  trivial

theorem relist_of_ne_top {s : St} {b : Bucket} (h : s.pc ≠ .top) : relist s b = s := by
  unfold relist; rw [if_neg (fun hh => h hh.1)]

/-- the loop is at `top`, and the receiver's own goroutine has listed the bucket by now -/
def atTop (s : St) (b : Bucket) : St :=
  { s with pc := .top, seen := if s.bgListed then s.seen else instancesOf b, bgListed := true }

theorem relist_top {s : St} {b : Bucket} (h : s.pc = .top) : relist s b = atTop s b := by
  unfold relist atTop
  obtain ⟨env, ls, hd, w, seen, lb, cm, bg, fa, pc⟩ := s
  cases h
  cases bg <;> simp

theorem appCommit_force (s : St) (ops : List AppOp) : (appCommit s ops).forceArmed = s.forceArmed := by
  unfold appCommit
  cases appTxn s.env ops <;> rfl

end Ls.Loop
