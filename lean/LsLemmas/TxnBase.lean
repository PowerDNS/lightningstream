import LsModel.Txn
import LsLemmas.ExceptFold
/-
  The DBI list of a transaction state (LsModel/Txn.lean) as a lookup table: what `findDbi` returns
  after `setKvs`, `insertDbi`, `openCreate` and `runOn`; the reserved DBI names; the loop bodies of
  the two mirror passes and the creation flags of `loadDbi`.
-/
namespace Ls.Txn
open Ls Ls.Lmdb Ls.Strategy Ls.Merge

theorem syncPrefix_eq : syncPrefix = [95, 115, 121, 110, 99] := by decide +kernel
theorem shadowPrefix_eq : shadowPrefix = [95, 115, 121, 110, 99, 95, 115, 104, 97, 100, 111, 119, 95] := by
  decide +kernel

theorem dupsortTransform_ne_nil : strBytes Gen.transformDupSortHackV1 ≠ [] := by
  have : (strBytes Gen.transformDupSortHackV1).length = 15 := by decide +kernel
  intro h
  rw [h] at this
  cases this

/-- a shadow DBI name is a private name (it starts with `_sync`) -/
theorem isPrivate_shadowName (name : Bytes) : isPrivate (shadowName name) = true := by
  simp [isPrivate, shadowName, shadowPrefix_eq, syncPrefix_eq, List.isPrefixOf]

theorem shadowName_inj {a b : Bytes} (h : shadowName a = shadowName b) : a = b :=
  List.append_cancel_left h

theorem shadowName_ne (name : Bytes) : shadowName name ≠ name := by
  intro h
  have := List.append_left_eq_self.mp h
  rw [shadowPrefix_eq] at this
  cases this

theorem findDbi_cons (x : Dbi) (rest : List Dbi) (n : Bytes) :
    findDbi (x :: rest) n = if x.name = n then some x else findDbi rest n := by
  simp only [findDbi, List.find?_cons]
  by_cases h : x.name = n <;> simp [h]

theorem findDbi_name {dbis : List Dbi} {n : Bytes} {d : Dbi} (h : findDbi dbis n = some d) :
    d.name = n := by
  simpa using List.find?_some h

theorem findDbi_mem {dbis : List Dbi} {n : Bytes} {d : Dbi} (h : findDbi dbis n = some d) :
    d ∈ dbis := List.mem_of_find?_eq_some h

theorem findDbi_none {dbis : List Dbi} {n : Bytes} :
    findDbi dbis n = none ↔ ∀ d ∈ dbis, d.name ≠ n := by
  simp [findDbi]

theorem findDbi_of_mem_names {dbis : List Dbi} {name : Bytes} (h : name ∈ dbis.map (·.name)) :
    ∃ d, findDbi dbis name = some d :=
  Option.isSome_iff_exists.mp (List.find?_isSome.mpr (by simpa using h))

theorem findDbi_map {f : Dbi → Dbi} (hf : ∀ d, (f d).name = d.name) (dbis : List Dbi) (n : Bytes) :
    findDbi (dbis.map f) n = (findDbi dbis n).map f := by
  simp only [findDbi, List.find?_map]
  congr
  funext d
  simp [hf]

theorem setKvs_fun_name (n : Bytes) (kvs : KVs) (d : Dbi) :
    (if d.name = n then { d with kvs := kvs } else d).name = d.name := by
  split <;> rfl

/-- `setKvs` replaces the content of the named DBI and nothing else -/
theorem findDbi_setKvs (dbis : List Dbi) (n : Bytes) (kvs : KVs) (n' : Bytes) :
    findDbi (setKvs dbis n kvs) n' =
      (findDbi dbis n').map (fun d => if d.name = n then { d with kvs := kvs } else d) :=
  findDbi_map (setKvs_fun_name n kvs) dbis n'

theorem findDbi_setKvs_of_find {dbis : List Dbi} {name : Bytes} {d : Dbi}
    (hd : findDbi dbis name = some d) (kvs : KVs) (n : Bytes) :
    findDbi (setKvs dbis name kvs) n =
      if n = name then some { d with kvs := kvs } else findDbi dbis n := by
  rw [findDbi_setKvs]
  split
  · rename_i hn
    rw [hn, hd, Option.map_some, if_pos (findDbi_name hd)]
  · rename_i hn
    cases hf : findDbi dbis n with
    | none => rfl
    | some d0 => rw [Option.map_some, if_neg (findDbi_name hf ▸ hn)]

theorem names_setKvs (dbis : List Dbi) (n : Bytes) (kvs : KVs) :
    (setKvs dbis n kvs).map (·.name) = dbis.map (·.name) := by
  rw [setKvs, List.map_map]
  exact List.map_congr_left fun d _ => setKvs_fun_name n kvs d

theorem flags_setKvs (dbis : List Dbi) (name : Bytes) (kvs : KVs) (name' : Bytes) :
    (findDbi (setKvs dbis name kvs) name').map (·.flags) = (findDbi dbis name').map (·.flags) := by
  rw [findDbi_setKvs, Option.map_map]
  congr 1
  funext d
  simp only [Function.comp]
  split <;> rfl

theorem setKvs_setKvs (dbis : List Dbi) (name : Bytes) (a b : KVs) :
    setKvs (setKvs dbis name a) name b = setKvs dbis name b := by
  unfold setKvs
  rw [List.map_map]
  apply List.map_congr_left
  intro d _
  by_cases h : d.name = name <;> simp [h]

theorem insertDbi_perm (dbis : List Dbi) (d : Dbi) : (insertDbi dbis d).Perm (d :: dbis) := by
  induction dbis with
  | nil => exact .refl _
  | cons x rest ih =>
    simp only [insertDbi]
    split
    · exact .refl _
    · exact (ih.cons x).trans (.swap d x rest)

theorem findDbi_insertDbi (dbis : List Dbi) (d : Dbi) (n : Bytes) (hnew : findDbi dbis d.name = none) :
    findDbi (insertDbi dbis d) n = if n = d.name then some d else findDbi dbis n := by
  induction dbis with
  | nil => simp [insertDbi, findDbi_cons, eq_comm]
  | cons x rest ih =>
    rw [findDbi_cons] at hnew
    split at hnew
    · cases hnew
    · rename_i hx
      simp only [insertDbi]
      split
      · rw [findDbi_cons]; simp only [eq_comm]
      · rw [findDbi_cons, findDbi_cons, ih hnew]
        split
        · rename_i h; rw [if_neg (fun h' => hx (h.trans h'))]
        · rfl

theorem openCreate_of_some {w : W} {n : Bytes} {fl : Nat} {d : Dbi} (h : findDbi w.dbis n = some d) :
    openCreate w n fl = w := by
  unfold openCreate; rw [h]

theorem openCreate_of_none {w : W} {n : Bytes} {fl : Nat} (h : findDbi w.dbis n = none) :
    openCreate w n fl =
      { dbis := insertDbi w.dbis { name := n, flags := fl, kvs := [] }, dirty := true } := by
  unfold openCreate; rw [h]

/-- after `openCreate` the DBI exists: the old one untouched, or a new empty one with the
    requested flags; every other name is unaffected -/
theorem findDbi_openCreate (w : W) (n : Bytes) (fl : Nat) (n' : Bytes) :
    findDbi (openCreate w n fl).dbis n' =
      if n' = n then some ((findDbi w.dbis n).getD { name := n, flags := fl, kvs := [] })
      else findDbi w.dbis n' := by
  cases h : findDbi w.dbis n with
  | some d =>
    rw [openCreate_of_some h]
    split
    · rename_i hn; rw [hn, h]; rfl
    · rfl
  | none => rw [openCreate_of_none h, findDbi_insertDbi _ _ _ h]; rfl

theorem findDbi_openCreate_of_some {w : W} {n' : Bytes} {d : Dbi} (h : findDbi w.dbis n' = some d)
    (n : Bytes) (fl : Nat) : findDbi (openCreate w n fl).dbis n' = some d := by
  rw [findDbi_openCreate]
  split
  · rename_i hn; rw [← hn, h]; rfl
  · exact h

theorem runOn_ok {w w' : W} {n : Bytes} {f : S → Except Err S} (h : runOn w n f = .ok w') :
    ∃ d s, findDbi w.dbis n = some d ∧ f { db := d.kvs, dirty := w.dirty } = .ok s ∧
      w' = { dbis := setKvs w.dbis n s.db, dirty := s.dirty } := by
  unfold runOn at h
  cases hd : findDbi w.dbis n with
  | none => rw [hd] at h; cases h
  | some d =>
    rw [hd] at h
    obtain ⟨s, hs, h⟩ := except_bind_ok h
    exact ⟨d, s, rfl, hs, (Except.ok.inj h).symm⟩

theorem mapStratErr_eq_ok {ε α} {x : Except (SErr ε) α} {a : α} (h : mapStratErr x = .ok a) : x = .ok a := by
  cases x with
  | ok b => cases h; rfl
  | error e => cases e <;> cases h

/-- the id adjustment of `SendOnce` / `LoadOnce` yields LMDB's last transaction id -/
theorem commit_lastTxn_min (e : Env) (w : W) :
    (if (commit e w).lastTxn < e.lastTxn + 1 then (commit e w).lastTxn else e.lastTxn + 1)
      = (commit e w).lastTxn := by
  unfold commit
  cases w.dirty <;> simp

/-- The loop body of `mainToShadow`, copied from LsModel/Txn.lean so that lemmas can speak of one
    iteration; `mainToShadow_eq_fold` (by `rfl`) ties the copy to the model. -/
def m2sStep (c : Cfg) (txnID now cutoff : Nat) (w : W) (name : Bytes) : Except Err W := do
    if isPrivate name then pure w else
    let msg ← readDBI c w name name true
    let some d := findDbi w.dbis name | throw .dbiMissing
    let dup := isDupSort d.flags
    if dup ∧ ¬ c.hack then throw .dupsortNoHack
    let targetFlags := d.flags &&& Gen.allowedShadowDBIFlagsMask
    let entries ← if c.hack ∧ dup then
        (match DupSort.encodeAll msg.entries with
         | .ok r => pure r
         | .error _ => throw Err.dupHack)
      else pure msg.entries
    let w := openCreate w (shadowName name) targetFlags
    let some sd := findDbi w.dbis (shadowName name) | throw .dbiMissing
    let mc : Merge.Cfg := { fv := Gen.currentFormatVersion, defTs := now, txn := txnID, cutoff := cutoff, pad := false }
    runOn w (shadowName name) fun s => mapStratErr (iterUpdate (isIntKey sd.flags) (nativeIter mc) s entries)

/-- The loop body of `shadowToMain`, copied from LsModel/Txn.lean; tied to the model by
    `shadowToMain_eq_fold` (by `rfl`). -/
def s2mStep (c : Cfg) (w : W) (name : Bytes) : Except Err W := do
    if isPrivate name then pure w else
    let some d := findDbi w.dbis name | throw .dbiMissing
    let dup := isDupSort d.flags
    if dup ∧ ¬ c.hack then throw .dupsortNoHack
    let msg ← readDBI c w (shadowName name) name false
    let entries ← if dup then
        (match DupSort.decodeAll msg.entries with
         | .ok r => pure r
         | .error _ => throw Err.dupHack)
      else pure msg.entries
    runOn w name fun s =>
      if dup then mapStratErr (emptyPut (isIntKey d.flags) true plainIter s entries)
      else mapStratErr (iterUpdate (isIntKey d.flags) plainIter s entries)

theorem mainToShadow_eq_fold (c : Cfg) (w : W) (txnID now cutoff : Nat) :
    mainToShadow c w txnID now cutoff = (dbiNames w).foldlM (m2sStep c txnID now cutoff) w := rfl

theorem shadowToMain_eq_fold (c : Cfg) (w : W) :
    shadowToMain c w = (dbiNames w).foldlM (s2mStep c) w := rfl

/-- `dbi_options.override_create_flags` of the message's DBI -/
def ovrOf (c : Cfg) (m : DbiMsg) : Option Nat := (c.override.find? (·.1 = m.name)).map (·.2)

/-- the flags a DBI is created with from a snapshot message: the override if there is one,
    else the message's flags, truncated to `dbiflags.Flags` (16 bits) -/
def createFlags (c : Cfg) (m : DbiMsg) : Nat := ((ovrOf c m).getD m.flags) % 2 ^ 16

theorem loadDbi_private {c : Cfg} {snap : Snap} {txnID cutoff : Nat} {w : W} {m : DbiMsg}
    (hp : isPrivate m.name = true) : loadDbi c snap txnID cutoff w m = .ok w := by
  unfold loadDbi; simp [hp]; rfl

end Ls.Txn
