import LsLemmas.TxnMirror
import LsLemmas.TxnLoad
/-
  The per-DBI part of LoadOnce (`loadDbi`) and the fold over the snapshot's DBI messages.
-/
namespace Ls.Txn
open Ls Ls.Lmdb Ls.Strategy Ls.Merge

/-- the iterator configuration `loadDbi` uses -/
def loadCfg (c : Cfg) (snap : Snap) (txnID cutoff : Nat) : Merge.Cfg :=
  { fv := snap.fv, defTs := 0, txn := txnID, cutoff := cutoff, pad := c.pad }

/-- the per-key step of `strategy.Update` with the snapshot iterator -/
def keyStep (mc : Merge.Cfg) (cur : Option Bytes) (e : KV) : Except Header.Err (Option Bytes) := do
  let v ← merge mc e (cur.getD [])
  pure (setNew v)

/-- what a successful `Update` leaves under key `k`: the fold of the entries for `k` -/
theorem update_get_fold {ik : Bool} {mc : Merge.Cfg} {db : KVs} {d : Bool} {input : List KV} {s' : S}
    (hs : Sorted ik db) (h : update ik (nativeIter mc) ⟨db, d⟩ input = .ok s') (k : Bytes) :
    (input.filter (fun e => kcmp ik e.key k = 0)).foldlM (keyStep mc) (get ik db k) = .ok (get ik s'.db k) :=
  specUpdate_get (nativeIter mc) input k hs (update_ok_spec hs h).1

/-- an entry that `Merge.keep` keeps out leaves the stored bytes as they are -/
theorem keyStep_keep {mc : Merge.Cfg} {e : KV} {old : Bytes} {h : Header.Hdr} {a : Bytes}
    (hp : Header.parse old = .ok (h, a)) (hk : Merge.keep mc e h a) : keyStep mc (some old) e = .ok (some old) := by
  have hl := Header.parse_ok_length hp
  simp only [keyStep, Option.getD_some, (merge_present mc e old h a hl hp).1 hk, ok_bind, setNew, hl, if_false]
  rfl

/-- every snapshot entry for key `k` is kept out by what is stored for `k` (`X`): the key is stored
    with a parsable header and `Merge.keep` holds -/
def KeepAll (mc : Merge.Cfg) (ik : Bool) (k : Bytes) (X : Option Bytes) (entries : List KV) : Prop :=
  ∀ e ∈ entries, kcmp ik e.key k = 0 →
    ∃ old h a, X = some old ∧ Header.parse old = .ok (h, a) ∧ Merge.keep mc e h a

theorem update_keepAll_get {ik : Bool} {mc : Merge.Cfg} {db : KVs} {d : Bool} {input : List KV} {s' : S}
    (hs : Sorted ik db) (h : update ik (nativeIter mc) ⟨db, d⟩ input = .ok s')
    (k : Bytes) (hkeep : KeepAll mc ik k (get ik db k) input) : get ik s'.db k = get ik db k := by
  have hg := update_get_fold hs h k
  rw [foldlM_fix (f := keyStep mc) (fun e he => ?_)] at hg
  · exact (Except.ok.inj hg).symm
  · obtain ⟨he1, he2⟩ := List.mem_filter.mp he
    obtain ⟨old, hd, a, hX, hp, hkp⟩ := hkeep e he1 (of_decide_eq_true he2)
    rw [hX]
    exact keyStep_keep hp hkp

/-- an entry that does not beat the stored version is kept out (well-formed entries) -/
theorem keep_of_not_beats {c : Merge.Cfg} {e : KV} {h : Header.Hdr} {a : Bytes} (hw : EntryWF e)
    (hnb : ¬ (norm c e).beats { ts := h.ts, del := Header.isDeleted h.flags, val := a }) :
    keep c e h a := by
  by_cases hk : keep c e h a
  · exact hk
  · exact absurd (not_keep_beats hw hk) hnb

/-- the snapshot entry contains nothing newer than what the DBI stores for its key: the key is
    stored, with a parsable header, and `Merge` keeps the stored bytes (`Merge.keep`: the stored
    version is not beaten); or the key is absent and the entry is a deletion marker older than the
    cut-off, which `Merge` refuses (`Merge.stale`) -/
def EntryNotNewer (mc : Merge.Cfg) (ik : Bool) (db : KVs) (e : KV) : Prop :=
  e.key ≠ [] ∧
  match get ik db e.key with
  | some old => ∃ h appVal, Header.parse old = .ok (h, appVal) ∧ Merge.keep mc e h appVal
  | none => Merge.stale mc e

instance (mc : Merge.Cfg) (e : KV) : Decidable (Merge.stale mc e) := by
  unfold Merge.stale; exact inferInstance

theorem update_notNewer_noop (mc : Merge.Cfg) (ik : Bool) (db : KVs) (d : Bool) (entries : List KV)
    (hs : Sorted ik db) (h : ∀ e ∈ entries, EntryNotNewer mc ik db e) :
    update ik (nativeIter mc) ⟨db, d⟩ entries = .ok ⟨db, d⟩ := by
  rw [update_eq_spec (nativeIter mc) entries (s := ⟨db, d⟩) hs
    (fun e he h0 => (h e he).1 (List.length_eq_zero_iff.mp h0))]
  apply specUpdateS_noop (nativeIter mc) entries ⟨db, d⟩ hs
  intro e he
  obtain ⟨_, hm⟩ := h e he
  simp only [nativeIter]
  cases hg : get ik db e.key with
  | some old =>
    rw [hg] at hm
    obtain ⟨hd, appVal, hp, hk⟩ := hm
    have hl := Header.parse_ok_length hp
    refine ⟨some old, (merge_present mc e old hd appVal hl hp).1 hk, ?_⟩
    simp [setNew, hl]
  | none =>
    rw [hg] at hm
    refine ⟨none, ?_, rfl⟩
    have hm' : entryDeleted mc e = true ∧ e.ts < mc.cutoff := hm
    rw [Option.getD_none, merge_absent, if_pos hm']

theorem openCreate_match (w : W) (n : Bytes) (fl : Nat) :
    (match findDbi w.dbis n with
      | some _ => w
      | none => openCreate w n fl) = openCreate w n fl := by
  cases h : findDbi w.dbis n with
  | some d => simp only []; exact (openCreate_of_some h).symm
  | none => rfl

theorem createDbis_edits {c : Cfg} {snap : Snap} {w w1 : W} {m : DbiMsg} (h : createDbis c snap w m = .ok w1) :
    Edits (fun x => x = m.name ∨ x = shadowName m.name) w.dbis w1.dbis := by
  rw [createDbis_eq] at h
  split at h
  · cases h
    exact .opened w.dirty _ _ (Or.inl rfl) (.refl _)
  split at h
  · cases h
  · cases h
    exact .opened _ _ _ (Or.inr rfl) (.opened w.dirty _ _ (Or.inl rfl) (.refl _))

/-- `loadDbi` edits only the DBI of the message and its shadow -/
theorem loadDbi_edits {c : Cfg} {snap : Snap} {txnID cutoff : Nat} {w w' : W} {m : DbiMsg}
    (h : loadDbi c snap txnID cutoff w m = .ok w') :
    Edits (fun x => isPrivate m.name = false ∧ (x = m.name ∨ x = shadowName m.name)) w.dbis w'.dbis := by
  cases hp : isPrivate m.name with
  | true => rw [loadDbi_private hp] at h; cases h; exact .refl _
  | false =>
    obtain ⟨_, w1, h1, h2⟩ := loadDbi_ok hp h
    obtain ⟨_, td, s, _, _, rfl⟩ := mergeDbi_ok h2
    refine .set _ _ ⟨rfl, ?_⟩ ((createDbis_edits h1).mono (fun _ hx => ⟨rfl, hx⟩))
    unfold targetName
    split
    · exact Or.inl rfl
    · exact Or.inr rfl

theorem loadFold_edits {c : Cfg} {snap : Snap} {txnID cutoff : Nat} {msgs : List DbiMsg} {w w' : W}
    (h : msgs.foldlM (loadDbi c snap txnID cutoff) w = .ok w') : Edits (fun _ => True) w.dbis w'.dbis :=
  (foldlM_edits (f := loadDbi c snap txnID cutoff) (fun _ _ _ => loadDbi_edits) h).mono (fun _ _ => trivial)

/-- the DBI message contains nothing newer (and passes the gates of `loadDbi`, and no DBI has to
    be created for it) -/
def MsgNotNewer (c : Cfg) (snap : Snap) (txnID cutoff : Nat) (dbis : List Dbi) (m : DbiMsg) : Prop :=
  isPrivate m.name = false →
    validateTransform m snap.fv c.native = true ∧ versionOk snap.fv snap.cv = true ∧
    (c.native = false → ∃ d, findDbi dbis m.name = some d) ∧
    ∃ td, findDbi dbis (if c.native then m.name else shadowName m.name) = some td ∧
      Sorted (isIntKey td.flags) td.kvs ∧
      ∀ e ∈ m.entries, EntryNotNewer (loadCfg c snap txnID cutoff) (isIntKey td.flags) td.kvs e

theorem loadDbi_noop (c : Cfg) (snap : Snap) (txnID cutoff : Nat) (w : W) (m : DbiMsg)
    (hdist : DistinctNames w.dbis) (h : MsgNotNewer c snap txnID cutoff w.dbis m) :
    loadDbi c snap txnID cutoff w m = .ok w := by
  cases hp : isPrivate m.name with
  | true => exact loadDbi_private hp
  | false =>
    obtain ⟨hv, hver, happ, td, htd, hsorted, hent⟩ := h hp
    have hd : ∃ d, findDbi w.dbis m.name = some d := by
      cases hn : c.native with
      | true => rw [hn, if_pos rfl] at htd; exact ⟨td, htd⟩
      | false => exact happ hn
    obtain ⟨d, hd⟩ := hd
    have h1 : createDbis c snap w m = .ok w := by
      rw [createDbis_eq]
      cases hn : c.native with
      | true => rw [if_pos rfl, openCreate_of_some hd]
      | false =>
        rw [hn, if_neg (by simp)] at htd
        rw [if_neg (by simp), if_neg (by simp [hd]), openCreate_of_some hd, openCreate_of_some htd]
    rw [loadDbi_eq, if_neg (by simp [hp]), if_neg (by simp [hv]), h1]
    unfold mergeDbi
    simp only [targetName, htd, hver, Bool.true_eq_false, if_false]
    exact runOn_noop htd hdist (mapStratErr_of_ok (update_notNewer_noop _ _ _ _ _ hsorted hent))

theorem loadFold_noop {c : Cfg} {snap : Snap} {txnID cutoff : Nat} {w : W} {msgs : List DbiMsg}
    (hdist : DistinctNames w.dbis) (h : ∀ m ∈ msgs, MsgNotNewer c snap txnID cutoff w.dbis m) :
    msgs.foldlM (loadDbi c snap txnID cutoff) w = .ok w :=
  foldlM_fix fun m hm => loadDbi_noop c snap txnID cutoff w m hdist (h m hm)

/-- a `loadDbi` step for a message that is not about the application DBI `n` leaves `n` and its
    shadow alone -/
theorem loadDbi_other {c : Cfg} {snap : Snap} {txnID cutoff : Nat} {w w' : W} {m : DbiMsg}
    (h : loadDbi c snap txnID cutoff w m = .ok w') {n : Bytes} (hpn : isPrivate n = false)
    (hm : ¬ (isPrivate m.name = false ∧ m.name = n)) :
    findDbi w'.dbis n = findDbi w.dbis n ∧ findDbi w'.dbis (shadowName n) = findDbi w.dbis (shadowName n) := by
  constructor <;> refine (loadDbi_edits h).find ?_ <;> rintro ⟨hpm, he | he⟩
  · exact hm ⟨hpm, he.symm⟩
  · rw [he, isPrivate_shadowName] at hpn; cases hpn
  · rw [← he, isPrivate_shadowName] at hpm; cases hpm
  · exact hm ⟨hpm, (shadowName_inj he).symm⟩

/-- the `loadDbi` step (non-native) of a message for an application DBI: the DBI is opened —
    created empty, with the message's (or the configured) flags, when missing — and not written;
    the entries are merged into its shadow, created empty with those of the flags allowed for
    shadow DBIs when missing -/
theorem loadDbi_self {c : Cfg} {snap : Snap} {txnID cutoff : Nat} {w w' : W} {m : DbiMsg}
    (hn : c.native = false) (hp : isPrivate m.name = false)
    (h : loadDbi c snap txnID cutoff w m = .ok w') :
    findDbi w'.dbis m.name =
      some ((findDbi w.dbis m.name).getD { name := m.name, flags := createFlags c m, kvs := [] }) ∧
    ∃ sd d0 s,
      sd = (findDbi w.dbis (shadowName m.name)).getD
        { name := shadowName m.name, flags := createFlags c m &&& Gen.allowedShadowDBIFlagsMask, kvs := [] } ∧
      update (isIntKey sd.flags) (nativeIter (loadCfg c snap txnID cutoff)) ⟨sd.kvs, d0⟩ m.entries = .ok s ∧
      findDbi w'.dbis (shadowName m.name) = some { sd with kvs := s.db } := by
  obtain ⟨_, w1, h1, h2⟩ := loadDbi_ok hp h
  obtain ⟨_, td, s, htd, hs, rfl⟩ := mergeDbi_ok h2
  have hl := createDbis_lookup h1
  have hne : m.name ≠ shadowName m.name := (shadowName_ne m.name).symm
  simp only [targetName, hn, Bool.false_eq_true, if_false] at htd hl ⊢
  rw [hl, if_pos rfl] at htd
  cases htd
  refine ⟨?_, _, _, s, rfl, mapStratErr_ok hs, ?_⟩
  · rw [findDbi_setKvs_if, if_neg hne, hl, if_neg hne, if_pos rfl]
    rfl
  · rw [findDbi_setKvs_if, if_pos rfl, hl, if_pos rfl]
    rfl

/-- the fold of `loadDbi` over the snapshot's messages (non-native), seen from one existing
    application DBI `n` with shadow `sd`: the application DBI is not written, the shadow keeps its
    flags, stays sorted with valid keys, and a key for which every entry of every message for `n`
    is kept out by the stored bytes keeps exactly those bytes -/
theorem loadFold_shadow_track {c : Cfg} {snap : Snap} {txnID cutoff : Nat} (hn : c.native = false)
    {n : Bytes} {d : Dbi} (hpn : isPrivate n = false) (msgs : List DbiMsg) :
    ∀ {w w' : W} {sd : Dbi}, msgs.foldlM (loadDbi c snap txnID cutoff) w = .ok w' →
    findDbi w.dbis n = some d → findDbi w.dbis (shadowName n) = some sd →
    Sorted (isIntKey sd.flags) sd.kvs → DKeysOK sd.kvs →
    findDbi w'.dbis n = some d ∧
    ∃ kvs', findDbi w'.dbis (shadowName n) = some { sd with kvs := kvs' } ∧
      Sorted (isIntKey sd.flags) kvs' ∧ DKeysOK kvs' ∧
      ∀ k, (∀ m ∈ msgs, isPrivate m.name = false → m.name = n →
          KeepAll (loadCfg c snap txnID cutoff) (isIntKey sd.flags) k (get (isIntKey sd.flags) sd.kvs k) m.entries) →
        get (isIntKey sd.flags) kvs' k = get (isIntKey sd.flags) sd.kvs k := by
  induction msgs with
  | nil =>
    intro w w' sd h hd hsd hS hK
    cases h
    exact ⟨hd, sd.kvs, hsd, hS, hK, fun _ _ => rfl⟩
  | cons m rest ih =>
    intro w w' sd h hd hsd hS hK
    obtain ⟨w1, h1, h⟩ := foldlM_cons_ok h
    by_cases hm : isPrivate m.name = false ∧ m.name = n
    · obtain ⟨hpm, rfl⟩ := hm
      obtain ⟨hd1, _, d0, s, rfl, hs, hsd1⟩ := loadDbi_self hn hpm h1
      simp only [hd, hsd, Option.getD_some] at hd1 hs hsd1
      obtain ⟨_, hS1, hK1⟩ := update_ok_spec hS hs
      obtain ⟨hdf, kvs', hf, hS', hK', hget⟩ := ih h hd1 hsd1 hS1 (hK1 hK)
      refine ⟨hdf, kvs', hf, hS', hK', fun k hk => ?_⟩
      have h0 : get (isIntKey sd.flags) s.db k = get (isIntKey sd.flags) sd.kvs k :=
        update_keepAll_get hS hs k (hk m (List.mem_cons_self ..) hpm rfl)
      rw [← h0]
      exact hget k (fun m' hm' hp' hn' => by
        rw [show get (isIntKey sd.flags) s.db k = _ from h0]
        exact hk m' (List.mem_cons_of_mem _ hm') hp' hn')
    · obtain ⟨hd1, hsd1⟩ := loadDbi_other h1 hpn hm
      obtain ⟨hdf, kvs', hf, hS', hK', hget⟩ := ih h (hd1.trans hd) (hsd1.trans hsd) hS hK
      exact ⟨hdf, kvs', hf, hS', hK', fun k hk =>
        hget k (fun m' hm' => hk m' (List.mem_cons_of_mem _ hm'))⟩

/-- the fold of `loadDbi` (non-native) seen from a DBI `n` that does not exist yet and for which the
    snapshot has a message: the first such message creates the application DBI (empty) and its
    shadow, which then holds the merged entries, sorted with valid keys -/
theorem loadFold_shadow_create {c : Cfg} {snap : Snap} {txnID cutoff : Nat} (hn : c.native = false)
    {n : Bytes} (hpn : isPrivate n = false) (msgs : List DbiMsg) :
    ∀ {w w' : W}, msgs.foldlM (loadDbi c snap txnID cutoff) w = .ok w' →
    findDbi w.dbis n = none → findDbi w.dbis (shadowName n) = none →
    (∃ m ∈ msgs, isPrivate m.name = false ∧ m.name = n) →
    ∃ m0 ∈ msgs, m0.name = n ∧
      findDbi w'.dbis n = some { name := n, flags := createFlags c m0, kvs := [] } ∧
      ∃ kvs', findDbi w'.dbis (shadowName n) =
          some { name := shadowName n, flags := createFlags c m0 &&& Gen.allowedShadowDBIFlagsMask,
                 kvs := kvs' } ∧
        Sorted (isIntKey (createFlags c m0)) kvs' ∧ DKeysOK kvs' := by
  induction msgs with
  | nil => intro w w' _ _ _ hex; obtain ⟨m, hm, _⟩ := hex; cases hm
  | cons m rest ih =>
    intro w w' h ha hs hex
    obtain ⟨w1, h1, h⟩ := foldlM_cons_ok h
    by_cases hm : isPrivate m.name = false ∧ m.name = n
    · obtain ⟨hpm, rfl⟩ := hm
      obtain ⟨ha1, _, d0, s, rfl, hupd, hs1⟩ := loadDbi_self hn hpm h1
      simp only [ha, hs, Option.getD_none] at ha1 hupd hs1
      obtain ⟨_, hS1, hK1⟩ := update_ok_spec (sorted_nil _) hupd
      obtain ⟨hd2, kvs', hsd2, hS2, hK2, _⟩ :=
        loadFold_shadow_track hn hpn rest h ha1 hs1 hS1 (hK1 (fun p hp => by cases hp))
      refine ⟨m, List.mem_cons_self .., rfl, hd2, kvs', hsd2, ?_, hK2⟩
      rw [isIntKey_mask] at hS2
      exact hS2
    · obtain ⟨ha1, hs1⟩ := loadDbi_other h1 hpn hm
      obtain ⟨m0, hm0, hex'⟩ := ih h (ha1.trans ha) (hs1.trans hs) (by
        obtain ⟨m', hm'mem, hm'p⟩ := hex
        rcases List.mem_cons.mp hm'mem with rfl | e
        · exact absurd hm'p hm
        · exact ⟨m', e, hm'p⟩)
      exact ⟨m0, List.mem_cons_of_mem _ hm0, hex'⟩

end Ls.Txn
