/-
  General facts about the `Except` monad: what a successful bind went through, and left folds
  (`List.foldlM`) read step by step (invariants, the failing step, folds whose steps do nothing).
-/
namespace Ls

theorem ok_bind {ε α β} (a : α) (f : α → Except ε β) : (Except.ok a >>= f) = f a := rfl

theorem except_bind_ok {ε α β} {x : Except ε α} {f : α → Except ε β} {b : β}
    (h : (x >>= f) = .ok b) : ∃ a, x = .ok a ∧ f a = .ok b := by
  cases x with
  | error e => cases h
  | ok a => exact ⟨a, rfl, h⟩

theorem bind_congr {ε α β} {x : Except ε α} {f g : α → Except ε β} (h : ∀ a, f a = g a) :
    (x >>= f) = (x >>= g) := by
  rw [funext h]

section fold
universe u v w
variable {ε : Type u} {α : Type w} {β : Type v} {f : β → α → Except ε β} {l : List α}

theorem foldlM_cons_ok {a : α} {b b' : β} (h : (a :: l).foldlM f b = .ok b') :
    ∃ b1, f b a = .ok b1 ∧ l.foldlM f b1 = .ok b' := by
  rw [List.foldlM_cons] at h
  exact except_bind_ok h

theorem foldlM_inv (P : β → Prop) (step : ∀ a ∈ l, ∀ b b', P b → f b a = .ok b' → P b') :
    ∀ {b b'}, P b → l.foldlM f b = .ok b' → P b' := by
  induction l with
  | nil => intro b b' hb h; cases h; exact hb
  | cons a as ih =>
    intro b b' hb h
    obtain ⟨b1, h1, h2⟩ := foldlM_cons_ok h
    exact ih (fun a ha => step a (List.mem_cons_of_mem _ ha)) (step a (List.mem_cons_self ..) b b1 hb h1) h2

theorem foldlM_same_or (Q : β → Prop) (step : ∀ a ∈ l, ∀ b b', f b a = .ok b' → b' = b ∨ Q b') {b b' : β}
    (h : l.foldlM f b = .ok b') : b' = b ∨ Q b' :=
  foldlM_inv (fun c => c = b ∨ Q c)
    (fun a ha _ c' hc h1 => (step a ha _ c' h1).elim (fun e => e ▸ hc) Or.inr) (Or.inl rfl) h

theorem foldlM_ok_mem : ∀ {b b'}, l.foldlM f b = .ok b' → ∀ a ∈ l, ∃ b1 b2, f b1 a = .ok b2 := by
  induction l with
  | nil => intro _ _ _ a ha; cases ha
  | cons x xs ih =>
    intro b b' h a ha
    obtain ⟨b1, h1, h2⟩ := foldlM_cons_ok h
    rcases List.mem_cons.mp ha with rfl | ha
    · exact ⟨b, b1, h1⟩
    · exact ih h2 a ha

theorem foldlM_error_mem {e : ε} : ∀ {b}, l.foldlM f b = .error e → ∃ a ∈ l, ∃ b1, f b1 a = .error e := by
  induction l with
  | nil => intro _ h; cases h
  | cons x xs ih =>
    intro b h
    rw [List.foldlM_cons] at h
    cases h1 : f b x with
    | error e1 => rw [h1] at h; cases h; exact ⟨x, List.mem_cons_self .., b, h1⟩
    | ok b1 =>
      rw [h1] at h
      obtain ⟨a, ha, hf⟩ := ih h
      exact ⟨a, List.mem_cons_of_mem _ ha, hf⟩

theorem foldlM_fix {b : β} (h : ∀ a ∈ l, f b a = .ok b) : l.foldlM f b = .ok b := by
  induction l with
  | nil => rfl
  | cons a as ih =>
    rw [List.foldlM_cons, h a (List.mem_cons_self ..)]
    exact ih (fun a ha => h a (List.mem_cons_of_mem _ ha))

theorem foldlM_pure (g : β → α → β) (h : ∀ a ∈ l, ∀ b, f b a = .ok (g b a)) (b : β) :
    l.foldlM f b = .ok (l.foldl g b) := by
  induction l generalizing b with
  | nil => rfl
  | cons a as ih =>
    rw [List.foldlM_cons, h a (List.mem_cons_self ..), List.foldl_cons]
    exact ih (fun a ha => h a (List.mem_cons_of_mem _ ha)) _

end fold

end Ls
