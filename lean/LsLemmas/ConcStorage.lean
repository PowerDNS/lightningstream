import LsLemmas.ConcUtil
/-
  Invariants of the global-storage model (LsModel/Conc.lean): any number of `SetGlobal` and
  `GetGlobal` calls, both readings of the RWMutex (`wpref`), both versions of the check (`fixed`).
-/
namespace Ls.Conc.Storage

/-- what a `GetGlobal` call knows at each program counter -/
def gOk (s : St) : GPc → Prop
  | .lock2 | .read2 => s.ready = true
  | .unlock2 v | .test2 v => v = true ∧ s.ready = true
  | .done v => s.fixed = true → v = true
  | .panic => s.fixed = false
  | _ => True

/-- what a `SetGlobal` call knows at each program counter -/
def sOk (s : St) : SPc → Prop
  | .close => s.stored = false ∧ s.ready = false
  | .store => s.ready = true
  | .unlock | .done => s.stored = true
  | _ => True

/-- `wr`, `wrIdx`, `rd`, `excl`: the RWMutex (one writer, at a program counter inside the critical
    section; readers counted; never both). `ready1`: `ready` is closed only once the storage is set,
    or by the writer that is about to set it (it is at `store`). `stRd`: a set storage has `ready`
    closed. `nclose`: `close(ready)` ran exactly as often as `ready` is closed. -/
structure Inv (s : St) : Prop where
  wr : ∀ (i : Nat) (pc : SPc), s.setters[i]? = some pc → (sHolds pc = true ↔ s.writer = some i)
  wrIdx : ∀ i : Nat, s.writer = some i → i < s.setters.length
  rd : s.readers = s.getters.countP gHolds
  excl : s.writer ≠ none → s.readers = 0
  ready1 : s.ready = true → s.stored = true ∨ ∃ w : Nat, s.writer = some w ∧ s.setters[w]? = some SPc.store
  stRd : s.stored = true → s.ready = true
  nclose : s.nClose = s.ready.toNat
  spc : ∀ (i : Nat) (pc : SPc), s.setters[i]? = some pc → sOk s pc
  gpc : ∀ (i : Nat) (pc : GPc), s.getters[i]? = some pc → gOk s pc

theorem inv_init (fixed wpref : Bool) (nSet nGet : Nat) : Inv (init fixed wpref nSet nGet) := by
  refine ⟨?_, by simp [init], ?_, by simp [init], by simp [init], by simp [init], by simp [init], ?_, ?_⟩
  · intro i pc hi
    simp [init, List.getElem?_replicate] at hi; obtain ⟨_, rfl⟩ := hi
    simp [init, sHolds]
  · simp only [init]
    rw [List.countP_replicate]; simp [gHolds]
  · intro i pc hi
    simp [init, List.getElem?_replicate] at hi; obtain ⟨_, rfl⟩ := hi
    simp [sOk]
  · intro i pc hi
    simp [init, List.getElem?_replicate] at hi; obtain ⟨_, rfl⟩ := hi
    simp [gOk]

/-- what a getter knows depends only on `fixed` and `ready`, and survives `ready` being closed -/
theorem gOk_mono {s s' : St} {pc : GPc} (h : gOk s pc) (h1 : s.ready = true → s'.ready = true)
    (h2 : s'.fixed = s.fixed) : gOk s' pc := by
  cases pc <;> simp_all [gOk]

theorem sOk_congr {s s' : St} (h1 : s'.ready = s.ready) (h2 : s'.stored = s.stored) {pc : SPc}
    (h : sOk s pc) : sOk s' pc := by
  cases pc <;> simp only [sOk, h1, h2] at h ⊢ <;> exact h

/-- with the handle read after the wait the call returns it, or, before 9c71a0d, panics -/
theorem afterWait_ok (s : St) :
    gOk s (afterWait s.fixed true) ∧ gHolds (afterWait s.fixed true) = false := by
  cases hf : s.fixed <;> simp [afterWait, gOk, gHolds, hf]

/-- a getter step: only the reader count and the getter's program counter change -/
theorem inv_get {s : St} (h : Inv s) {i : Nat} {pc pc' : GPc} {r' : Nat} (hi : s.getters[i]? = some pc)
    (hr : r' + (if gHolds pc then 1 else 0) = s.readers + (if gHolds pc' then 1 else 0))
    (hw : gHolds pc' = true → gHolds pc = false → s.writer = none)
    (hok : gOk s pc') :
    Inv { s with readers := r', getters := s.getters.set i pc' } := by
  refine ⟨h.wr, h.wrIdx, ?_, ?_, h.ready1, h.stRd, h.nclose, ?_, ?_⟩
  · show r' = (s.getters.set i pc').countP gHolds
    have := countP_set gHolds (y := pc') hi
    have := h.rd
    omega
  · intro hne
    show r' = 0
    have h0 := h.excl hne
    have h1 := h.rd
    cases h2 : gHolds pc' <;> cases h3 : gHolds pc <;> simp [h2, h3] at hr
    · omega
    · omega
    · exact absurd (hw h2 h3) hne
    · omega
  · intro j q hj; exact sOk_congr rfl rfl (h.spc j q hj)
  · intro j q hj
    rcases getElem?_set_some hj with ⟨rfl, rfl⟩ | ⟨_, hj'⟩
    · exact gOk_mono hok id rfl
    · exact gOk_mono (h.gpc j q hj') id rfl

theorem inv_get_keep {s : St} (h : Inv s) {i : Nat} {pc pc' : GPc} (hi : s.getters[i]? = some pc)
    (hh : gHolds pc' = gHolds pc) (hok : gOk s pc') : Inv { s with getters := s.getters.set i pc' } :=
  inv_get (r' := s.readers) h hi (by rw [hh]) (fun h1 h2 => by rw [hh, h2] at h1; cases h1) hok

theorem readers_pos {s : St} (h : Inv s) {i : Nat} {pc : GPc} (hi : s.getters[i]? = some pc)
    (hh : gHolds pc = true) : 0 < s.readers := by
  rw [h.rd, List.countP_pos_iff]
  exact ⟨pc, List.mem_of_getElem? hi, hh⟩

/-- while a reader holds the lock: no writer, and `ready` implies the storage is set -/
theorem stored_of_reader {s : St} (h : Inv s) {i : Nat} {pc : GPc} (hi : s.getters[i]? = some pc)
    (hh : gHolds pc = true) (hr : s.ready = true) : s.stored = true := by
  have hp := readers_pos h hi hh
  have hw : s.writer = none := by
    cases hw : s.writer with
    | none => rfl
    | some w => have := h.excl (by simp [hw]); omega
  rcases h.ready1 hr with h1 | ⟨w, h1, _⟩
  · exact h1
  · rw [hw] at h1; cases h1

/-- a setter step that leaves the data alone; it may take the write lock or give it back -/
theorem inv_set_pc {s : St} (h : Inv s) {i : Nat} {pc pc' : SPc} {w' : Option Nat}
    (hi : s.setters[i]? = some pc) (hm : MutexMove i (sHolds pc) (sHolds pc') s.writer w')
    (hx : w' ≠ none → s.readers = 0) (hs : pc ≠ .store) (hok : sOk s pc') :
    Inv { s with writer := w', setters := s.setters.set i pc' } := by
  have hwi := h.wr i pc hi
  refine ⟨?_, ?_, h.rd, hx, ?_, h.stRd, h.nclose, ?_, ?_⟩
  · intro j q hj
    rcases getElem?_set_some hj with ⟨rfl, rfl⟩ | ⟨hne, hj'⟩
    · exact hm.self hwi
    · exact (h.wr j q hj').trans (hm.other hwi hne).symm
  · intro j hj
    rw [List.length_set]
    by_cases hji : j = i
    · rw [hji]; exact (List.getElem_of_getElem? hi).1
    · exact h.wrIdx j ((hm.other hwi hji).mp hj)
  · intro hr
    rcases h.ready1 hr with h1 | ⟨w, h1, h2⟩
    · exact Or.inl h1
    · have hne : w ≠ i := by intro e; subst e; rw [hi] at h2; cases h2; exact hs rfl
      refine Or.inr ⟨w, (hm.other hwi hne).mpr h1, ?_⟩
      rw [List.getElem?_set_ne (Ne.symm hne)]; exact h2
  · intro j q hj
    rcases getElem?_set_some hj with ⟨rfl, rfl⟩ | ⟨_, hj'⟩
    · exact sOk_congr rfl rfl hok
    · exact sOk_congr rfl rfl (h.spc j q hj')
  · intro j q hj; exact gOk_mono (h.gpc j q hj) id rfl

/-- two setters cannot both be inside the critical section -/
theorem holder_unique {s : St} (h : Inv s) {i j : Nat} {p q : SPc} (hi : s.setters[i]? = some p)
    (hj : s.setters[j]? = some q) (hp : sHolds p = true) (hq : sHolds q = true) : i = j := by
  have h1 := (h.wr i p hi).mp hp
  have h2 := (h.wr j q hj).mp hq
  rw [h1] at h2; cases h2; rfl

/-- a step of the setter inside the critical section that keeps the lock: `close(ready)`,
    `storage = st` -/
theorem inv_set_crit {s : St} (h : Inv s) {i : Nat} {pc pc' : SPc} {st' rd' : Bool} {n' : Nat}
    (hi : s.setters[i]? = some pc) (hp : sHolds pc = true) (hp' : sHolds pc' = true)
    (m1 : s.stored = true → st' = true) (m2 : s.ready = true → rd' = true)
    (c1 : rd' = true → st' = true ∨ pc' = .store) (c2 : st' = true → rd' = true)
    (c3 : n' = rd'.toNat)
    (hok : sOk { s with stored := st', ready := rd' } pc') :
    Inv { s with stored := st', ready := rd', nClose := n', setters := s.setters.set i pc' } := by
  have hil := (List.getElem_of_getElem? hi).1
  have hw := (h.wr i pc hi).mp hp
  refine ⟨?_, ?_, h.rd, h.excl, ?_, c2, c3, ?_, ?_⟩
  · intro j q hj
    rcases getElem?_set_some hj with ⟨rfl, rfl⟩ | ⟨_, hj'⟩
    · exact ⟨fun _ => hw, fun _ => hp'⟩
    · exact h.wr j q hj'
  · intro j hj; show j < (s.setters.set i pc').length; rw [List.length_set]; exact h.wrIdx j hj
  · intro hr
    rcases c1 hr with h1 | h1
    · exact Or.inl h1
    · exact Or.inr ⟨i, hw, by show (s.setters.set i pc')[i]? = _; simp [hil, h1]⟩
  · intro j q hj
    rcases getElem?_set_some hj with ⟨rfl, rfl⟩ | ⟨hne, hj'⟩
    · exact sOk_congr rfl rfl hok
    · have hq : sHolds q = false := by
        cases hq : sHolds q
        · rfl
        · exact absurd (holder_unique h hj' hi hq hp) hne
      have := h.spc j q hj'
      cases q <;> simp [sHolds] at hq <;> simp only [sOk] at this ⊢
      exact m1 this
  · intro j q hj; exact gOk_mono (h.gpc j q hj) m2 rfl

theorem inv_step {s : St} (h : Inv s) (x : Step) (he : enabled s x) : Inv (next s x) := by
  unfold enabled at he
  cases x with
  | get i a =>
    cases hi : s.getters[i]? with
    | none => simp [guard, hi] at he
    | some pc =>
      simp only [guard, hi] at he
      simp only [next, hi]
      cases a with
      | rlock1 =>
        simp [gGuard, canRead] at he
        obtain ⟨rfl, hw, _⟩ := he
        exact inv_get h hi (by simp [gHolds]) (fun _ _ => hw) (by simp [gOk])
      | read1 =>
        simp [gGuard] at he; subst he
        exact inv_get_keep h hi rfl (by simp [gOk])
      | runlock1 =>
        cases pc <;> simp [gGuard] at he
        have := readers_pos h hi rfl
        exact inv_get h hi (by simp [gHolds]; omega) (by simp [gHolds]) (by simp [gOk])
      | test1 =>
        cases pc <;> simp [gGuard] at he
        rename_i v
        cases v <;> exact inv_get_keep h hi rfl (by simp [gOk])
      | wake =>
        simp [gGuard] at he
        obtain ⟨rfl, hr⟩ := he
        exact inv_get_keep h hi rfl (by simp [gOk, hr])
      | rlock2 =>
        simp [gGuard, canRead] at he
        obtain ⟨rfl, hw, _⟩ := he
        exact inv_get h hi (by simp [gHolds]) (fun _ _ => hw)
          (by have := h.gpc i _ hi; simpa [gOk] using this)
      | read2 =>
        simp [gGuard] at he; subst he
        have hr : s.ready = true := h.gpc i _ hi
        exact inv_get_keep h hi rfl ⟨stored_of_reader h hi rfl hr, hr⟩
      | runlock2 =>
        cases pc <;> simp [gGuard] at he
        have := readers_pos h hi rfl
        exact inv_get h hi (by simp [gHolds]; omega) (by simp [gHolds])
          (by have := h.gpc i _ hi; simpa [gOk] using this)
      | test2 =>
        cases pc <;> simp [gGuard] at he
        rename_i v
        obtain rfl : v = true := (h.gpc i _ hi).1
        obtain ⟨hok, hh⟩ := afterWait_ok s
        exact inv_get_keep h hi hh hok
  | set i a =>
    cases hi : s.setters[i]? with
    | none => simp [guard, hi] at he
    | some pc =>
      simp only [guard, hi] at he
      simp only [next, hi]
      cases a with
      | call =>
        simp [sGuard] at he; subst he
        exact inv_set_pc h hi (.keep rfl) h.excl (by simp) (by simp [sOk])
      | lock =>
        simp [sGuard] at he
        obtain ⟨rfl, hw, hr0⟩ := he
        exact inv_set_pc h hi (Or.inl ⟨rfl, hw, rfl, rfl⟩) (fun _ => hr0) (by simp) (by simp [sOk])
      | check =>
        simp [sGuard] at he; subst he
        simp only [sNext]
        rcases Bool.eq_false_or_eq_true s.stored with hst | hst
        · rw [if_pos hst]
          exact inv_set_pc (pc' := .store) h hi (.keep rfl) h.excl (by simp) (h.stRd hst)
        · rw [if_neg (by simp [hst])]
          refine inv_set_pc (pc' := .close) h hi (.keep rfl) h.excl (by simp) ⟨hst, ?_⟩
          -- `ready` is closed only once the storage is set or by the writer, who is here
          cases hr : s.ready
          · rfl
          · rcases h.ready1 hr with h1 | ⟨w, h1, h2⟩
            · rw [hst] at h1; cases h1
            · rw [(h.wr i _ hi).mp rfl] at h1; cases h1
              rw [hi] at h2; cases h2
      | closeReady =>
        simp [sGuard] at he; subst he
        have := h.spc i _ hi
        simp only [sOk] at this
        have hn := h.nclose
        exact inv_set_crit (st' := s.stored) h hi rfl rfl (fun e => e) (fun _ => rfl) (fun _ => Or.inr rfl)
          (fun _ => rfl) (by rw [hn, this.2]; rfl) (by simp [sOk])
      | store =>
        simp [sGuard] at he; subst he
        have hr : s.ready = true := h.spc i _ hi
        have hn := h.nclose
        exact inv_set_crit (rd' := s.ready) (n' := s.nClose) h hi rfl rfl (fun _ => rfl) (fun e => e)
          (fun _ => Or.inl rfl) (fun _ => hr) hn (by simp [sOk])
      | unlock =>
        simp [sGuard] at he; subst he
        exact inv_set_pc h hi (Or.inr (Or.inl ⟨rfl, rfl, rfl⟩)) (fun hne => absurd rfl hne) (by simp)
          (show s.stored = true from h.spc i _ hi)

theorem inv_reach {fixed wpref : Bool} {nSet nGet : Nat} {s : St} (h : Reach fixed wpref nSet nGet s) :
    Inv s := by
  induction h with
  | init => exact inv_init fixed wpref nSet nGet
  | step x _ he ih => exact inv_step ih x he

theorem writer_progress {s : St} (h : Inv s) {w : Nat} (hw : s.writer = some w) :
    ∃ a, guard s (.set w a) = true := by
  have hil := h.wrIdx w hw
  have hi : s.setters[w]? = some s.setters[w] := List.getElem?_eq_getElem hil
  have hh := (h.wr w _ hi).mpr hw
  cases hpc : s.setters[w] <;> rw [hpc] at hi hh <;> simp [sHolds] at hh
  · exact ⟨.check, by simp [guard, hi, sGuard]⟩
  · exact ⟨.closeReady, by simp [guard, hi, sGuard]⟩
  · exact ⟨.store, by simp [guard, hi, sGuard]⟩
  · exact ⟨.unlock, by simp [guard, hi, sGuard]⟩

theorem reader_progress {s : St} (h : Inv s) (hr : 0 < s.readers) : ∃ i a, guard s (.get i a) = true := by
  rw [h.rd, List.countP_pos_iff] at hr
  obtain ⟨pc, hmem, hh⟩ := hr
  obtain ⟨i, hi⟩ := List.mem_iff_getElem?.mp hmem
  cases pc <;> simp [gHolds] at hh
  · exact ⟨i, .read1, by simp [guard, hi, gGuard]⟩
  · exact ⟨i, .runlock1, by simp [guard, hi, gGuard]⟩
  · exact ⟨i, .read2, by simp [guard, hi, gGuard]⟩
  · exact ⟨i, .runlock2, by simp [guard, hi, gGuard]⟩

/-- with the current check and at least one `SetGlobal` call there is always an enabled step while
    somebody is unfinished -/
theorem progress {s : St} (h : Inv s) (hfix : s.fixed = true) (hne : s.setters ≠ [])
    (hnd : ¬ allDone s) : ∃ x, guard s x = true := by
  cases hw : s.writer with
  | some w => obtain ⟨a, ha⟩ := writer_progress h hw; exact ⟨_, ha⟩
  | none =>
    cases hr : s.readers with
    | succ n => obtain ⟨i, a, ha⟩ := reader_progress h (by omega); exact ⟨_, ha⟩
    | zero =>
      by_cases hall : ∀ pc ∈ s.setters, pc = .done
      · -- every SetGlobal has returned: the storage is set and `ready` is closed
        obtain ⟨p0, hp0⟩ := List.exists_mem_of_ne_nil _ hne
        obtain ⟨i0, hi0⟩ := List.mem_iff_getElem?.mp hp0
        have hst : s.stored = true := by
          have := h.spc i0 p0 hi0; rw [hall p0 hp0] at this; exact this
        have hrd := h.stRd hst
        have hcr : canRead s = true := by
          simp only [canRead, hw, decide_true, Bool.true_and, Bool.or_eq_true, Bool.not_eq_true',
            List.all_eq_true, decide_eq_true_eq]
          exact Or.inr fun pc hpc => by rw [hall pc hpc]; simp
        have : ¬ ∀ pc ∈ s.getters, gFinished pc = true := fun hg => hnd ⟨hall, hg⟩
        obtain ⟨i, pc, hi, hnf⟩ := exists_getElem?_of_not_forall_mem this
        have hok := h.gpc i pc hi
        cases pc with
        | start => exact ⟨.get i .rlock1, by simp [guard, hi, gGuard, hcr]⟩
        | read1 => exact ⟨.get i .read1, by simp [guard, hi, gGuard]⟩
        | unlock1 v => exact ⟨.get i .runlock1, by simp [guard, hi, gGuard]⟩
        | test1 v => exact ⟨.get i .test1, by simp [guard, hi, gGuard]⟩
        | wait => exact ⟨.get i .wake, by simp [guard, hi, gGuard, hrd]⟩
        | lock2 => exact ⟨.get i .rlock2, by simp [guard, hi, gGuard, hcr]⟩
        | read2 => exact ⟨.get i .read2, by simp [guard, hi, gGuard]⟩
        | unlock2 v => exact ⟨.get i .runlock2, by simp [guard, hi, gGuard]⟩
        | test2 v => exact ⟨.get i .test2, by simp [guard, hi, gGuard]⟩
        | done v => simp [gFinished] at hnf
        | panic => simp only [gOk] at hok; rw [hfix] at hok; cases hok
      · obtain ⟨i, pc, hi, hnd'⟩ := exists_getElem?_of_not_forall_mem hall
        have hnh : sHolds pc = false := by
          cases hh : sHolds pc
          · rfl
          · have := (h.wr i pc hi).mp hh; rw [hw] at this; cases this
        cases pc <;> simp [sHolds] at hnh
        · exact ⟨.set i .call, by simp [guard, hi, sGuard]⟩
        · exact ⟨.set i .lock, by simp [guard, hi, sGuard, hw, hr]⟩
        · exact absurd rfl hnd'

theorem no_panic {s : St} (h : Inv s) (hfix : s.fixed = true) : ∀ pc ∈ s.getters, pc ≠ .panic := by
  intro pc hmem e
  obtain ⟨i, hi⟩ := List.mem_iff_getElem?.mp hmem
  have := h.gpc i pc hi
  rw [e] at this; simp only [gOk] at this; rw [hfix] at this; cases this

theorem done_handle {s : St} (h : Inv s) (hfix : s.fixed = true) {v : Bool}
    (hmem : GPc.done v ∈ s.getters) : v = true := by
  obtain ⟨i, hi⟩ := List.mem_iff_getElem?.mp hmem
  exact h.gpc i _ hi hfix

theorem close_once {s : St} (h : Inv s) : s.nClose ≤ 1 := by
  rw [h.nclose]; cases s.ready <;> simp

/-- no step changes `fixed` or the number of calls -/
theorem next_params (s : St) (x : Step) : (next s x).fixed = s.fixed ∧
    (next s x).setters.length = s.setters.length ∧ (next s x).getters.length = s.getters.length := by
  cases x with
  | set i a =>
    simp only [next]
    split
    · cases a <;> exact ⟨rfl, List.length_set, rfl⟩
    · exact ⟨rfl, rfl, rfl⟩
  | get i a =>
    simp only [next]
    split
    · cases a with
      | rlock1 | read1 | wake | rlock2 | read2 => exact ⟨rfl, rfl, List.length_set⟩
      | runlock1 | test1 | runlock2 | test2 =>
        simp only [gNext]
        split
        · exact ⟨rfl, rfl, List.length_set⟩
        · exact ⟨rfl, rfl, rfl⟩
    · exact ⟨rfl, rfl, rfl⟩

theorem params_reach {fixed wpref : Bool} {nSet nGet : Nat} {s : St} (h : Reach fixed wpref nSet nGet s) :
    s.fixed = fixed ∧ s.setters.length = nSet ∧ s.getters.length = nGet := by
  induction h with
  | init => simp [init]
  | step x _ _ ih =>
    obtain ⟨h1, h2, h3⟩ := next_params _ x
    exact ⟨h1.trans ih.1, h2.trans ih.2.1, h3.trans ih.2.2⟩

theorem reach_run {fixed wpref : Bool} {nSet nGet : Nat} {s s' : St} (h : Reach fixed wpref nSet nGet s) (l : List Step)
    (hr : run s l = some s') : Reach fixed wpref nSet nGet s' :=
  run_preserves (fun _ => rfl) (fun _ _ _ => rfl) (fun _ a h hg => Reach.step a h hg) l h hr

end Ls.Conc.Storage
